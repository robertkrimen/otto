/-
  C02/Theorems — which panic payloads `catchPanic` turns into a returned error (a finite case analysis of
  the model), the recursion guard as C18's `depth_exact`, and the audited lists of places in package otto
  where a Go run-time panic or an unconverted `panic(x)` could arise (`GenFacts`, equal to the lists written
  out here).
-/
import OttoVerif.C02.Model
import OttoVerif.C02.GenFacts
import OttoVerif.C18.Theorems
namespace OttoVerif.C02.Thm
open OttoVerif.C02

/-- C02.api_total: every payload kind the interpreter raises for JavaScript-level errors (throw
    statements, TypeError/RangeError/ReferenceError/SyntaxError raised by built-ins and the evaluator)
    is converted into a returned error by every public entry point that runs under catchPanic. -/
theorem api_total (p : Payload) (h : jsRaised p = true) : catchPanic p = .returnsError := by
  cases p with
  | exceptionOf q =>
    cases q with
    | ottoError => rfl
    | jsValue b => rfl
    | _ => cases h
  | errorPtr => rfl
  | ottoError => rfl
  | jsValue b => rfl
  | goError => cases h
  | goString => cases h
  | other => cases h

/-- exact characterisation: a panic escapes the public API iff, after one unwrapping, it is a Go
    error (which includes every Go run-time error), a string, a foreign value, or still an `*exception`
    (an exception wrapping an exception, which no code path builds: `catchPanic` ejects once only) -/
theorem catchPanic_repanics_iff (p : Payload) :
    catchPanic p = .repanics ↔
      (eject p = .goError ∨ eject p = .goString ∨ eject p = .other ∨ ∃ q, eject p = .exceptionOf q) := by
  cases p with
  | exceptionOf q => cases q <;> simp [catchPanic, eject]
  | _ => simp [catchPanic, eject]

example : catchPanic (.exceptionOf .ottoError) = .returnsError := by decide
example : catchPanic .goError = .repanics := by decide       -- e.g. a nil dereference inside a built-in

/-- C02.depth_guard = C18.depth_exact: with a stack limit unbounded recursion ends in the
    (catchable, see api_total) RangeError and never exceeds the limit -/
theorem depth_guard (limit : Nat) (hl : limit ≠ 0) (d b : Nat) (t : OttoVerif.C18.Stack) :
    (OttoVerif.C18.runAct limit (OttoVerif.C18.nest d) (b :: t)).2 =
      (if b + d + 1 < limit then OttoVerif.C18.Outcome.done else OttoVerif.C18.Outcome.rangeError) :=
  OttoVerif.C18.Thm.depth_exact limit hl d b t

/-- premise of `depth_guard` about the code (regenerated fact, see C18.Thm.scope_writers_expected):
    the scope chain head is assigned only by enterScope / leaveScope, so no route into a scope
    (function, global, eval, native) bypasses the limit check or restarts the depth count -/
theorem depth_guard_premise : OttoVerif.C18.Gen.scopeWriters = ["runtime.go:enterScope", "runtime.go:leaveScope"] :=
  OttoVerif.C18.Thm.scope_writers_expected

/- The lists `Gen.*` below are rewritten on every run from the current sources of package otto
   (harness/cmd/c02 --facts, go/types); each theorem pins one of them by `rfl`, so a changed list
   fails here. -/

/-- P1: no built-in dereferences the receiver's object without converting or checking it
    (`call.This.object()` is nil for a primitive receiver).  The two remaining uses are the `caller`
    getters of function objects (since fix ad5fc82 they read the receiver of the call they serve):
    the pointer is only COMPARED with the functions of the active frames, never dereferenced
    (`Object.getOwnPropertyDescriptor(f, "caller").get.call(5)` is null). -/
theorem no_raw_receiver_object : Gen.rawReceiverObject =
    [("runtime.newNativeFunctionObject", "This.object()"), ("runtime.newNodeFunctionObject", "This.object()")] := rfl

/-- P2: the constant-index reads of the argument list are exactly the ones known to sit behind a
    length test (Math.max/min after `case 0/1`, Object.assign after the length check,
    lastIndexOf after `2 > len`) -/
theorem const_argument_reads_expected : Gen.constArgumentIndex =
    [("builtinMathMax", "ArgumentList[0]"), ("builtinMathMax", "ArgumentList[0]"),
     ("builtinMathMin", "ArgumentList[0]"), ("builtinMathMin", "ArgumentList[0]"),
     ("builtinObjectAssign", "ArgumentList[0]"),
     ("builtinStringLastIndexOf", "ArgumentList[1]"), ("builtinStringLastIndexOf", "ArgumentList[1]")] := rfl

/-- P4: the single-value type assertions `x.(T)` of package otto (each a possible "interface
    conversion" run-time panic) are exactly the audited ones: payload assertions behind a class
    dispatch (`obj.value.(*goSliceObject)` in the goSlice class functions, `obj.value.(argumentsObject)`
    in the arguments class functions, …), `v.value.(*object)` behind a kind test, the array `length`
    payload (kept uint32 by arrayDefineOwnProperty), compiler node kinds.  A NEW unchecked assertion —
    e.g. one applied to a call's receiver — shows up here before any input reaches it. -/
theorem unchecked_assertions_expected : Gen.uncheckedAssertions =
    [("Value.Class", "v.value.(*object)"),
     ("Value.IsFunction", "v.value.(*object)"),
     ("Value.bool", "v.value.(bool)"),
     ("Value.carried", "v.value.(result)"),
     ("Value.carrying", "v.value.(result)"),
     ("Value.evaluateBreak", "v.value.(result)"),
     ("Value.evaluateBreakContinue", "v.value.(result)"),
     ("Value.exportPath", "lengthValue.value.(uint32)"),
     ("Value.isArray", "v.value.(*object)"),
     ("Value.isBooleanObject", "v.value.(*object)"),
     ("Value.isDate", "v.value.(*object)"),
     ("Value.isError", "v.value.(*object)"),
     ("Value.isNumberObject", "v.value.(*object)"),
     ("Value.isRegExp", "v.value.(*object)"),
     ("Value.isStringObject", "v.value.(*object)"),
     ("argumentsDefineOwnProperty", "obj.value.(argumentsObject)"),
     ("argumentsDefineOwnProperty", "obj.value.(argumentsObject)"),
     ("argumentsDelete", "obj.value.(argumentsObject)"),
     ("argumentsDelete", "obj.value.(argumentsObject)"),
     ("argumentsGet", "obj.value.(argumentsObject)"),
     ("argumentsGetOwnProperty", "obj.value.(argumentsObject)"),
     ("arrayDefineOwnProperty", "lengthValue.value.(uint32)"),
     ("builtinJSONStringify", "spaceValue.value.(*object)"),
     ("builtinJSONStringify", "value.value.(*object)"),
     ("builtinJSONStringifyWalk", "value.object(…).value.(Value)"),
     ("builtinJSONStringifyWalk", "value.value.(*object)"),
     ("builtinNewFunctionNative", "cmplFunction.(*nodeFunctionLiteral)"),
     ("compiler.parse", "cmpl.parseExpression(…).(*nodeFunctionLiteral)"),
     ("compiler.parseExpression", "cmpl.parseExpression(…).(*nodeFunctionLiteral)"),
     ("fnStash.clone", "s.dclStash.clone(…).(*dclStash)"),
     ("goArrayDefineOwnProperty", "obj.value.(*goArrayObject)"),
     ("goArrayDefineOwnProperty", "obj.value.(*goArrayObject)"),
     ("goArrayDelete", "obj.value.(*goArrayObject)"),
     ("goArrayEnumerate", "obj.value.(*goArrayObject)"),
     ("goArrayGetOwnProperty", "obj.value.(*goArrayObject)"),
     ("goArrayGetOwnProperty", "obj.value.(*goArrayObject)"),
     ("goArrayGetOwnProperty", "obj.value.(*goArrayObject)"),
     ("goMapDefineOwnProperty", "obj.value.(*goMapObject)"),
     ("goMapDelete", "obj.value.(*goMapObject)"),
     ("goMapEnumerate", "obj.value.(*goMapObject)"),
     ("goMapGetOwnProperty", "obj.value.(*goMapObject)"),
     ("goMapGetOwnProperty", "obj.value.(*goMapObject)"),
     ("goSliceDefineOwnProperty", "obj.value.(*goSliceObject)"),
     ("goSliceDefineOwnProperty", "obj.value.(*goSliceObject)"),
     ("goSliceDelete", "obj.value.(*goSliceObject)"),
     ("goSliceEnumerate", "obj.value.(*goSliceObject)"),
     ("goSliceGetOwnProperty", "obj.value.(*goSliceObject)"),
     ("goSliceGetOwnProperty", "obj.value.(*goSliceObject)"),
     ("goSliceGetOwnProperty", "obj.value.(*goSliceObject)"),
     ("goStructCanPut", "obj.value.(*goStructObject)"),
     ("goStructEnumerate", "obj.value.(*goStructObject)"),
     ("goStructGetOwnProperty", "obj.value.(*goStructObject)"),
     ("goStructMarshalJSON", "obj.value.(*goStructObject)"),
     ("goStructPut", "obj.value.(*goStructObject)"),
     ("jsonValue.UnmarshalJSON", "name.(string)"),
     ("newContext", "rt.globalObject.property[…].value.(Value)"),
     ("newContext", "rt.globalObject.property[…].value.(…).value.(*object)"),
     ("newError", "in[…].(string)"),
     ("newError", "in[…].(string)"),
     ("objectDefineOwnProperty", "descriptor.value.(Value)"),
     ("objectLength", "obj.get(…).value.(int)"),
     ("objectLength", "obj.get(…).value.(int)"),
     ("objectLength", "obj.get(…).value.(uint32)"),
     ("runtime.cmplEvaluateNodeObjectLiteral", "prop.value.(*nodeFunctionLiteral)"),
     ("runtime.cmplEvaluateNodeObjectLiteral", "prop.value.(*nodeFunctionLiteral)"),
     ("runtime.cmplEvaluateNodeStatement", "variable.(*nodeVariableExpression)"),
     ("runtime.convertCallParameterPath", "r.Interface(…).(TextUnmarshaler)"),
     ("runtime.newErrorObject", "obj.value.(ottoError)"),
     ("runtime.newErrorObjectError", "obj.value.(ottoError)"),
     ("stringDefineOwnProperty", "prop.value.(Value)")] := rfl

/-- P3: the explicit `panic(x)` sites of package otto whose payload is none of the kinds Run converts
    (*exception, ottoError, *Error, Value), as (function, static payload type).  Every entry was gone
    through by hand (NOTES.md `## C02`, "audit of the unconverted panic sites"): for each one the argument
    why no source text and no API value reaches it is written down there, together with the probe scripts
    that aim at it (they run as `src` requests of the stream).  `Value.toReflectValue` and
    `stringToReflectValue` are not on the list: they raise a TypeError (2574b6b / 0a892bc), being reachable by
    any script that holds a bridged Go map / slice.  The entries:
    * unknown AST / node / token / property-kind branches of closed switches (compiler.parse*,
      runtime.cmplEvaluateNode*, runtime.calculate*): the parser produces no other node, the only AST
      placeholders it produces without a case (BadExpression / BadStatement) are a SyntaxError since 9f0855f;
      a hand-built *ast.Program with nil or foreign nodes is outside the property (sources are text);
    * value kinds empty / result / reference reaching a conversion or comparison (Value.bool / float64 /
      string, toPrimitive, sameValue, strictEqualityComparison, testObjectCoercible, calculateComparison):
      every expression result is resolved before use, `empty` is produced by statements and array elisions
      only and is filtered by eval, newArrayOf and every API return (`safe()`);
    * binding bookkeeping (dclStash.*, objectStash.createBinding, getStashProperties): guarded by hasBinding
      with no script code between test and use; a reference is resolved before any other code can delete
      the binding (assignment targets go through setValue, which re-creates);
    * arrayDefineOwnProperty: `length` of an Array is an own, non-configurable data property;
      cloner.property: writeProperty stores a Value or a getter/setter pair, nothing else;
    * New: a registered start-up script fails (embedder's registry, not a script's doing);
    * catchPanic (2): re-raises a foreign panic unchanged, by design (C18 trycatch_foreign; the second
      since 73a8a0f inside the guarded string conversion, widened by 95e8d32).
    * runtime.interrupt / runtime.tryCatchEvaluate (fd4edef, a1dbda4): both re-raise, unchanged, the value a
      host interrupt function panicked with – the one kind of panic the property lets through.
    A new `panic(<non-exception>)` anywhere in the package shows up here and has to be audited. -/
theorem unconverted_panics_expected : Gen.unconvertedPanics =
    [("New", "error"), ("Value.bool", "string"), ("Value.float64", "error"), ("Value.string", "error"),
     ("arrayDefineOwnProperty", "string"), ("catchPanic", "interface{}"),
     ("catchPanic", "interface{}"), ("cloner.property", "error"), ("compiler.parse", "string"), ("compiler.parseExpression", "error"),
     ("compiler.parseExpression", "string"), ("compiler.parseStatement", "string"), ("dclStash.createBinding", "error"),
     ("dclStash.getBinding", "error"), ("dclStash.setBinding", "error"), ("getStashProperties", "string"),
     ("objectStash.createBinding", "string"),
     ("runtime.calculateBinaryExpression", "string"), ("runtime.calculateComparison", "string"),
     ("runtime.calculateComparison", "string"), ("runtime.calculateComparison", "string"),
     ("runtime.cmplEvaluateNodeExpression", "string"), ("runtime.cmplEvaluateNodeExpression", "string"),
     ("runtime.cmplEvaluateNodeObjectLiteral", "string"), ("runtime.cmplEvaluateNodeStatement", "error"),
     ("runtime.cmplEvaluateNodeStatement", "error"), ("runtime.cmplEvaluateNodeUnaryExpression", "string"),
     ("runtime.interrupt", "interface{}"), ("runtime.tryCatchEvaluate", "interface{}"),
     ("sameValue", "string"), ("strictEqualityComparison", "string"),
     ("testObjectCoercible", "string"), ("toPrimitive", "string")] := rfl

end OttoVerif.C02.Thm
