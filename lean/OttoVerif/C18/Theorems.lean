/-
  C18/Theorems — the call-tree evaluator restores the scope chain on every exit (`runAct_stack`), so a run
  is known by its outcome: the stack limit admits exactly `limit - 1` nested calls after any history, and an
  interrupt function's panic passes every `try`.  Labels at rest is C01's theorem; `GenFacts` ties the
  model (`haltHere`, `pollReenter`, `Handle.copy`, the enter/leave discipline) to the sources.
-/
import OttoVerif.C18.Model
import OttoVerif.C18.GenFacts
import OttoVerif.C01.Theorems
import OttoVerif.C01.Concrete
namespace OttoVerif.C18.Thm
open OttoVerif.C18 OttoVerif.C01

/-- a stack as the runtime builds it: depths count down to 0 -/
def WFStack : Stack → Prop
  | [] => True
  | [d] => d = 0
  | d :: e :: s => d = e + 1 ∧ WFStack (e :: s)

theorem enter_overflow {limit b : Nat} (t : Stack) (h : limit ≠ 0 ∧ b + 1 ≥ limit) :
    enter limit (b :: t) = .rangeError := if_pos h

theorem enter_admitted {limit b : Nat} (t : Stack) (h : ¬(limit ≠ 0 ∧ b + 1 ≥ limit)) :
    enter limit (b :: t) = .ok ((b + 1) :: b :: t) := if_neg h

theorem enter_leave (limit : Nat) (s s' : Stack) (h : enter limit s = .ok s') : leave s' = s := by
  cases s with
  | nil => cases h; rfl
  | cons d t =>
    rw [enter] at h
    split at h
    · cases h
    · cases h; rfl

/- `runAct` / `runActs` unfolded once, with the result of the part that runs first as a term (the
   definitions match on it). -/

theorem runAct_call {limit : Nat} {s s' : Stack} (he : enter limit s = .ok s') (body : Acts) :
    runAct limit (.call body) s = (leave (runActs limit body s').1, (runActs limit body s').2) := by
  rw [runAct, he]

theorem runAct_overflow {limit : Nat} {s : Stack} (he : enter limit s = .rangeError) (body : Acts) :
    runAct limit (.call body) s = (s, .rangeError) := by
  rw [runAct, he]

theorem runAct_catching (limit : Nat) (body : Acts) (s : Stack) :
    runAct limit (.catching body) s =
      ((runActs limit body s).1, if (runActs limit body s).2 = .halted then .halted else .done) := by
  rw [runAct]
  generalize runActs limit body s = r
  obtain ⟨s', out⟩ := r
  cases out <;> rfl

theorem runActs_cons (limit : Nat) (a : Act) (rest : Acts) (s : Stack) :
    runActs limit (.cons a rest) s =
      if (runAct limit a s).2 = .done then runActs limit rest (runAct limit a s).1 else runAct limit a s := by
  rw [runActs]
  generalize runAct limit a s = r
  obtain ⟨s', out⟩ := r
  cases out <;> rfl

mutual
theorem runAct_stack (limit : Nat) : ∀ (a : Act) (s : Stack), (runAct limit a s).1 = s
  | .panicHere, _ => rfl
  | .haltHere, _ => rfl
  | .call body, s => by
    cases he : enter limit s with
    | rangeError => rw [runAct_overflow he]
    | ok s' => rw [runAct_call he, runActs_stack limit body s']; exact enter_leave limit s s' he
  | .catching body, s => by
    rw [runAct_catching]; exact runActs_stack limit body s
theorem runActs_stack (limit : Nat) : ∀ (as : Acts) (s : Stack), (runActs limit as s).1 = s
  | .nil, _ => rfl
  | .cons a rest, s => by
    rw [runActs_cons]
    split
    · rw [runAct_stack limit a s]; exact runActs_stack limit rest s
    · exact runAct_stack limit a s
end

/-- C18.run_restores (the scope part of "clean unwind"): whatever happens inside – normal completion, a panic of any
    kind at any point of any nesting, or the stack-limit RangeError – every call path leaves the
    scope chain exactly as it found it.  By mutual structural induction on the call tree. -/
theorem run_restores (limit : Nat) :
    (∀ (a : Act) (s : Stack), (runAct limit a s).1 = s) ∧ (∀ (as : Acts) (s : Stack), (runActs limit as s).1 = s) :=
  ⟨runAct_stack limit, runActs_stack limit⟩

/-- the scope chain being restored (`runAct_stack`), the rest of a list runs from the same chain -/
theorem outcome_cons (limit : Nat) (a : Act) (rest : Acts) (s : Stack) :
    (runActs limit (.cons a rest) s).2 =
      if (runAct limit a s).2 = .done then (runActs limit rest s).2 else (runAct limit a s).2 := by
  rw [runActs_cons, runAct_stack limit a s]
  split <;> rfl

/- `haltHere` / `Outcome.halted` stand for the panic of an interrupt function: `rt.interrupt` notes it in
   `rt.halting` / `rt.haltValue`, tryCatchEvaluate re-raises exactly that value (fixes fd4edef, a1dbda4;
   tied to the sources by `halt_not_recovered` below). -/

/-- C18.halt_not_caught: a try statement (or anything else that ends abnormal exits) around a body
    that is halted by an interrupt function's panic is halted itself – and only then -/
theorem halt_not_caught (limit : Nat) (body : Acts) (s : Stack) :
    (runAct limit (.catching body) s).2 = .halted ↔ (runActs limit body s).2 = .halted := by
  rw [runAct_catching]
  split <;> simp [*]

/-- … while every other abnormal exit of the body ends there -/
theorem other_exits_caught (limit : Nat) (body : Acts) (s : Stack)
    (h : (runActs limit body s).2 ≠ .halted) : (runAct limit (.catching body) s).2 = .done := by
  rw [runAct_catching]
  exact if_neg h

/-- however the body ends, so ends the call: the deferred leaveScope runs, nothing else -/
theorem exit_through_call (limit : Nat) (body : Acts) (s s' : Stack) (he : enter limit s = .ok s')
    (o : Outcome) (h : (runActs limit body s').2 = o) : runAct limit (.call body) s = (s, o) :=
  Prod.ext (runAct_stack limit _ s) ((congrArg Prod.snd (runAct_call he body)).trans h)

/-- every abnormal exit (panic, RangeError, halt) skips what would have come next -/
theorem exit_skips_rest (limit : Nat) (a : Act) (rest : Acts) (s : Stack) (o : Outcome)
    (h : (runAct limit a s).2 = o) (ho : o ≠ .done) : runActs limit (.cons a rest) s = (s, o) :=
  Prod.ext (runActs_stack limit _ s) (by rw [outcome_cons, h]; exact if_neg ho)

/-- a halt ends the enclosing call: the deferred leaveScope runs, nothing else -/
theorem halt_through_call (limit : Nat) (body : Acts) (s s' : Stack) (he : enter limit s = .ok s')
    (h : (runActs limit body s').2 = .halted) : runAct limit (.call body) s = (s, .halted) :=
  exit_through_call limit body s s' he _ h

/-- … and whatever would have come next does not run -/
theorem halt_skips_rest (limit : Nat) (a : Act) (rest : Acts) (s : Stack)
    (h : (runAct limit a s).2 = .halted) : runActs limit (.cons a rest) s = (s, .halted) :=
  exit_skips_rest limit a rest s _ h (by decide)

/-- C18.halt_escapes: under any number of try statements and calls, with no stack limit in the way, the
    halt comes out as a halt and the scope chain is as it was -/
theorem halt_escapes (n : Nat) : ∀ (s : Stack), runAct 0 (haltNest n) s = (s, .halted) := by
  induction n with
  | zero => intro s; rfl
  | succ n ih =>
    intro s
    obtain ⟨s', he⟩ : ∃ s', enter 0 s = .ok s' := by cases s <;> exact ⟨_, rfl⟩
    -- from the inside out: the halt passes the inner try, ends the call, passes the outer try
    have h1 := halt_skips_rest 0 (haltNest n) .nil s' (congrArg Prod.snd (ih s'))
    have h2 := (halt_not_caught 0 _ s').mpr (congrArg Prod.snd h1)
    have h3 := halt_skips_rest 0 _ .nil s' h2
    have h4 := halt_through_call 0 _ s s' he (congrArg Prod.snd h3)
    have h5 := halt_skips_rest 0 _ .nil s (congrArg Prod.snd h4)
    exact Prod.ext (runAct_stack 0 _ s) ((halt_not_caught 0 _ s).mpr (congrArg Prod.snd h5))

example : runAct 0 (haltNest 3) [0] = ([0], .halted) := by decide
-- the same position reached by an ordinary panic is caught by the innermost try
example : (runAct 0 (.catching (.cons (.call (.cons .panicHere .nil)) .nil)) [0]).2 = .done := by decide
example : (runAct 0 (.catching (.cons (.call (.cons .haltHere .nil)) .nil)) [0]).2 = .halted := by decide

/-- the guard: with a limit L > 0 no scope ever gets depth ≥ L -/
theorem enter_bound (limit : Nat) (hl : limit ≠ 0) (s s' : Stack) (hs : ∀ d ∈ s, d < limit)
    (h : enter limit s = .ok s') (h0 : 0 < limit) : ∀ d ∈ s', d < limit := by
  cases s with
  | nil => cases h; intro d hd; cases List.mem_singleton.mp hd; exact h0
  | cons e t =>
    rw [enter] at h
    split at h
    · cases h
    · next hc =>
      cases h
      intro d hd
      rcases List.mem_cons.mp hd with rfl | hd
      · exact Nat.lt_of_not_le fun hge => hc ⟨hl, hge⟩
      · exact hs d hd

/-- `d+1` nested calls from a scope of depth `b` end in the RangeError exactly when there is a limit and the
    innermost would get depth `b + d + 1 ≥ limit` -/
theorem nest_outcome (limit : Nat) : ∀ (d b : Nat) (t : Stack),
    (runAct limit (nest d) (b :: t)).2 = if limit ≠ 0 ∧ limit ≤ b + d + 1 then Outcome.rangeError else Outcome.done := by
  intro d
  induction d with
  | zero =>
    intro b t
    by_cases h : limit ≠ 0 ∧ b + 1 ≥ limit
    · rw [nest, runAct_overflow (enter_overflow t h), if_pos h]
    · rw [nest, runAct_call (enter_admitted t h), if_neg h]; rfl
  | succ d ih =>
    intro b t
    show _ = if limit ≠ 0 ∧ limit ≤ b + d + 1 + 1 then _ else _
    by_cases h : limit ≠ 0 ∧ b + 1 ≥ limit
    · rw [nest, runAct_overflow (enter_overflow t h), if_pos ⟨h.1, Nat.le_trans h.2 (by omega)⟩]
    · -- the call is admitted; how it ends is how the `d+1` calls inside it end
      rw [nest, runAct_call (enter_admitted t h), outcome_cons, ih (b + 1) (b :: t), Nat.add_right_comm b 1 d]
      by_cases hc : limit ≠ 0 ∧ limit ≤ b + d + 1 + 1
      · rw [if_pos hc, if_neg (by decide)]
      · rw [if_neg hc, if_pos rfl]; rfl

/-- C18.depth_exact: from a scope of depth `b`, `d+1` nested calls succeed exactly when `b + d + 1 < L`,
    and otherwise end in the RangeError (for `L ≠ 0`).  With `b = 0`, the global scope as `Run`
    establishes it: the limit admits exactly `L − 1` nested calls. -/
theorem depth_exact (limit : Nat) (hl : limit ≠ 0) : ∀ (d b : Nat) (t : Stack),
    (runAct limit (nest d) (b :: t)).2 = (if b + d + 1 < limit then Outcome.done else Outcome.rangeError) := by
  intro d b t
  rw [nest_outcome]
  by_cases h : b + d + 1 < limit
  · rw [if_pos h, if_neg fun h' => Nat.not_le_of_lt h h'.2]
  · rw [if_neg h, if_pos ⟨hl, Nat.le_of_not_lt h⟩]

/-- the limit after any history: whatever ran before on this runtime and however it ended – overflows
    caught by the script or swallowed by a host function included – the next call tree meets exactly
    the scope chain it would have met without that history, hence (depth_exact) the same admitted nesting -/
theorem limit_unchanged_by_history (limit : Nat) (before : Acts) (a : Act) (s : Stack) :
    runAct limit a (runActs limit before s).1 = runAct limit a s := by
  rw [runActs_stack limit before s]

theorem admitted_unchanged_by_history (limit : Nat) (before : Acts) (s : Stack) :
    admitted limit (runActs limit before s).1 = admitted limit s := by
  rw [runActs_stack limit before s]

example : admitted 5 (runActs 5 (caughtOverflows 5 3) [0]).1 = 4 := by decide +kernel
example : (runActs 5 (caughtOverflows 5 3) [0]).2 = .done := by decide

example : (runAct 3 (nest 1) [0]).2 = .done := by decide
example : (runAct 3 (nest 2) [0]).2 = .rangeError := by decide
example : (runAct 0 (nest 40) [0]).2 = .done := by decide +kernel

/-- C18.labels_rest_any_sem: instance of C01.labels_at_rest for every expression semantics – in
    particular for one in which an injected foreign panic makes the k-th expression evaluation throw:
    after the abnormal exit `rt.labels` is empty. -/
theorem labels_rest_any_sem {St : Type} (S : Sem St) (n m : Nat) (ss : Stmts) (σ : St) (hwl : wlList [] ss = true)
    (hs : specProgram S m ss σ ≠ .fuel) :
    match ottoProgram S n ss σ with
    | .ok _ L' _ => L' = []
    | .throw _ L' _ => L' = []
    | .fuel => True :=
  OttoVerif.C01.Thm.labels_at_rest S n m ss σ hwl hs

/- A non-panicking interrupt function that runs script on the interrupted runtime.
The statement poll (cmpl_evaluate_statement.go:16) sits between a label push and the loop the label
belongs to, while the label waits in `rt.labels`.  `pollReenter` is the poll as the code does it since
fix 1eacd10: the pending labels are set aside, the function's script runs from none, they are put
back.  `pollReenterOld` is the code before: the nested statements run on the pending labels. -/

def pollReenter {St : Type} (S : Sem St) (n : Nat) (ss : Stmts) (pending : List String) (σ : St) :
    Option (List String × St) :=
  match ottoProgram S n ss σ with
  | .ok _ _ σ' => some (pending, σ')
  | .throw _ _ σ' => some (pending, σ')      -- Run hands the exception to the function as an error
  | .fuel => none

def pollReenterOld {St : Type} (S : Sem St) (n : Nat) (ss : Stmts) (pending : List String) (σ : St) :
    Option (List String × St) :=
  match ottoList S n ss pending σ (.val .undef) with
  | .ok _ L' σ' => some (L', σ')
  | .throw _ L' σ' => some (L', σ')
  | .fuel => none

/-- whatever script the interrupt function runs, the labels pending for the interrupted statement
    are the ones it finds afterwards: `pollReenter` puts back what it set aside (that the code does so is
    `poll_keeps_labels`) -/
theorem reenter_keeps_labels {St : Type} (S : Sem St) (n : Nat) (ss : Stmts) (pending : List String) (σ : St)
    (r : List String × St) (h : pollReenter S n ss pending σ = some r) : r.1 = pending := by
  unfold pollReenter at h
  split at h
  · cases h; rfl
  · cases h; rfl
  · cases h

/-- and the nested script itself is not affected by them: it starts from no pending labels and
    (labels_rest_any_sem) leaves none behind, so what is put back is exactly what was set aside -/
theorem reenter_nested_rest {St : Type} (S : Sem St) (n m : Nat) (ss : Stmts) (σ : St)
    (hwl : wlList [] ss = true) (hs : specProgram S m ss σ ≠ .fuel) :
    match ottoProgram S n ss σ with
    | .ok _ L' _ => L' = []
    | .throw _ L' _ => L' = []
    | .fuel => True := labels_rest_any_sem S n m ss σ hwl hs

/-- the defect repaired by 1eacd10, on the model: a nested block statement takes the pending label -/
example : (pollReenterOld OttoVerif.C01.concreteSem 5 (.cons (.block .nil) .nil) ["L"] default).map (·.1)
    = some [] := by decide
example : (pollReenter OttoVerif.C01.concreteSem 5 (.cons (.block .nil) .nil) ["L"] default).map (·.1)
    = some ["L"] := by decide

/-- a handle whose back pointer is itself, standing first in the list, polls its own channel -/
theorem polled_self (h : Handle) (others : List Handle) (hb : h.back = h.id) :
    polled (h :: others) h = h.intr := by
  simp [polled, List.find?, hb]

/-- a copy polls its own channel — whatever the embedder installs on it afterwards — and never the
    template's: an interrupt sent to the template cannot be consumed by a copy, a copy can be halted -/
theorem copy_polls_own (t : Handle) (fresh : Nat) (c : Option Nat) (others : List Handle)
    (hfresh : ∀ x ∈ others, x.id ≠ fresh) :
    polled ({ t.copy fresh with intr := c } :: others) { t.copy fresh with intr := c } = c :=
  polled_self _ others rfl

theorem copy_has_no_channel (t : Handle) (fresh : Nat) : (t.copy fresh).intr = none := rfl
theorem copy_back_is_itself (t : Handle) (fresh : Nat) : (t.copy fresh).back = (t.copy fresh).id := rfl

example : polled [{ id := 2, intr := some 9, back := 2 }, { id := 1, intr := some 7, back := 1 }]
    { id := 2, intr := some 9, back := 2 } = some 9 := by decide
/-- the seeded variants: a copy whose back pointer names the template polls the template's channel -/
example : polled [{ id := 2, intr := some 9, back := 1 }, { id := 1, intr := some 7, back := 1 }]
    { id := 2, intr := some 9, back := 1 } = some 7 := by decide

/- Facts about the current sources (GenFacts.lean is rewritten from /repo by `ottoh-C18 --facts`, go/ast,
   on every run). -/

/-- every `enter…Scope` call site is immediately followed by a deferred `leaveScope` -/
theorem scope_sites_paired : Gen.scopeSites.all (fun s => s.2.2) = true := by decide

/-- the call sites are the ones the model assumes (a new unpaired path would show up here) -/
theorem scope_sites_expected :
    Gen.scopeSites.map (fun s => (s.1, s.2.1)) =
      [("builtin.go", "builtinGlobalEval"), ("cmpl_evaluate.go", "cmplEvaluateNodeProgram"), ("otto.go", "Eval"),
       ("otto.go", "ContextSkip"), ("otto.go", "Call"), ("type_function.go", "call"), ("type_function.go", "call")] := rfl

/-- the label pushed by a labelled statement is popped by a defer -/
theorem label_push_deferred_pop : Gen.labelPushDeferredPop = true := by decide

/-- the interrupt channel is polled first thing in the statement and expression evaluators and in
    the empty-body branch of the `for` loop -/
theorem poll_sites : Gen.pollAtTop = [("cmplEvaluateNodeExpression", true), ("cmplEvaluateNodeStatement", true)] ∧
    Gen.forEmptyBodyPoll = true := ⟨rfl, rfl⟩

/-- the statement poll sets the labels pending for the statement aside around the received function
    and puts them back (x := rt.labels; rt.labels = nil; value(); rt.labels = x): `pollReenter` is the
    code, not `pollReenterOld` -/
theorem poll_keeps_labels : Gen.stmtPollKeepsLabels = true := by decide

/-- the model's `haltHere` / `catching` is the code: each of the four polls (statement, expression, empty `for`
    body, `pollInterrupt` of the built-ins' loops) hands the received function to
    `rt.interrupt`; `interrupt` is `defer func(){ if c := recover(); c != nil { rt.halting, rt.haltValue = true, c;
    panic(c) } }(); function()` (so rt.halting/haltValue say that, and with what, the function panicked); and the
    deferred function of tryCatchEvaluate is `if c := recover(); c != nil { if rt.halting { if samePanic(c,
    rt.haltValue) { panic(c) } … } … }`: that very value is passed on before anything else is done with it -/
theorem halt_not_recovered : Gen.interruptPolls = 4 ∧ Gen.pollsRunInterrupt = true ∧
    Gen.interruptNotesPanic = true ∧ Gen.tryLetsHaltPass = true := by decide

/-- the loops of built-ins whose trip count is a length the script chooses (up to 2^32−1 iterations without a
    statement being evaluated) poll the channel themselves, once in 65536 iterations (fix a37105a): the
    thirteen Array.prototype methods that walk an array-like without allocating, and the shrinking of `length` -/
theorem native_loops_poll : Gen.nativeLoopPolls =
    [("arrayDefineOwnProperty", 1), ("arraySortQuickPartition", 1), ("builtinArrayEvery", 1), ("builtinArrayFilter", 1),
     ("builtinArrayForEach", 1), ("builtinArrayIndexOf", 1), ("builtinArrayLastIndexOf", 1), ("builtinArrayReduce", 2),
     ("builtinArrayReduceRight", 2), ("builtinArrayReverse", 1), ("builtinArrayShift", 1), ("builtinArraySome", 1),
     ("builtinArraySplice", 3), ("builtinArrayUnshift", 1)] := rfl

/-- Otto.Copy is `out := &Otto{runtime: o.runtime.clone()}; out.runtime.otto = out; return out`: the
    model's `Handle.copy` (no field of the template's handle is carried over, the back pointer is the copy) -/
theorem copy_fresh_handle : Gen.copyFreshHandle = true := by decide

/-- every evaluator loop that runs script statements calls the statement/expression evaluator
    (hence polls) in each iteration -/
theorem loops_poll : Gen.evaluatorLoops.all (fun l => l.2) = true := by decide

/-- the scope chain head (`.scope`) is assigned by `enterScope` and `leaveScope` only: every way of
    entering a scope (function, global, eval, native call) goes through the one place that checks the
    stack limit and numbers the depth — the premise under which `depth_exact` speaks about the code -/
theorem scope_writers_expected : Gen.scopeWriters = ["runtime.go:enterScope", "runtime.go:leaveScope"] := rfl

end OttoVerif.C18.Thm
