/-
  C05/Theorems — otto's conversions, comparisons, SameValue and division on PRIMITIVE values (C05/Model) against
  ES5 (C05/Spec), for every Go kind a number Value can carry.  The integer kinds only enter through `WF` (Go's
  static types) and `ofInt`; the string order goes through the rune facts of Base/StrLemmas.
-/
import OttoVerif.C05.Spec
import OttoVerif.Base.StrLemmas
import OttoVerif.Base.F64Lemmas
namespace OttoVerif.C05.Thm
open OttoVerif.F64 OttoVerif.C05

/-- the region where Go's float→int64 conversion is exact truncation -/
def InRange (x : FV) : Prop := -(2^63 : Int) ≤ truncInt x ∧ truncInt x < 2^63

theorem toNumber_eq (E : Env) (v : Val) : toFloat E v = Spec.toNumber E v := by
  cases v <;> rfl

theorem toBoolean_eq (v : Val) : toBool v = Spec.toBoolean v := by
  cases v with
  | str s => cases s <;> simp [toBool, Spec.toBoolean]
  | _ => simp [toBool, Spec.toBoolean, bne, BEq.beq]

theorem goInt64_inrange (x : FV) (hd : degenerate x = false) (h : InRange x) : goInt64 x = truncInt x := by
  cases x with
  | nan => simp [degenerate, isNaN] at hd
  | inf s => simp [degenerate, isNaN, isInf] at hd
  | fin s m e => unfold InRange at h; simp only [goInt64]; split <;> omega

/-- Go's static types bound the payload of integer-kinded values. -/
def WF : Val → Prop
  | .int .i8 i => -(2^7 : Int) ≤ i ∧ i < 2^7
  | .int .i16 i => -(2^15 : Int) ≤ i ∧ i < 2^15
  | .int .i32 i => -(2^31 : Int) ≤ i ∧ i < 2^31
  | .int .u8 i => 0 ≤ i ∧ i < 2^8
  | .int .u16 i => 0 ≤ i ∧ i < 2^16
  | .int .u32 i => 0 ≤ i ∧ i < 2^32
  | .int .i64 i => -(2^63 : Int) ≤ i ∧ i < 2^63
  | .int .int i => -(2^63 : Int) ≤ i ∧ i < 2^63
  | .int .u64 i => 0 ≤ i ∧ i < 2^64
  | .int .uint i => 0 ≤ i ∧ i < 2^64
  | _ => True

theorem ofInt_small_deg (i : Int) (h : i.natAbs < 2^53) : degenerate (ofInt i) = decide (i = 0) := by
  rw [ofInt, if_pos h]
  exact (isZero_fin _ _ _).trans (decide_eq_decide.2 Int.natAbs_eq_zero)

theorem mod2p32_fin (s : Bool) (m : Nat) (e : Int) :
    ∃ m' e', mod2p32 (.fin s m e) = .fin s m' e' ∧ truncAbs m' e' = truncAbs m e % 2^32 := by
  unfold mod2p32
  by_cases he : e ≥ 0
  · exact ⟨_, 0, if_pos he, by simp [truncAbs, he]⟩
  · refine ⟨_, e, if_neg he, ?_⟩
    simp only [truncAbs, he, if_false]
    rw [Nat.mul_comm]
    exact Nat.mod_mul_right_div_self m (2 ^ (-e).toNat) (2 ^ 32)

/-- the reduced value always fits int64, so Go's conversion is exact truncation -/
theorem toInt64Modulo32_eq (s : Bool) (m : Nat) (e : Int) :
    toInt64Modulo32 (.fin s m e) =
      (if s then -((truncAbs m e % 2^32 : Nat) : Int) else ((truncAbs m e % 2^32 : Nat) : Int)) := by
  obtain ⟨m', e', hf, ht⟩ := mod2p32_fin s m e
  have hlt : truncAbs m e % 2^32 < 2^32 := Nat.mod_lt _ (by decide)
  unfold toInt64Modulo32
  rw [hf]
  simp only [goInt64, truncInt, ht]
  cases s <;> simp <;> omega

theorem toInt64Modulo32_emod (s : Bool) (m : Nat) (e : Int) :
    toInt64Modulo32 (.fin s m e) % (2^32 : Int) = truncInt (.fin s m e) % (2^32 : Int) := by
  rw [toInt64Modulo32_eq, truncInt]
  cases s <;> simp only [Bool.false_eq_true, if_false, if_true] <;> omega

/-- the generic path of toInt32 / toUint32 / toUint16, for any final wrap `w` that only looks at the low
    32 bits: reducing modulo 2^32 before the int64 conversion changes nothing -/
theorem wrap_toInt64Modulo32 (w : Int → Int) (hw : ∀ x y : Int, x % (2^32 : Int) = y % (2^32 : Int) → w x = w y) (f : FV) :
    (if degenerate f then (0:Int) else w (toInt64Modulo32 f)) =
    (if isNaN f || isInf f || isZero f then (0:Int) else w (truncInt f)) := by
  cases f with
  | nan => rfl
  | inf s => rfl
  | fin s m e => exact ite_congr rfl (fun _ => rfl) (fun _ => hw _ _ (toInt64Modulo32_emod s m e))

/-- the integer fast paths: ES5's conversion of a small integer is its wrap -/
theorem wrap_ofInt_small (w : Int → Int) (h0 : w 0 = 0) (i : Int) (h : i.natAbs < 2^53) :
    (if isNaN (ofInt i) || isInf (ofInt i) || isZero (ofInt i) then (0:Int) else w (truncInt (ofInt i))) = w i := by
  show (if degenerate (ofInt i) then _ else _) = _
  rw [ofInt_small_deg i h, truncInt_ofInt_small i h]
  split
  · rename_i hz; rw [of_decide_eq_true hz, h0]
  · rfl

theorem wrapS32_range (z : Int) : -(2^31 : Int) ≤ wrapS 32 z ∧ wrapS 32 z < 2^31 := by
  simp only [wrapS]; split <;> omega

theorem wrapS_of_range (i : Int) (h : -(2^31 : Int) ≤ i ∧ i < 2^31) : wrapS 32 i = i := by
  simp only [wrapS]; split <;> omega

/-- ToInt32 (§9.5): model = spec for EVERY value: toInt64Modulo32 (value_number.go) reduces modulo 2^32 before the
    int64 conversion, so no bound |x| < 2^63 is needed; `hwf` serves the integer fast paths only. -/
theorem toInt32_eq (E : Env) (v : Val) (hwf : WF v) : toInt32 E v = Spec.toInt32 E v := by
  have fast : ∀ k i, i.natAbs < 2^53 → wrapS 32 i = Spec.toInt32 E (.int k i) :=
    fun k i h => (wrap_ofInt_small (wrapS 32) rfl i h).symm
  unfold toInt32
  split
  · exact fast _ _ (by unfold WF at hwf; omega)
  · exact fast _ _ (by unfold WF at hwf; omega)
  · unfold WF at hwf
    exact (wrapS_of_range _ hwf).symm.trans (fast _ _ (by omega))
  · exact (wrap_toInt64Modulo32 (wrapS 32) (fun _ _ h => by simp only [wrapS, h]) (toFloat E v)).trans (by rw [toNumber_eq]; rfl)

theorem wrapU_of_range (bits : Nat) (i : Int) (h : 0 ≤ i ∧ i < 2^bits) : wrapU bits i = i :=
  Int.emod_eq_of_lt h.1 h.2

/-- ToUint32 (§9.6) for every value -/
theorem toUint32_eq (E : Env) (v : Val) (hwf : WF v) : toUint32 E v = Spec.toUint32 E v := by
  have fast : ∀ k i, i.natAbs < 2^53 → wrapU 32 i = Spec.toUint32 E (.int k i) :=
    fun k i h => (wrap_ofInt_small (wrapU 32) rfl i h).symm
  unfold toUint32
  split
  · exact fast _ _ (by unfold WF at hwf; omega)
  · exact fast _ _ (by unfold WF at hwf; omega)
  · exact fast _ _ (by unfold WF at hwf; omega)
  · exact fast _ _ (by unfold WF at hwf; omega)
  · unfold WF at hwf
    exact (wrapU_of_range 32 _ hwf).symm.trans (fast _ _ (by omega))
  · exact (wrap_toInt64Modulo32 (wrapU 32) (fun _ _ h => h) (toFloat E v)).trans (by rw [toNumber_eq]; rfl)

/-- ToUint16 (§9.7) for every value -/
theorem toUint16_eq (E : Env) (v : Val) (hwf : WF v) : toUint16 E v = Spec.toUint16 E v := by
  have fast : ∀ k i, i.natAbs < 2^53 → wrapU 16 i = Spec.toUint16 E (.int k i) :=
    fun k i h => (wrap_ofInt_small (wrapU 16) rfl i h).symm
  unfold toUint16
  split
  · exact fast _ _ (by unfold WF at hwf; omega)
  · exact fast _ _ (by unfold WF at hwf; omega)
  · unfold WF at hwf
    exact (wrapU_of_range 16 _ hwf).symm.trans (fast _ _ (by omega))
  · exact (wrap_toInt64Modulo32 (wrapU 16) (fun x y h => by unfold wrapU; omega) (toFloat E v)).trans
      (by rw [toNumber_eq]; rfl)

/-- non-vacuity beyond int64: `int64(f)` of 2^63+2048 alone is −2^63 (`goInt64`), whose low 32 bits are 0;
    reduced modulo 2^32 first, (2^63+2048)|0 = 2048 as §9.5 has it -/
example : toInt32 ⟨fun _ => .nan⟩ (.f64 (.fin false (2^52+1) 11)) = 2048 := by decide

theorem cmpReal_nan_l (y : FV) : cmpReal .nan y = none := by cases y <;> rfl
theorem cmpReal_nan_r (x : FV) : cmpReal x .nan = none := by cases x <;> rfl

theorem eqNum_guard (x y : FV) : (if isNaN x || isNaN y then false else eqNum x y) = eqNum x y :=
  eqNum_nan_guard x y

theorem evaluateDivide_eq (l r : FV) : evaluateDivide l r = Spec.divide l r := by
  cases l with
  | nan => cases r <;> rfl
  | inf s =>
    cases r with
    | nan => rfl
    | inf t => rfl
    | fin t m e => cases s <;> cases t <;> rfl
  | fin s m e =>
    cases r with
    | nan => rfl
    | inf t => cases m <;> cases s <;> cases t <;> rfl
    | fin t m2 e2 =>
      cases m2 with
      | zero => cases m <;> cases s <;> cases t <;> rfl
      | succ k2 => cases m <;> rfl

/-- the NaN test of calculateLessThan is the `none` of `cmpReal` -/
theorem lt_guard (x y : FV) :
    (if isNaN x || isNaN y then Tri.u else if lt x y then Tri.t else Tri.f) =
      (match cmpReal x y with | none => Tri.u | some Ordering.lt => Tri.t | some _ => Tri.f) := by
  rw [← cmpReal_isNone, lt]
  cases cmpReal x y with
  | none => rfl
  | some o => cases o <;> rfl

section StrOrder
open OttoVerif.Str

def ScalarRune (r : Nat) : Prop := r < 0x110000 ∧ ¬ (0xD800 ≤ r ∧ r ≤ 0xDFFF)

theorem strLt_append_same (p a b : List Nat) : strLt (p ++ a) (p ++ b) = strLt a b := by
  induction p with
  | nil => rfl
  | cons x p ih => simp [strLt, ih]

theorem strLt_cons_ne {a b : Nat} (h : a ≠ b) (as bs : List Nat) : strLt (a :: as) (b :: bs) = decide (a < b) := by
  rw [strLt]
  by_cases hlt : a < b
  · rw [if_pos hlt, decide_eq_true hlt]
  · rw [if_neg hlt, if_pos (by omega), decide_eq_false hlt]

/-- the one step of `runeLess_eq` that is about numbers: `cmpRune` orders two different scalar values as
    the first differing unit of their UTF-16 encodings does (a BMP rune against a high surrogate, or the
    surrogate pairs lexicographically) -/
theorem strLt_units_ne {r1 r2 : Nat} (s1 : ScalarRune r1) (s2 : ScalarRune r2) (h : r1 ≠ r2) (a b : List Nat) :
    strLt (utf16Encode [r1] ++ a) (utf16Encode [r2] ++ b) = cmpRune r1 r2 := by
  rw [utf16Encode_singleton (Nat.le_of_lt_succ s1.1) s1.2, utf16Encode_singleton (Nat.le_of_lt_succ s2.1) s2.2, cmpRune]
  obtain ⟨u1, n1⟩ := s1
  obtain ⟨u2, n2⟩ := s2
  by_cases b1 : r1 < 0x10000 <;> by_cases b2 : r2 < 0x10000
  · rw [if_pos b1, if_pos b2, decide_eq_false (Nat.not_le.2 b1), decide_eq_false (Nat.not_le.2 b2)]
    exact strLt_cons_ne h _ _
  · rw [if_pos b1, if_neg b2, decide_eq_false (Nat.not_le.2 b1), decide_eq_true (Nat.le_of_not_lt b2),
      if_pos (by decide), if_neg (Nat.not_le.2 b1)]
    exact (strLt_cons_ne (by omega) _ _).trans (decide_eq_decide.2 (by omega))
  · rw [if_neg b1, if_pos b2, decide_eq_true (Nat.le_of_not_lt b1), decide_eq_false (Nat.not_le.2 b2),
      if_pos (by decide), if_pos (Nat.le_of_not_lt b1)]
    exact (strLt_cons_ne (by omega) _ _).trans (decide_eq_decide.2 (by omega))
  · rw [if_neg b1, if_neg b2, decide_eq_true (Nat.le_of_not_lt b1), decide_eq_true (Nat.le_of_not_lt b2),
      if_neg (by decide)]
    by_cases hh : (r1 - 0x10000) / 1024 = (r2 - 0x10000) / 1024
    · rw [hh]
      exact (strLt_append_same [_] _ _).trans ((strLt_cons_ne (by omega) _ _).trans (decide_eq_decide.2 (by omega)))
    · exact (strLt_cons_ne (by omega) _ _).trans (decide_eq_decide.2 (by omega))

theorem runeLess_eq (l1 l2 : List Nat) (h1 : ∀ r ∈ l1, ScalarRune r) (h2 : ∀ r ∈ l2, ScalarRune r) :
    runeLess l1 l2 = strLt (utf16Encode l1) (utf16Encode l2) := by
  have ne_nil : ∀ r, ScalarRune r → ∀ t, ∃ u us, utf16Encode [r] ++ t = u :: us := by
    intro r s t
    rw [utf16Encode_singleton (Nat.le_of_lt_succ s.1) s.2]
    split <;> exact ⟨_, _, rfl⟩
  induction l1 generalizing l2 with
  | nil =>
    cases l2 with
    | nil => rfl
    | cons r t =>
      obtain ⟨u, us, e⟩ := ne_nil r (h2 r (List.mem_cons_self ..)) (utf16Encode t)
      rw [utf16Encode_cons, e]; rfl
  | cons r1 t1 ih =>
    cases l2 with
    | nil =>
      obtain ⟨u, us, e⟩ := ne_nil r1 (h1 r1 (List.mem_cons_self ..)) (utf16Encode t1)
      rw [utf16Encode_cons, e]; rfl
    | cons r2 t2 =>
      rw [utf16Encode_cons, utf16Encode_cons r2, runeLess]
      by_cases hr : r1 = r2
      · subst hr
        rw [if_neg (fun h => h rfl), strLt_append_same]
        exact ih t2 (fun r hr => h1 r (List.mem_cons_of_mem _ hr)) (fun r hr => h2 r (List.mem_cons_of_mem _ hr))
      · rw [if_pos hr]
        exact (strLt_units_ne (h1 r1 (List.mem_cons_self ..)) (h2 r2 (List.mem_cons_self ..)) hr _ _).symm

theorem decodeRune_scalar (bs : List Nat) (r w : Nat) (h : decodeRune bs = some (r, w)) : ScalarRune r :=
  have hv := (decodeRune_valid bs _ h).1
  ⟨Nat.lt_succ_of_le hv.1, hv.2⟩

theorem decodeRunes_scalar (bs : List Nat) : ∀ r ∈ decodeRunes bs, ScalarRune r := fun r hr =>
  have hv := decodeRunes_valid bs r hr
  ⟨Nat.lt_succ_of_le hv.1, hv.2⟩

/-- the string order of calculateLessThan (`lessThanUTF16`) = comparison of UTF-16 code units, for ALL byte strings -/
theorem lessThanUTF16_eq (a b : List Nat) : lessThanUTF16 a b = Spec.unitLt a b :=
  runeLess_eq _ _ (decodeRunes_scalar a) (decodeRunes_scalar b)

end StrOrder

theorem lessThan_eq (E : Env) (x y : Val) : calculateLessThan E x y = Spec.lessThan E Spec.unitLt x y := by
  unfold calculateLessThan Spec.lessThan
  split
  · rw [lessThanUTF16_eq]
  · split
    · rename_i h; exact (h _ _ rfl rfl).elim
    · rw [toNumber_eq, toNumber_eq]; exact lt_guard _ _

/-- strict equality: a table over the kinds, the same on both sides but for the NaN test before `eqNum` -/
theorem strict_eq (E : Env) (x y : Val) :
    (if x.kind = y.kind then kindEqual E x y else false) = Spec.strictEq E x y := by
  cases x <;> cases y <;> first | rfl | exact eqNum_guard _ _

theorem loose_eq (E : Env) (x y : Val) : looseEq E 3 x y = Spec.looseEq E 4 x y := by
  cases x <;> cases y <;>
    simp [looseEq, Spec.looseEq, Val.kind, kindEqual, Spec.strictEq, Spec.isNum, Spec.isStr, Spec.isBool, Spec.isNullish,
      toFloat, Spec.toNumber] <;>
    exact eqNum_true_not_nan _ _

/-- C05.comparison: every comparison operator on every pair of primitive values (any Go number
    kind, any string): otto's calculateComparison = ES5 §11.8.1–4, §11.9.1–6 -/
theorem comparison_eq (E : Env) (c : Cmp) (x y : Val) :
    calculateComparison E c x y = Spec.compare E Spec.unitLt c x y := by
  cases c <;> simp only [calculateComparison, Spec.compare, lessThan_eq, strict_eq, loose_eq]
  · cases Spec.lessThan E Spec.unitLt x y <;> rfl
  · cases Spec.lessThan E Spec.unitLt y x <;> rfl
  · cases Spec.lessThan E Spec.unitLt y x <;> rfl
  · cases Spec.lessThan E Spec.unitLt x y <;> rfl

/-- C05.sameValue: otto's sameValue = ES5 §9.12 on all primitive pairs -/
theorem sameValue_eq (E : Env) (x y : Val) : sameValue E x y = Spec.sameValue E x y := by
  cases x <;> cases y <;>
    first
      | rfl
      | exact sameValue_num _ _
      | exact Bool.beq_eq_decide_eq _ _

end OttoVerif.C05.Thm
