/-
  C05/ObjTheorems — comparison and `+ - * / %` on operands that may be objects with scripted valueOf/toString
  (C05/Obj): otto's DefaultValue / toPrimitive and operator arms against §8.12.8, §9.1, §11.  The result carries the
  log of conversion calls, so equality of results is also equality of hint and call order.
-/
import OttoVerif.C05.Obj
import OttoVerif.C05.Theorems
namespace OttoVerif.C05.ObjThm
open OttoVerif.F64 OttoVerif.C05 OttoVerif.C05.Obj OttoVerif.C05.Thm

theorem defaultValue_eq (o : ObjV) (h : Hint) (log : List String) :
    defaultValue o h log = Spec.defaultValue o h log := by
  have h1 : (Hint.number != Hint.string) = true := by decide
  cases h <;> cases hd : o.isDate <;> simp [defaultValue, Spec.defaultValue, hd, h1]

theorem toPrimitive_eq (x : OV) (h : Hint) (log : List String) :
    toPrimitive x h log = Spec.toPrimitive x h log := by
  cases x <;> simp [toPrimitive, Spec.toPrimitive, defaultValue_eq]

/-- the five operators that see their operands through ToNumber only need no bound on integer payloads
    (`Ops2Thm.binNum_eq` covers all eleven, under `WF`) -/
theorem binNum_arith_eq (E : Env) (o : BinOp) (ho : o = .add ∨ o = .sub ∨ o = .mul ∨ o = .div ∨ o = .rem) (a b : Val) :
    binNum E o a b = Spec.binNum E o a b := by
  rcases ho with h | h | h | h | h <;> subst h <;>
    simp [binNum, Spec.binNum, toNumber_eq, evaluateDivide_eq, Spec.divide]

theorem kind_nullish (b : Val) : (b.kind ≤ 1) = (Spec.isNullish b = true) := by
  cases b <;> simp [Val.kind, Spec.isNullish]

/-- all eight comparison operators on every pair of operands, objects included -/
theorem apply_cmp_eq (E : Env) (c : Cmp) (x y : OV) : apply E (.cmp c) x y = Spec.apply E (.cmp c) x y := by
  cases c <;> simp only [apply, Spec.apply, toPrimitive_eq, comparison_eq]
  all_goals
    cases x <;> cases y <;>
      simp [defaultValue_eq, Spec.compare, kind_nullish]

/-- + − * / % on every pair of operands, objects included: conversions, their order, and the result -/
theorem apply_arith_eq (E : Env) (o : BinOp) (ho : o = .add ∨ o = .sub ∨ o = .mul ∨ o = .div ∨ o = .rem) (x y : OV) :
    apply E (.bin o) x y = Spec.apply E (.bin o) x y := by
  have hb := binNum_arith_eq E o ho
  rcases ho with h | h | h | h | h <;> subst h <;> simp only [apply, Spec.apply, toPrimitive_eq, hb]

/-- non-vacuity: [10] < [9] compares the STRINGS "10" and "9" (true), with valueOf tried before toString -/
example : (match apply ⟨fun _ => .nan⟩ (.cmp .lt)
    (.obj ⟨1, false, .obj, .prim (.str [49, 48])⟩) (.obj ⟨2, false, .obj, .prim (.str [57])⟩) with
    | .ok (.bool true) ["1v", "1s", "2v", "2s"] => true
    | _ => false) = true := by decide

end OttoVerif.C05.ObjThm
