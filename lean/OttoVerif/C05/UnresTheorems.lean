/-
  C05/UnresTheorems — operators outside the Ops2 language on an unresolvable identifier (C05/Unres): `model` and
  `spec` are two tables of step orders over the 19 forms, equal entry by entry.  The consequences are stated on the
  spec side (`outcomeS`) and hold for otto's order through `outcome_eq`.
-/
import OttoVerif.C05.Unres
namespace OttoVerif.C05.UnresThm
open OttoVerif.C05.Unres

/-- every form, every step: otto's order is ES5's -/
theorem model_eq_spec (f : Form) : model f = spec f := by cases f <;> rfl

theorem outcome_eq (f : Form) : outcomeM f = outcomeS f := by simp only [outcomeM, outcomeS, model_eq_spec]

/-- only `typeof`, `delete` and the left side of `=` tolerate an unresolvable identifier -/
theorem throws_unless_tolerant (f : Form) (h : f ≠ .typeofN ∧ f ≠ .deleteN ∧ f ≠ .assignN) :
    (outcomeS f).result = "throw:ReferenceError" ∧ (outcomeS f).global = false := by
  obtain ⟨h1, h2, h3⟩ := h
  cases f <;> first | exact absurd rfl h1 | exact absurd rfl h2 | exact absurd rfl h3 | exact ⟨rfl, rfl⟩

/-- nothing to the right of the failing GetValue runs (the log never holds "Z" on an error) -/
theorem nothing_after_error (f : Form) (h : (outcomeS f).result = "throw:ReferenceError") : "Z" ∉ (outcomeS f).log := by
  cases f <;> first | decide | (exfalso; revert h; decide)

example : outcomeS .assignN = ⟨two, ["Z"], true⟩ := by decide

end OttoVerif.C05.UnresThm
