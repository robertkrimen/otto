/-
  C05/Ops2Theorems — `Ops2.eval = Ops2.Spec.eval` (value or error AND the complete effect log) for every
  expression tree of Ops2.lean with well-formed leaves.  First the operators on values (`binNum_eq`, `unaryV_eq`,
  `hasInstance_eq`, `getProperty_eq`, `strGetOwn_eq`, `binaryV_eq`), each with the fact that its result is well
  formed again; then one induction over the tree (`eval_spec`) that carries equality and well-formedness together.
-/
import OttoVerif.C05.Ops2
import OttoVerif.C05.ObjTheorems
import OttoVerif.C08.Index
namespace OttoVerif.C05.Ops2Thm
open OttoVerif.F64 OttoVerif.C05 OttoVerif.C05.Obj OttoVerif.C05.Ops2 OttoVerif.C05.Thm OttoVerif.C05.ObjThm

theorem xor_allOnes32 (u : Nat) (h : u < 2^32) : u ^^^ (2^32 - 1) = 2^32 - 1 - u := by
  have := BitVec.toNat_not (x := BitVec.ofNat 32 u)
  have h2 : (~~~(BitVec.ofNat 32 u)) = (BitVec.ofNat 32 u) ^^^ BitVec.allOnes 32 := BitVec.xor_allOnes.symm
  rw [h2, BitVec.toNat_xor, BitVec.toNat_allOnes, BitVec.toNat_ofNat, Nat.mod_eq_of_lt h] at this
  exact this

theorem spec_int32_wrap (E : Env) (v : Val) : ∃ z, Spec.toInt32 E v = wrapS 32 z ∧ Spec.toUint32 E v = wrapU 32 z := by
  by_cases hd : (isNaN (Spec.toNumber E v) || isInf (Spec.toNumber E v) || isZero (Spec.toNumber E v)) = true
  · exact ⟨0, if_pos hd, if_pos hd⟩
  · exact ⟨Spec.signFloorAbs (Spec.toNumber E v), if_neg hd, if_neg hd⟩

theorem spec_toInt32_mod (E : Env) (v : Val) : (Spec.toInt32 E v) % (2^32 : Int) = Spec.toUint32 E v := by
  obtain ⟨z, h1, h2⟩ := spec_int32_wrap E v
  rw [h1, h2]
  simp only [wrapS, wrapU]
  split <;> omega

theorem spec_toUint32_range (E : Env) (v : Val) : 0 ≤ Spec.toUint32 E v ∧ Spec.toUint32 E v < 2^32 := by
  obtain ⟨z, _, h2⟩ := spec_int32_wrap E v
  rw [h2, wrapU]
  omega

theorem spec_toInt32_range (E : Env) (v : Val) : -(2^31 : Int) ≤ Spec.toInt32 E v ∧ Spec.toInt32 E v < 2^31 := by
  obtain ⟨z, h1, _⟩ := spec_int32_wrap E v
  rw [h1]
  exact wrapS32_range z

theorem wrapS_nat (n : Nat) (h : n < 2^32) : wrapS 32 (n : Int) = Spec.s32 n := by
  simp only [wrapS, Spec.s32]
  have : ((n : Int) % (2^32 : Int)) = n := by omega
  simp only [this]
  split <;> split <;> omega

theorem mul_emod_congr (i u p : Int) (h : i % (2^32 : Int) = u) : (i * p) % (2^32 : Int) = (u * p) % (2^32 : Int) := by
  subst h
  conv => rhs; rw [Int.mul_emod, Int.emod_emod]
  rw [Int.mul_emod]

theorem s32_toNat_mod (n : Nat) : Spec.s32 (n % 2^32) = wrapS 32 (n : Int) := by
  rw [← wrapS_nat _ (Nat.mod_lt _ (by decide))]
  simp only [wrapS]
  have : (((n % 2^32 : Nat) : Int) % (2^32 : Int)) = (n : Int) % (2^32 : Int) := by omega
  simp only [this]

/-- every arithmetic, bitwise and shift operator on two primitives: otto = ES5 -/
theorem binNum_eq (E : Env) (o : BinOp) (x y : Val) (hx : WF x) (hy : WF y) : binNum E o x y = Spec.binNum E o x y := by
  have r := spec_toUint32_range E x
  have r2 := spec_toUint32_range E y
  cases o <;> simp only [binNum, Spec.binNum, toNumber_eq, evaluateDivide_eq, Spec.divide,
     toInt32_eq E x hx, toInt32_eq E y hy, toUint32_eq E x hx, toUint32_eq E y hy, toU32, wrapU, spec_toInt32_mod]
  · congr 1
    apply wrapS_nat
    exact Nat.and_lt_two_pow _ (by omega)
  · congr 1
    apply wrapS_nat
    exact Nat.or_lt_two_pow (by omega) (by omega)
  · congr 1
    apply wrapS_nat
    exact Nat.xor_lt_two_pow (by omega) (by omega)
  · -- shl: the model shifts ToInt32 x, the spec ToUint32 x; the products agree modulo 2^32 (`mul_emod_congr`)
    congr 1
    rw [s32_toNat_mod]
    simp only [wrapS]
    have h := mul_emod_congr (Spec.toInt32 E x) (Spec.toUint32 E x) (2 ^ ((Spec.toUint32 E y).toNat % 32)) (spec_toInt32_mod E x)
    have hc : (((Spec.toUint32 E x).toNat * 2 ^ ((Spec.toUint32 E y).toNat % 32) : Nat) : Int)
        = Spec.toUint32 E x * 2 ^ ((Spec.toUint32 E y).toNat % 32) := by
      rw [Int.natCast_mul, Int.natCast_pow]
      congr 1
      omega
    rw [hc, h]

@[simp] theorem bind_ok {α β : Type} (a : α) (l : List String) (f : α → List String → Res β) :
    (Res.ok a l).bind f = f a l := rfl
@[simp] theorem bind_typeError {α β : Type} (l : List String) (f : α → List String → Res β) :
    (Res.typeError l : Res α).bind f = .typeError l := rfl
@[simp] theorem bind_refError {α β : Type} (l : List String) (f : α → List String → Res β) :
    (Res.refError l : Res α).bind f = .refError l := rfl
@[simp] theorem bind_thrown {α β : Type} (v : Val) (l : List String) (f : α → List String → Res β) :
    (Res.thrown v l : Res α).bind f = .thrown v l := rfl

theorem bind_assoc {α β γ : Type} (r : Res α) (f : α → List String → Res β) (g : β → List String → Res γ) :
    (r.bind f).bind g = r.bind fun a l => (f a l).bind g := by
  cases r <;> rfl

theorem bind_congr {α β : Type} (r : Res α) (f g : α → List String → Res β)
    (h : ∀ a l, f a l = g a l) : r.bind f = r.bind g := by
  cases r <;> first | rfl | exact h _ _

def ResAll {α : Type} (P : α → Prop) : Res α → Prop
  | .ok a _ => P a
  | _ => True

def RAll {α : Type} (P : α → Prop) : R α → Prop
  | .ok a _ => P a
  | _ => True

theorem ResAll_ofR {α : Type} (P : α → Prop) (r : R α) (h : RAll P r) : ResAll P (ofR r) := by
  cases r <;> exact h

theorem ResAll_bind {α β : Type} {P : α → Prop} {Q : β → Prop} {r : Res α} {f : α → List String → Res β}
    (hr : ResAll P r) (hf : ∀ a l, P a → ResAll Q (f a l)) : ResAll Q (r.bind f) := by
  cases r <;> simp only [bind_ok, bind_typeError, bind_refError, bind_thrown, ResAll]
  exact hf _ _ hr

theorem ResAll_of_forall {α : Type} {P : α → Prop} (h : ∀ a, P a) (r : Res α) : ResAll P r := by
  cases r <;> first | exact h _ | trivial

theorem ResAll_true {α : Type} (r : Res α) : ResAll (fun _ => True) r := ResAll_of_forall (fun _ => trivial) r

theorem bind_congr_all {α β : Type} {P : α → Prop} {r : Res α} (hr : ResAll P r) {f g : α → List String → Res β}
    (h : ∀ a l, P a → f a l = g a l) : r.bind f = r.bind g := by
  cases r <;> first | rfl | exact h _ _ hr

/-- the step of `eval_spec`: equality of the two sides and the invariant of the result travel as one pair, so that
    each `bind` of `eval` is matched by one `bind_both` -/
theorem bind_both {α β : Type} {P : α → Prop} {Q : β → Prop} {r r' : Res α} {f g : α → List String → Res β}
    (hr : r = r' ∧ ResAll P r) (hf : ∀ a l, P a → f a l = g a l ∧ ResAll Q (f a l)) :
    r.bind f = r'.bind g ∧ ResAll Q (r.bind f) := by
  obtain ⟨rfl, hp⟩ := hr
  exact ⟨bind_congr_all hp fun a l h => (hf a l h).1, ResAll_bind hp fun a l h => (hf a l h).2⟩

def WFBeh : Beh → Prop
  | .prim p => WF p
  | _ => True

def WFObj (o : ObjV) : Prop := WFBeh o.valueOf ∧ WFBeh o.toStr

def WFV : Vl → Prop
  | .prim p => WF p
  | .obj b => WFObj b.o

def WFRf : Rf → Prop
  | .value v => WFV v
  | .unres => True
  | .getter _ v => WFV v

def WFPropK : PropK → Prop
  | .data v => WFV v
  | .acc _ _ v => WFV v

def WFEx : Ex → Prop
  | .leaf r => WFRf r
  | .seq _ e => WFEx e
  | .un _ e => WFEx e
  | .bin _ a b => WFEx a ∧ WFEx b
  | .and a b => WFEx a ∧ WFEx b
  | .or a b => WFEx a ∧ WFEx b
  | .cond c t f => WFEx c ∧ WFEx t ∧ WFEx f
  | .asg _ lref r => WFRf lref ∧ WFEx r
  | .asgMem _ b k p r => WFEx b ∧ WFEx k ∧ WFPropK p ∧ WFEx r

theorem callM_fst (o : ObjV) (v : Bool) (log : List String) : (callM o v log).1 = if v then o.valueOf else o.toStr := by
  unfold callM; cases v <;> dsimp only <;> split <;> rfl

theorem tryMethods_wf (o : ObjV) (h : WFObj o) (first : Bool) (log : List String) : RAll WF (tryMethods o first log) := by
  have hb : ∀ v l, WFBeh (callM o v l).1 := fun v l => by
    rw [callM_fst]; cases v
    · exact h.2
    · exact h.1
  unfold tryMethods
  have h1 := hb first log
  generalize callM o first log = c1 at h1 ⊢
  obtain ⟨b1, l1⟩ := c1
  cases b1 with
  | prim p => exact h1
  | throws v => trivial
  | obj | notCallable =>
    dsimp only
    have h2 := hb (!first) l1
    generalize callM o (!first) l1 = c2 at h2 ⊢
    obtain ⟨b2, l2⟩ := c2
    cases b2 <;> first | exact h2 | trivial

theorem getValue_wf (r : Rf) (log : List String) (h : WFRf r) : ResAll WFV (getValue r log) := by
  cases r <;> exact h

theorem boolV_eq (v : Vl) : boolV v = Spec.toBooleanV v := by
  cases v <;> simp [boolV, Spec.toBooleanV, toBoolean_eq]

theorem float64V_eq (E : Env) (v : Vl) (log : List String) : float64V E v log = Spec.toNumberV E v log := by
  cases v with
  | prim p => simp [float64V, Spec.toNumberV, Spec.toPrimV, Vl.toOV, Obj.Spec.toPrimitive, ofR, toNumber_eq]
  | obj b => simp [float64V, Spec.toNumberV, Spec.toPrimV, Vl.toOV, Obj.Spec.toPrimitive, defaultValue_eq, toNumber_eq]

theorem stringV_eq (E : Env) (v : Vl) (log : List String) : stringV E v log = Spec.toStringV E v log := by
  cases v with
  | prim p => simp [stringV, Spec.toStringV, Spec.toPrimV, Vl.toOV, Obj.Spec.toPrimitive, ofR]
  | obj b => simp [stringV, Spec.toStringV, Spec.toPrimV, Vl.toOV, Obj.Spec.toPrimitive, defaultValue_eq]

theorem copysign_neg (f : FV) :
    copysign f (if signBit f then one else neg one) = (if isNaN f then .nan else neg f) := by
  cases f with
  | nan => rfl
  | inf s => cases s <;> rfl
  | fin s m e => cases s <;> rfl

theorem typeofV_eq (v : Vl) : typeofV v = Spec.typeofV v := by
  cases v with
  | prim p => cases p <;> rfl
  | obj b =>
    simp only [typeofV, Spec.typeofV]
    cases b.fk <;> rfl

theorem bnot_arith (i : Int) (h : -(2^31 : Int) ≤ i ∧ i < 2^31) :
    -i - 1 = Spec.s32 ((i % (2^32 : Int)).toNat ^^^ (2^32 - 1)) := by
  have hu : (i % (2^32 : Int)).toNat < 2^32 := by omega
  rw [xor_allOnes32 _ hu]
  simp only [Spec.s32]
  split <;> omega

theorem spec_toUint32_f64 (E : Env) (p : Val) : Spec.toUint32 E (.f64 (Spec.toNumber E p)) = Spec.toUint32 E p := rfl

theorem WF_f64 (x : FV) : WF (.f64 x) := trivial

/-- what `numPrim` hands the operators when ToPrimitive(v, hint Number) is p: p itself for a primitive v (integer
    kinds keep their fast paths), the float64 of its number for an object -/
def numView (E : Env) (v : Vl) (p : Val) : Val :=
  match v with | .prim _ => p | .obj _ => .f64 (Spec.toNumber E p)

theorem numPrim_eq (E : Env) (v : Vl) (log : List String) :
    numPrim E v log = (Spec.toPrimV v .number log).bind fun p l => .ok (numView E v p) l := by
  cases v with
  | prim p => rfl
  | obj b => simp only [numPrim, float64V_eq, Spec.toNumberV, bind_assoc, bind_ok, numView]

theorem toNumber_numView (E : Env) (v : Vl) (p : Val) : Spec.toNumber E (numView E v p) = Spec.toNumber E p := by
  cases v <;> rfl

theorem numView_wf (E : Env) (v : Vl) (log : List String) (hv : WFV v) :
    ResAll (fun p => WF (numView E v p)) (Spec.toPrimV v .number log) := by
  cases v with
  | prim q => exact hv
  | obj b => exact ResAll_of_forall (fun _ => WF_f64 _) _

theorem unaryV_eq (E : Env) (op : UOp) (v : Vl) (log : List String) (hv : WFV v) :
    unaryV E op v log = Spec.unaryV E op v log := by
  cases op with
  | lnot => simp only [unaryV, Spec.unaryV, boolV_eq]
  | plus => simp only [unaryV, Spec.unaryV, float64V_eq]
  | neg => simp only [unaryV, Spec.unaryV, float64V_eq, copysign_neg]
  | void => rfl
  | typeof => simp only [unaryV, Spec.unaryV, typeofV_eq]
  | bnot =>
    simp only [unaryV, Spec.unaryV, numPrim_eq, bind_assoc, bind_ok]
    refine bind_congr_all (numView_wf E v log hv) fun p l hp => ?_
    have hn : Spec.toInt32 E (numView E v p) = Spec.toInt32 E p := by cases v <;> rfl
    rw [toInt32_eq E _ hp, hn, ← bnot_arith _ (spec_toInt32_range E p)]

theorem unary_eq (E : Env) (op : UOp) (r : Rf) (log : List String) (hr : WFRf r) :
    unary E op r log = Spec.unary E op r log := by
  have key : (getValue r log).bind (unaryV E op) = (getValue r log).bind (Spec.unaryV E op) :=
    bind_congr_all (getValue_wf r log hr) fun a l ha => unaryV_eq E op a l ha
  cases op <;> cases r <;> simp only [unary, Spec.unary] <;> first | exact key | rfl

/-- the prototype walk of hasInstance is §15.3.5.3 step 4 on every chain -/
theorem walk_eq (o : Nat) (chain : List Nat) : walk o chain = Spec.protoWalk o chain := by
  induction chain with
  | nil => rfl
  | cons v rest ih => simp only [walk, Spec.protoWalk, ih]

/-- [[HasInstance]] for every function kind (ordinary, bound to any depth, not callable), every left
    operand and every chain -/
theorem hasInstance_eq (f : FK) (v : Vl) (log : List String) : hasInstance f v log = Spec.hasInstance f v log := by
  induction f with
  | none => rfl
  | fn p => cases v <;> cases p <;> simp only [hasInstance, Spec.hasInstance, walk_eq]
  | bound t ih => simp only [hasInstance, Spec.hasInstance, ih]

/-- [[HasProperty]] through every prototype chain -/
theorem getProperty_eq (ls : List Layer) (name : List Nat) : getProperty ls name = Spec.hasProperty ls name := by
  induction ls with
  | nil => rfl
  | cons L rest ih =>
    simp only [getProperty, Spec.hasProperty, ih, getOwn, Spec.getOwn]
    cases L.contains name <;> simp

/-- `stringToArrayIndex` is transcribed a second time in C08 (`stringToArrayIndexRaw`), where it is shown to be the
    array-index test of §15.4 on every string (`array_index_eq`); the index names below `len` follow from that -/
theorem strIndex_iff (len : Nat) (name : List Nat) (hlen : len < 2^32 - 1) :
    (stringToArrayIndex name ≥ 0 ∧ stringToArrayIndex name < len) ↔ ∃ n, n < len ∧ OttoVerif.C08.dec n = name := by
  have raw : stringToArrayIndex name = OttoVerif.C08.stringToArrayIndexRaw name := rfl
  rw [raw]
  constructor
  · intro ⟨h0, h1⟩
    rw [OttoVerif.C08.Thm.array_index_eq] at h0 h1
    cases h : OttoVerif.C08.Spec.arrayIndex? name with
    | none => rw [h] at h0; exact absurd h0 (by decide)
    | some n =>
      rw [h] at h1
      exact ⟨n, Int.ofNat_lt.1 h1, (OttoVerif.C08.Thm.arrayIndex_canonical name n h).1.symm⟩
  · intro ⟨n, hn, hd⟩
    have hi := OttoVerif.C08.Thm.stringToArrayIndex_idx n
    rw [if_pos (by omega)] at hi
    rw [← hd, show OttoVerif.C08.stringToArrayIndexRaw (OttoVerif.C08.dec n) = (n : Int) from hi]
    exact ⟨Int.natCast_nonneg n, Int.ofNat_lt.2 hn⟩

/-- [[GetOwnProperty]] of a String object (§15.5.5.2) on every name, for every length below 2^32 − 1
    (stringToArrayIndex rejects every index from 2^32 − 1 on) -/
theorem strGetOwn_eq (stored : Layer) (len : Nat) (name : List Nat) (hlen : len < 2^32 - 1) :
    strGetOwn stored len name = Spec.strGetOwn stored len name := by
  have hg : Spec.getOwn stored name = getOwn stored name := rfl
  simp only [strGetOwn, Spec.strGetOwn, hg]
  cases getOwn stored name
  · simp only [Bool.false_eq_true, if_false, Bool.false_or]
    rw [Bool.eq_iff_iff]
    simp only [decide_eq_true_eq, List.any_eq_true, List.mem_range, beq_iff_eq]
    exact strIndex_iff len name hlen
  · simp

/-- `binary` when the right operand needs no GetValue any more -/
def binaryV (E : Env) (op : BOp) (lv rv : Vl) (log : List String) : Res Vl := binary E op lv (.value rv) log

/-- every operator resolves its right operand (GetValue) before any conversion -/
theorem binary_getValue (E : Env) (op : BOp) (lv : Vl) (right : Rf) (log : List String) :
    binary E op lv right log = (getValue right log).bind (binaryV E op lv) := by
  cases op with
  | num o => cases o <;> exact bind_congr _ _ _ fun _ _ => rfl
  | _ => exact bind_congr _ _ _ fun _ _ => rfl

theorem spec_binNum_congr (E : Env) (o : BinOp) {x x' y y' : Val} (hx : Spec.toNumber E x = Spec.toNumber E x')
    (hy : Spec.toNumber E y = Spec.toNumber E y') : Spec.binNum E o x y = Spec.binNum E o x' y' := by
  cases o <;> simp only [Spec.binNum, Spec.toInt32, Spec.toUint32, hx, hy]

theorem toPrimV_prim (q : Val) (hint : Hint) (log : List String) : Spec.toPrimV (.prim q) hint log = .ok q log := rfl

theorem binaryV_num (E : Env) (o : BinOp) (ho : o ≠ .add) (lv rv : Vl) (log : List String) :
    binaryV E (.num o) lv rv log =
      (numPrim E lv log).bind fun px l2 => (numPrim E rv l2).bind fun py l3 => .ok (.prim (binNum E o px py)) l3 := by
  cases o <;> first | exact absurd rfl ho | rfl

/-- the numeric operators other than `+`: conversions (left first, hint Number), their log, the result -/
theorem binaryV_num_eq (E : Env) (o : BinOp) (ho : o ≠ .add) (lv rv : Vl) (log : List String) (hl : WFV lv) (hr : WFV rv) :
    binaryV E (.num o) lv rv log = Spec.binary E (.num o) lv rv log := by
  have hs : Spec.binary E (.num o) lv rv log =
      (Spec.toPrimV lv .number log).bind fun lp l1 => (Spec.toPrimV rv .number l1).bind fun rp l2 =>
        .ok (.prim (C05.Spec.binNum E o lp rp)) l2 := by
    cases o <;> first | exact absurd rfl ho | simp only [Spec.binary]
  rw [binaryV_num E o ho, hs, numPrim_eq, bind_assoc]
  refine bind_congr_all (numView_wf E lv log hl) fun lp l1 hlp => ?_
  rw [bind_ok, numPrim_eq, bind_assoc]
  refine bind_congr_all (numView_wf E rv l1 hr) fun rp l2 hrp => ?_
  rw [bind_ok, binNum_eq E o _ _ hlp hrp, spec_binNum_congr E o (toNumber_numView E lv lp) (toNumber_numView E rv rp)]

/-- every binary operator on two values: conversions, their order, errors, result -/
theorem binaryV_eq (E : Env) (op : BOp) (lv rv : Vl) (log : List String) (hl : WFV lv) (hr : WFV rv) :
    binaryV E op lv rv log = Spec.binary E op lv rv log := by
  cases op with
  | num o =>
    by_cases ho : o = .add
    · subst ho
      simp only [binaryV, binary, Spec.binary, getValue, bind_ok, Spec.toPrimV, toPrimitive_eq]
      apply bind_congr; intro lp l1
      apply bind_congr; intro rp l2
      rw [binNum_arith_eq E .add (Or.inl rfl)]
    · exact binaryV_num_eq E o ho lv rv log hl hr
  | cmp c => simp only [binaryV, binary, Spec.binary, getValue, bind_ok, apply_cmp_eq]
  | instOf =>
    simp only [binaryV, binary, Spec.binary, getValue, bind_ok]
    cases rv <;> simp only [hasInstance_eq]
  | inOp =>
    simp only [binaryV, binary, Spec.binary, getValue, bind_ok]
    cases rv <;> simp only [stringV_eq, getProperty_eq]

/-- A number Value keeps the Go type it was made with (int32 out of `|`, uint32 out of `>>>`, int for `.length`,
    uint16 for charCodeAt, int64 for literals, whatever the embedder set): for ALL 11 arithmetic / bitwise / shift
    operators the result is what ES5 computes from the two NUMBER VALUES alone – the kind tags do not matter. -/
theorem binNum_kind_irrelevant (E : Env) (o : BinOp) (x y : Val) (hx : WF x) (hy : WF y) :
    binNum E o x y = Spec.binNum E o (.f64 (Spec.toNumber E x)) (.f64 (Spec.toNumber E y)) := by
  rw [binNum_eq E o x y hx hy]; exact spec_binNum_congr E o rfl rfl

/-- two operands denoting the same numbers give the same result, whatever their kinds -/
theorem binNum_same_numbers (E : Env) (o : BinOp) (x y x' y' : Val) (hx : WF x) (hy : WF y) (hx' : WF x') (hy' : WF y')
    (h1 : toFloat E x = toFloat E x') (h2 : toFloat E y = toFloat E y') : binNum E o x y = binNum E o x' y' := by
  rw [binNum_kind_irrelevant E o x y hx hy, binNum_kind_irrelevant E o x' y' hx' hy', ← toNumber_eq, ← toNumber_eq,
    ← toNumber_eq, ← toNumber_eq, h1, h2]

/-- the result of `+ - * / %` is float64-kinded (so it keeps the sign of a zero and is printed by the float
    formatter), that of `& | ^ << >>` int32-kinded and of `>>>` uint32-kinded (small integers: FormatInt prints
    the digits of the double) -/
theorem binNum_result_kind (E : Env) (o : BinOp) (x y : Val) :
    (∃ r, binNum E o x y = .f64 r) ∨ (∃ i, binNum E o x y = .int .i32 i) ∨ (∃ i, binNum E o x y = .int .u32 i) := by
  cases o <;> simp [binNum]

theorem binNum_arith_float (E : Env) (o : BinOp) (ho : o = .add ∨ o = .sub ∨ o = .mul ∨ o = .div ∨ o = .rem) (x y : Val) :
    ∃ r, binNum E o x y = .f64 r := by
  rcases ho with h | h | h | h | h <;> subst h <;> exact ⟨_, rfl⟩

/-- comparisons of two numbers depend on the number values only -/
theorem comparison_kind_irrelevant (E : Env) (c : Cmp) (x y : Val) (hx : Spec.isNum x = true) (hy : Spec.isNum y = true) :
    calculateComparison E c x y = Spec.compare E Spec.unitLt c (.f64 (Spec.toNumber E x)) (.f64 (Spec.toNumber E y)) := by
  rw [comparison_eq]
  cases x <;> simp [Spec.isNum] at hx <;> cases y <;> simp [Spec.isNum] at hy <;> cases c <;> rfl

/-- dividing by a positive integer keeps a value inside any range around zero (the shifts `>>`, `>>>`) -/
theorem ediv_range (I p lo hi : Int) (hp : 1 ≤ p) (hlo : lo ≤ 0) (hhi : 0 < hi) (h : lo ≤ I ∧ I < hi) :
    lo ≤ I / p ∧ I / p < hi := by
  constructor
  · apply Int.le_ediv_of_mul_le (by omega)
    have : lo * p ≤ lo * 1 := Int.mul_le_mul_of_nonpos_left hlo hp
    omega
  · apply Int.ediv_lt_of_lt_mul (by omega)
    have : hi * 1 ≤ hi * p := Int.mul_le_mul_of_nonneg_left hp (by omega)
    omega

/-- only `>>` and `>>>` need a well-formed (left) operand: every other result is a float64 or a wrap -/
theorem binNum_wf (E : Env) (o : BinOp) (x y : Val) (hx : WF x) : WF (binNum E o x y) := by
  have pow2_ge_one : ∀ k : Nat, (1 : Int) ≤ 2 ^ k := fun k => Int.pow_pos (by decide : (0 : Int) < 2)
  cases o <;> simp only [binNum, WF]
  · exact wrapS32_range _
  · exact wrapS32_range _
  · exact wrapS32_range _
  · exact wrapS32_range _
  · rw [toInt32_eq E x hx]; exact ediv_range _ _ _ _ (pow2_ge_one _) (by decide) (by decide) (spec_toInt32_range E x)
  · rw [toUint32_eq E x hx]; exact ediv_range _ _ _ _ (pow2_ge_one _) (by decide) (by decide) (spec_toUint32_range E x)

theorem RAll_bind_any {α β : Type} (Q : β → Prop) (r : R α) (f : α → List String → R β)
    (hf : ∀ a l, RAll Q (f a l)) : RAll Q (r.bind f) := by
  cases r <;> simp only [R.bind, RAll]
  exact hf _ _

/-- a comparison yields a boolean, whichever conversions it runs first -/
theorem apply_cmp_wf (E : Env) (c : Cmp) (x y : OV) : RAll WF (Obj.apply E (.cmp c) x y) := by
  have rel : ∀ (f : Val → Val → Bool) (h : Hint), RAll WF ((toPrimitive x h []).bind fun px l1 =>
      (toPrimitive y h l1).bind fun py l2 => .ok (.bool (f px py)) l2) :=
    fun f h => RAll_bind_any _ _ _ fun _ _ => RAll_bind_any _ _ _ fun _ _ => trivial
  have eq1 : ∀ (o : ObjV) (k : Nat) (n : Bool) (f : Val → Bool), RAll WF (if k ≤ 1 then R.ok (Val.bool n) []
      else (defaultValue o .none []).bind fun p l => .ok (.bool (f p)) l) := by
    intro o k n f; split
    · trivial
    · exact RAll_bind_any _ _ _ fun _ _ => trivial
  cases c
  case lt | gt | le | ge => exact rel _ _
  case seq | sne => cases x <;> cases y <;> trivial
  case eq | ne => cases x <;> cases y <;> first | trivial | exact eq1 _ _ _ _

theorem ResAll_ofRPre {α : Type} (P : α → Prop) (log : List String) (r : R α) (h : RAll P r) :
    ResAll P (ofRPre log r) := by
  cases r <;> exact h

theorem numPrim_wf (E : Env) (v : Vl) (log : List String) (hv : WFV v) : ResAll WF (numPrim E v log) := by
  cases v with
  | prim p => exact hv
  | obj b => exact ResAll_bind (ResAll_true _) fun f _ _ => WF_f64 f

theorem unaryV_wf (E : Env) (op : UOp) (v : Vl) (log : List String) (hv : WFV v) : ResAll WFV (unaryV E op v log) := by
  cases op
  case plus | neg => exact ResAll_bind (ResAll_true _) fun _ _ _ => trivial
  case bnot =>
    refine ResAll_bind (numPrim_wf E v log hv) fun p l hp => ?_
    show -(2^31 : Int) ≤ -(toInt32 E p) - 1 ∧ -(toInt32 E p) - 1 < 2^31
    rw [toInt32_eq E p hp]
    have := spec_toInt32_range E p
    omega
  case lnot | typeof | void => trivial

theorem unary_wf (E : Env) (op : UOp) (r : Rf) (log : List String) (hr : WFRf r) : ResAll WFV (unary E op r log) := by
  unfold unary
  split
  · trivial
  · exact ResAll_bind (getValue_wf r log hr) fun a l ha => unaryV_wf E op a l ha

theorem toPrimitive_wf (v : Vl) (hint : Hint) (log : List String) (hv : WFV v) :
    ResAll WF (ofR (toPrimitive v.toOV hint log)) := by
  apply ResAll_ofR
  cases v with
  | prim p => exact hv
  | obj b => exact tryMethods_wf b.o hv _ log

theorem binaryV_wf (E : Env) (op : BOp) (lv rv : Vl) (log : List String) (hl : WFV lv) (hr : WFV rv) :
    ResAll WFV (binaryV E op lv rv log) := by
  cases op with
  | num o =>
    by_cases ho : o = .add
    · subst ho
      refine ResAll_bind (toPrimitive_wf lv .none log hl) fun lp l2 hlp =>
        ResAll_bind (toPrimitive_wf rv .none l2 hr) fun rp l3 hrp => ?_
      split
      · trivial
      · exact binNum_wf E .add lp rp hlp
    · rw [binaryV_num E o ho]
      exact ResAll_bind (numPrim_wf E lv log hl) fun px l2 hpx =>
        ResAll_bind (numPrim_wf E rv l2 hr) fun py l3 _ => binNum_wf E o px py hpx
  | cmp c => exact ResAll_bind (ResAll_ofRPre WF log _ (apply_cmp_wf E c _ _)) fun _ _ h => h
  | instOf | inOp =>
    cases rv with
    | prim _ => trivial
    | obj f => exact ResAll_bind (ResAll_true _) fun _ _ _ => trivial

theorem propGet_wf (p : PropK) (log : List String) (h : WFPropK p) : ResAll WFV (propGet p log) := by
  cases p <;> exact h

theorem isNullishV_cases (bv : Vl) : isNullishV bv = true ↔ (bv = .prim .undef ∨ bv = .prim .null) := by
  cases bv with
  | prim p => cases p <;> simp [isNullishV]
  | obj b => simp [isNullishV]

/-- a member reference `b[k]`: TypeError for an undefined/null base BEFORE the key is converted, else
    ToString of the key (hint String on objects, logged) -/
theorem memberRef_eq (E : Env) (bv kv : Vl) (log : List String) : memberRef E bv kv log = Spec.memberRef E bv kv log := by
  cases bv with
  | prim p => cases p <;> simp [memberRef, Spec.memberRef, isNullishV, stringV_eq]
  | obj b => simp [memberRef, Spec.memberRef, isNullishV, stringV_eq]

theorem propGet_eq (p : PropK) (log : List String) : propGet p log = Spec.propGet p log := by cases p <;> rfl
theorem propPut_eq (p : PropK) (log : List String) : propPut p log = Spec.propPut p log := by cases p <;> rfl

/-- GetValue of a result, handed on as a value (`(t, e)`, the chosen branch of `&&` `||` `?:`) -/
theorem getValue_step {r r' : Res Rf} (hr : r = r' ∧ ResAll WFRf r) :
    (r.bind fun x l1 => (getValue x l1).bind fun v l2 => Res.ok (Rf.value v) l2) =
      (r'.bind fun x l1 => (getValue x l1).bind fun v l2 => Res.ok (Rf.value v) l2) ∧
    ResAll WFRf (r.bind fun x l1 => (getValue x l1).bind fun v l2 => Res.ok (Rf.value v) l2) :=
  bind_both hr fun x l hx => bind_both ⟨rfl, getValue_wf x l hx⟩ fun _ _ hv => ⟨rfl, hv⟩

/-- GetValue of the right operand, the operator on the two values, then continuations `k`, `k'` that agree and keep
    well-formedness on well-formed values (binary operators and both forms of compound assignment) -/
theorem binary_step (E : Env) (op : BOp) (lv : Vl) (y : Rf) (l : List String) (k k' : Vl → List String → Res Rf)
    (hlv : WFV lv) (hy : WFRf y) (hk : ∀ v l, WFV v → k v l = k' v l ∧ ResAll WFRf (k v l)) :
    ((getValue y l).bind fun rv l3 => (binaryV E op lv rv l3).bind k) =
      ((getValue y l).bind fun rv l3 => (Spec.binary E op lv rv l3).bind k') ∧
    ResAll WFRf ((getValue y l).bind fun rv l3 => (binaryV E op lv rv l3).bind k) :=
  bind_both ⟨rfl, getValue_wf y l hy⟩ fun rv l3 hrv =>
    bind_both ⟨binaryV_eq E op lv rv l3 hlv hrv, binaryV_wf E op lv rv l3 hlv hrv⟩ hk

/-- otto's evaluation and the ES5 evaluation of an expression with well-formed leaves agree, and what comes out is
    well formed again (so that it can be an operand of the next operator): one induction, since each needs the other -/
theorem eval_spec (E : Env) (e : Ex) (h : WFEx e) :
    ∀ log, eval E e log = Spec.eval E e log ∧ ResAll WFRf (eval E e log) := by
  induction e with
  | leaf r => exact fun _ => ⟨rfl, h⟩
  | seq t e ih => exact fun log => getValue_step (ih h _)
  | un op e ih =>
    exact fun log => bind_both (ih h log) fun r l hr =>
      bind_both ⟨unary_eq E op r l hr, unary_wf E op r l hr⟩ fun _ _ hv => ⟨rfl, hv⟩
  | bin op a b iha ihb =>
    refine fun log => bind_both (iha h.1 log) fun x l1 hx => bind_both ⟨rfl, getValue_wf x l1 hx⟩ fun lv l2 hlv =>
      bind_both (ihb h.2 l2) fun y l3 hy => ?_
    rw [binary_getValue, bind_assoc]
    exact binary_step E op lv y l3 _ _ hlv hy fun _ _ hv => ⟨rfl, hv⟩
  | and a b iha ihb | or a b iha ihb =>
    refine fun log => bind_both (iha h.1 log) fun x l1 hx => bind_both ⟨rfl, getValue_wf x l1 hx⟩ fun lv l2 hlv => ?_
    rw [← boolV_eq]
    split
    · exact ⟨rfl, hlv⟩
    · exact getValue_step (ihb h.2 l2)
  | cond c t f ihc iht ihf =>
    refine fun log => bind_both (ihc h.1 log) fun x l1 hx => bind_both ⟨rfl, getValue_wf x l1 hx⟩ fun tv l2 _ => ?_
    rw [← boolV_eq]
    split
    · exact getValue_step (iht h.2.1 l2)
    · exact getValue_step (ihf h.2.2 l2)
  | asg o lref r ih =>
    exact fun log => bind_both ⟨rfl, getValue_wf lref log h.1⟩ fun lv l1 hlv => bind_both (ih h.2 l1) fun y l2 hy =>
      binary_step E (.num o) lv y l2 _ _ hlv hy fun _ _ hv => ⟨rfl, hv⟩
  | asgMem o b k p r ihb ihk ihr =>
    exact fun log => bind_both (ihb h.1 log) fun t l1 ht => bind_both ⟨rfl, getValue_wf t l1 ht⟩ fun bv l2 _ =>
      bind_both (ihk h.2.1 l2) fun m l3 hm => bind_both ⟨rfl, getValue_wf m l3 hm⟩ fun kv l4 _ =>
      bind_both ⟨memberRef_eq E bv kv l4, ResAll_true _⟩ fun _ l5 _ =>
      bind_both ⟨propGet_eq p l5, propGet_wf p l5 h.2.2.1⟩ fun lv l6 hlv => bind_both (ihr h.2.2.2 l6) fun y l7 hy =>
      binary_step E (.num o) lv y l7 _ _ hlv hy fun _ _ hv => ⟨by rw [propPut_eq], hv⟩

theorem eval_wf (E : Env) (e : Ex) (h : WFEx e) : ∀ log, ResAll WFRf (eval E e log) :=
  fun log => (eval_spec E e h log).2

/-- THE EXPRESSION THEOREM.  For every expression tree (unary, arithmetic, bitwise, shift, relational,
    equality, instanceof, in, && || ?:, comma, compound assignment `x op= e` and `b[k] op= e`; operands of any
    shape: scripted objects, getters, undeclared identifiers) and every starting log, otto's evaluation IS the
    ES5 evaluation: the same Reference or value or thrown error, and the same complete log of side effects, i.e.
    the order of operand evaluation (GetValue) and of every valueOf/toString call.  No deviation region. -/
theorem eval_eq (E : Env) (e : Ex) (hwf : WFEx e) : ∀ log, eval E e log = Spec.eval E e log :=
  fun log => (eval_spec E e hwf log).1

/-- the expression in a value context: result (or error) and complete effect log -/
theorem run_eq (E : Env) (e : Ex) (hwf : WFEx e) : run E e = Spec.run E e := by
  simp only [run, Spec.run, eval_eq E e hwf]

/-- ORDER OF EVALUATION: for EVERY binary operator (arithmetic, bitwise, shift, relational, equality,
    instanceof, in) applied to two side-effecting operand expressions `(log(tl), x)` and `(log(tr), y)` with
    x, y any values (scripted objects included): same result or error and the same log — tl, tr, then the
    conversions the operator prescribes, left before right. -/
theorem tagged_operands_eq (E : Env) (op : BOp) (tl tr : String) (lv rv : Vl) (hl : WFV lv) (hr : WFV rv) :
    run E (.bin op (.seq tl (.leaf (.value lv))) (.seq tr (.leaf (.value rv)))) =
    Spec.run E (.bin op (.seq tl (.leaf (.value lv))) (.seq tr (.leaf (.value rv)))) :=
  run_eq E _ ⟨hl, hr⟩

/-- §11.11: when ToBoolean(left) decides, the right operand is NOT evaluated: the result is the left VALUE
    and the log holds nothing of `b` (for any `b` whatsoever, in otto and in ES5) -/
theorem and_short_circuit (E : Env) (lv : Vl) (b : Ex) (h : boolV lv = false) :
    run E (.and (.leaf (.value lv)) b) = .ok lv [] ∧ Spec.run E (.and (.leaf (.value lv)) b) = .ok lv [] := by
  have h' : Spec.toBooleanV lv = false := by rw [← boolV_eq]; exact h
  simp [run, Spec.run, eval, Spec.eval, getValue, h, h']

theorem or_short_circuit (E : Env) (lv : Vl) (b : Ex) (h : boolV lv = true) :
    run E (.or (.leaf (.value lv)) b) = .ok lv [] ∧ Spec.run E (.or (.leaf (.value lv)) b) = .ok lv [] := by
  have h' : Spec.toBooleanV lv = true := by rw [← boolV_eq]; exact h
  simp [run, Spec.run, eval, Spec.eval, getValue, h, h']

/-- ToBoolean never calls valueOf/toString: an object operand decides `&&`, `||`, `?:`, `!` with an empty log -/
theorem toBoolean_object_silent (E : Env) (o : Ob) :
    run E (.un .lnot (.leaf (.value (.obj o)))) = .ok (.prim (.bool false)) [] := by
  simp [run, eval, unary, unaryV, boolV, getValue]

def E0 : Env := ⟨fun _ => .nan⟩
def plainObj (id : Nat) (chain : List Nat) (v s : Beh) : Vl := .obj ⟨⟨id, false, v, s⟩, .none, chain, []⟩
def fnObj (id : Nat) (fk : FK) : Vl := .obj ⟨⟨id, false, .notCallable, .notCallable⟩, fk, [101, 100], []⟩

/-- F.prototype instanceof F is false (the walk starts at V.[[Prototype]]) … -/
example : run E0 (.bin .instOf (.leaf (.value (plainObj 1 [100] .obj .obj))) (.leaf (.value (fnObj 2 (.fn (some 1))))))
    = .ok (.prim (.bool false)) [] := by decide
/-- … an ancestor is found through a bound-of-bound function, and no conversion method is called -/
example : run E0 (.bin .instOf (.leaf (.value (plainObj 1 [7, 8, 100] .obj .obj)))
    (.leaf (.value (fnObj 2 (.bound (.bound (.fn (some 8)))))))) = .ok (.prim (.bool true)) [] := by decide
/-- a primitive on the left is false even when F.prototype is not an object; an object there is a TypeError -/
example : run E0 (.bin .instOf (.leaf (.value (.prim .null))) (.leaf (.value (fnObj 2 (.fn none)))))
    = .ok (.prim (.bool false)) [] := by decide
example : run E0 (.bin .instOf (.leaf (.value (plainObj 1 [100] .obj .obj))) (.leaf (.value (fnObj 2 (.fn none)))))
    = .typeError [] := by decide

/-- `in`: ToString of an object key uses hint String (toString first), the chain is searched -/
example : run E0 (.bin .inOp (.leaf (.value (plainObj 1 [100] (.prim (.str [98])) (.prim (.str [97])))))
    (.leaf (.value (.obj ⟨⟨2, false, .obj, .obj⟩, .none, [9], [[[120]], [[97]]]⟩)))) = .ok (.prim (.bool true)) ["1s"] := by decide

/-- typeof (true ? undeclared : undefined) throws: `?:` does GetValue on its branch -/
example : run E0 (.un .typeof (.cond (.leaf (.value (.prim (.bool true)))) (.leaf .unres) (.leaf (.value (.prim .undef)))))
    = .refError [] := by decide

/-- `a + g.p` runs the getter (GetValue of the right operand) before a.valueOf -/
example : (match run E0 (.bin (.num .add) (.leaf (.value (plainObj 1 [100] (.prim (.bool true)) .notCallable)))
        (.leaf (.getter "G" (.prim (.bool true))))) with
    | .ok _ ["G", "1v"] => true
    | _ => false) = true := by decide

/-- compound assignment (§11.13.2): the old value is read (getter G) BEFORE the right side is evaluated (R);
    `b[k] -= r`: b, k, ToString(k), [[Get]], r, the conversions of `-`, [[Put]] -/
example : (match run E0 (.asgMem .sub (.seq "B" (.leaf (.value (plainObj 1 [100] .obj .obj))))
        (.seq "K" (.leaf (.value (plainObj 7 [100] .obj (.prim (.str [112])))))) (.acc "G" "S" (.prim (.int .i8 1)))
        (.seq "R" (.leaf (.value (plainObj 8 [100] (.prim (.bool true)) .obj))))) with
    | .ok _ ["B", "K", "7s", "G", "R", "8v", "S"] => true
    | _ => false) = true := by decide
/-- `undeclared += (log("R"), 1)`: ReferenceError from GetValue(lref), R is never logged -/
example : run E0 (.asg .add .unres (.seq "R" (.leaf (.value (.prim (.bool true)))))) = .refError [] := by decide
/-- `null[k] += …`: TypeError before the key's toString runs -/
example : run E0 (.asgMem .add (.leaf (.value (.prim .null))) (.leaf (.value (plainObj 7 [100] .obj (.prim (.str [112])))))
    (.data (.prim .undef)) (.leaf (.value (.prim .undef)))) = .typeError [] := by decide

/-- the hypothesis of `run_eq` holds for a nested tree with an object, a getter and an undeclared identifier:
    `!( (log("T"), o) && (g.p - undeclared) )` -/
example : WFEx (.un .lnot (.and (.seq "T" (.leaf (.value (plainObj 1 [100] .obj .obj))))
      (.bin (.num .sub) (.leaf (.getter "G" (.prim (.int .i8 5)))) (.leaf .unres)))) := by
  simp [WFEx, WFRf, WFV, WFObj, WFBeh, plainObj, WF]

end OttoVerif.C05.Ops2Thm
