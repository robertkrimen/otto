/-
  C05/StrKindTheorems — comparison, concatenation, ToBoolean and property-name identity of strings are functions
  of the sequence of code units, whatever the internal representation (C05/StrKind).  Everything that passes through
  `Value.string()` rests on `units_roundtrip` (C09's `U_bytesOfUnits`), hence the hypothesis `hasLone = false`;
  `+` and ToBoolean do not need it.
-/
import OttoVerif.C05.StrKind
import OttoVerif.C05.Theorems
import OttoVerif.C09.Lemmas
namespace OttoVerif.C05.StrKindThm
open OttoVerif.C05 OttoVerif.C05.StrKind OttoVerif.Str OttoVerif.C09 OttoVerif.C09.Lem

/-- text without unpaired surrogates survives the trip through its Go string form -/
theorem units_roundtrip (us : List Nat) (hw : wellPaired us = true) (hu : ∀ u ∈ us, u < 0x10000) :
    unitsOfBytes (bytesOfUnits us) = us :=
  U_bytesOfUnits us hw hu

theorem string_inj (a b : List Nat) (ha : wellPaired a = true) (hb : wellPaired b = true)
    (hua : ∀ u ∈ a, u < 0x10000) (hub : ∀ u ∈ b, u < 0x10000) (h : bytesOfUnits a = bytesOfUnits b) : a = b := by
  rw [← units_roundtrip a ha hua, ← units_roundtrip b hb hub, h]

/-- `===`, `==`, property-name identity: the same sequence of code units, in either representation -/
theorem equal_units (x y : SV) (hx : x.WF) (hy : y.WF) (lx : hasLone x = false) (ly : hasLone y = false) :
    eqM x y = Spec.eqS x y := by
  simp only [hasLone, Bool.not_eq_false'] at lx ly
  simp only [eqM, Spec.eqS, SV.string]
  rw [Bool.eq_iff_iff]
  simp only [beq_iff_eq]
  exact ⟨string_inj _ _ lx ly hx.1 hy.1, fun h => by rw [h]⟩

theorem key_units (x y : SV) (hx : x.WF) (hy : y.WF) (lx : hasLone x = false) (ly : hasLone y = false) :
    keyM x y = Spec.keyS x y := equal_units x y hx hy lx ly

/-- `<`: code-unit order, in either representation -/
theorem lt_units (x y : SV) (hx : x.WF) (hy : y.WF) (lx : hasLone x = false) (ly : hasLone y = false) :
    ltM x y = Spec.ltS x y := by
  simp only [hasLone, Bool.not_eq_false'] at lx ly
  simp only [ltM, Spec.ltS, SV.string, OttoVerif.C05.Thm.lessThanUTF16_eq, C05.Spec.unitLt,
    units_roundtrip _ lx hx.1, units_roundtrip _ ly hy.1]

/-- all eight comparison operators on two strings -/
theorem cmp_units (c : Cmp) (x y : SV) (hx : x.WF) (hy : y.WF) (lx : hasLone x = false) (ly : hasLone y = false) :
    cmpM c x y = Spec.cmpS c x y := by
  cases c <;> simp only [cmpM, Spec.cmpS, lt_units x y hx hy lx ly, lt_units y x hy hx ly lx, equal_units x y hx hy lx ly]

theorem joinUnits_eq (x : SV) (hx : x.WF) : x.joinUnits = x.units := by
  unfold SV.joinUnits SV.string
  cases h : x.rep16
  · simp only [Bool.false_eq_true, if_false]; exact units_roundtrip _ (hx.2 h) hx.1
  · simp

theorem utf16Value_units (us : List Nat) (hu : ∀ u ∈ us, u < 0x10000) : (StrKind.utf16Value us).units = us := by
  unfold StrKind.utf16Value
  split
  · rename_i hw; exact units_roundtrip us hw hu
  · rfl

/-- `+`: the code units are concatenated EXACTLY, in every combination of representations and even when
    an operand holds an unpaired surrogate (a08e94f) -/
theorem cat_units (x y : SV) (hx : x.WF) (hy : y.WF) : (catM x y).units = Spec.catS x y := by
  unfold catM Spec.catS
  split
  · rw [utf16Value_units, joinUnits_eq x hx, joinUnits_eq y hy]
    rw [joinUnits_eq x hx, joinUnits_eq y hy]
    exact List.forall_mem_append.2 ⟨hx.1, hy.1⟩
  · rename_i h
    simp only [Bool.or_eq_true, not_or, Bool.not_eq_true] at h
    obtain ⟨sa, ea⟩ := utf16_roundtrip x.units (hx.2 h.1) hx.1
    obtain ⟨sb, eb⟩ := utf16_roundtrip y.units (hy.2 h.2) hy.1
    simp only [SV.string, unitsOfBytes, bytesOfUnits, encodeRunes, ← List.flatMap_append]
    have := decodeRunes_encodeRunes (utf16Decode x.units ++ utf16Decode y.units) (List.forall_mem_append.2 ⟨sa, sb⟩)
    simp only [encodeRunes] at this
    rw [this]
    simp only [utf16Encode, List.flatMap_append] at ea eb ⊢
    rw [ea, eb]

/-- ToBoolean: false exactly for the empty sequence of code units, in either representation -/
theorem bool_units (x : SV) : boolM x = Spec.boolS x := by
  have ne : ∀ l : List Nat, (l.length != 0) = !l.isEmpty := fun l => by cases l <;> rfl
  unfold boolM Spec.boolS SV.string bytesOfUnits
  cases x.rep16
  · exact (ne _).trans (by rw [encodeRunes_isEmpty, utf16Decode_isEmpty])
  · exact (ne _).trans (by rw [utf16Decode_isEmpty])

/-- `new String(s)` keeps the code units of s (§15.5.2.1) -/
theorem objM_units (x : SV) (hx : x.WF) (lx : hasLone x = false) : (objM x).units = x.units ∧ (objM x).WF := by
  simp only [hasLone, Bool.not_eq_false'] at lx
  have h := units_roundtrip x.units lx hx.1
  refine ⟨h, ?_⟩
  unfold objM SV.WF SV.string
  simp only [h]
  exact ⟨hx.1, fun _ => lx⟩

/-- ToNumber reads the text, whatever holds it -/
theorem num_units (E : Env) (x : SV) : numM E x = Spec.numS E x := rfl

/-- witnesses: "a" as a Go string and as String.fromCharCode(97) are `===`; a surrogate pair built by
    concatenating its halves equals the literal; the region: two different unpaired surrogates compare equal -/
example : eqM ⟨[97], false⟩ ⟨[97], true⟩ = true := by decide
example : (catM ⟨[0xD800], true⟩ ⟨[0xDC00], true⟩).units = [0xD800, 0xDC00] ∧ (catM ⟨[0xD800], true⟩ ⟨[0xDC00], true⟩).rep16 = false := by decide
example : eqM ⟨[0xD800], true⟩ ⟨[0xD801], true⟩ = true ∧ Spec.eqS ⟨[0xD800], true⟩ ⟨[0xD801], true⟩ = false := by decide

end OttoVerif.C05.StrKindThm
