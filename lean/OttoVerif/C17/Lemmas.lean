/-
  C17/Lemmas — association lists, the `refs`/`map` laws of nodes, and the cloner's invariant.  One statement
  per function of the cloner says what it guarantees by the way it ends (`Ends`: a returned state satisfies
  `Post`; fuel runs out only if there was no more of it than nodes still to do): `forRefs_post`,
  `cloneRef_post`, `cloneRuntime_post`, the last with `cloneRuntime_facts` as its reading for a successful
  `runtime.clone`.
-/
import OttoVerif.C17.Spec
namespace OttoVerif.C17

theorem look_cons {α : Type} (a k : Addr) (v : α) (l : List (Addr × α)) :
    look a ((k, v) :: l) = if k = a then some v else look a l := rfl

theorem look_mem {α : Type} {a : Addr} {v : α} {l : List (Addr × α)} (h : look a l = some v) : (a, v) ∈ l := by
  induction l with
  | nil => cases h
  | cons kv rest ih =>
    obtain ⟨k, w⟩ := kv
    rw [look_cons] at h
    split at h
    · cases h; subst k; exact List.mem_cons_self
    · exact List.mem_cons_of_mem _ (ih h)

theorem look_append {α : Type} (a : Addr) (l1 l2 : List (Addr × α)) :
    look a (l1 ++ l2) = match look a l1 with | some v => some v | none => look a l2 := by
  induction l1 with
  | nil => rfl
  | cons kv rest ih =>
    obtain ⟨k, v⟩ := kv
    simp only [List.cons_append, look_cons]
    split
    · rfl
    · exact ih

theorem look_append_cases {α : Type} {a : Addr} {v : α} {l1 l2 : List (Addr × α)} (h : look a (l1 ++ l2) = some v) :
    look a l1 = some v ∨ look a l2 = some v := by
  rw [look_append] at h
  split at h
  · next w hw => exact .inl (hw.trans h)
  · exact .inr h

theorem look_append_right {α : Type} {a : Addr} {l1 : List (Addr × α)} (l2 : List (Addr × α))
    (hn : ∀ v, (a, v) ∉ l1) : look a (l1 ++ l2) = look a l2 := by
  rw [look_append]
  split
  · next w hw => exact absurd (look_mem hw) (hn w)
  · rfl

theorem look_updateAt (a y : Addr) (f : Node → Node) (l : Heap) :
    look y (updateAt a f l) = if y = a then (look y l).map f else look y l := by
  induction l with
  | nil => simp [updateAt, look]
  | cons kv rest ih =>
    obtain ⟨k, v⟩ := kv
    by_cases hk : k = a
    · subst hk
      by_cases hy : k = y
      · subst hy; simp [updateAt, look_cons]
      · simp [updateAt, look_cons, hy, Ne.symm hy]
    · by_cases hy : k = y
      · subst hy; simp [updateAt, look_cons, hk]
      · simp [updateAt, look_cons, hk, hy, ih]

/-- what holds of every entry, and still holds of an entry after `f`, holds of every entry of `updateAt a f l` -/
theorem updateAt_all {P : Addr → Node → Prop} {a : Addr} {f : Node → Node} (hf : ∀ k v, P k v → P k (f v)) :
    ∀ l : Heap, (∀ k v, (k, v) ∈ l → P k v) → ∀ k v, (k, v) ∈ updateAt a f l → P k v := by
  intro l
  induction l with
  | nil => intro _ k v h; cases h
  | cons kv rest ih =>
    intro hl k v h
    simp only [updateAt] at h
    split at h <;> rcases List.mem_cons.mp h with h | h
    · cases h; exact hf _ _ (hl _ _ List.mem_cons_self)
    · exact hl k v (List.mem_cons_of_mem _ h)
    · cases h; exact hl _ _ List.mem_cons_self
    · exact ih (fun k v h => hl k v (List.mem_cons_of_mem _ h)) k v h

theorem mem_optRefs {o : Option Addr} {a : Addr} : a ∈ optRefs o ↔ o = some a := by
  cases o with
  | none => exact ⟨fun h => (List.not_mem_nil h).elim, fun h => nomatch h⟩
  | some b => exact List.mem_singleton.trans ⟨fun h => h ▸ rfl, fun h => (Option.some.inj h).symm⟩

theorem refs_setProto (p : Option Addr) (n : Node) : ∀ c ∈ (setProto p n).refs, c ∈ optRefs p ∨ c ∈ n.refs := by
  intro c hc
  cases n with
  | obj o =>
    simp only [setProto, Node.refs, List.mem_append] at hc ⊢
    exact hc.imp_right .inr
  | _ => exact .inr hc

/- `refs` and `map`, each law field by field up to `Node`: the clone of a node refers exactly to the
   clones of what the node refers to (`…refs_map`), `map` depends only on the values of `f` at the
   node's references (`…map_congr`), and maps compose (`…map_map`). -/

section laws
variable (f g : Addr → Addr)

theorem optRefs_map (o : Option Addr) : optRefs (optMap f o) = (optRefs o).map f := by
  cases o <;> rfl

theorem Val.refs_map (v : Val) : (v.map f).refs = v.refs.map f := by
  cases v <;> rfl

theorem valsRefs_map (vs : List Val) : valsRefs (valsMap f vs) = (valsRefs vs).map f := by
  induction vs <;> simp [valsRefs, valsMap, Val.refs_map, *]

theorem PVal.refs_map (p : PVal) : (p.map f).refs = p.refs.map f := by
  cases p <;> simp [PVal.map, PVal.refs, Val.refs_map, optRefs_map]

theorem propsRefs_map (ps : List PropE) : propsRefs (propsMap f ps) = (propsRefs ps).map f := by
  induction ps <;> simp [propsRefs, propsMap, PVal.refs_map, *]

theorem Payload.refs_map (p : Payload) : (p.map f).refs = p.refs.map f := by
  cases p <;> simp [Payload.map, Payload.refs, Val.refs_map, valsRefs_map, optRefs_map]

theorem bindingsRefs_map (bs : List Binding) : bindingsRefs (bindingsMap f bs) = (bindingsRefs bs).map f := by
  induction bs <;> simp [bindingsRefs, bindingsMap, Val.refs_map, *]

theorem Node.refs_map (r : Nat) (n : Node) : (n.map r f).refs = n.refs.map f := by
  cases n <;> simp [Node.map, Node.refs, optRefs_map, propsRefs_map, Payload.refs_map, bindingsRefs_map]

variable {f g}

theorem optMap_congr (o : Option Addr) (h : ∀ c ∈ optRefs o, f c = g c) : optMap f o = optMap g o := by
  cases o with
  | none => rfl
  | some a => exact congrArg some (h a List.mem_cons_self)

theorem Val.map_congr (v : Val) (h : ∀ c ∈ v.refs, f c = g c) : v.map f = v.map g := by
  cases v with
  | prim p => rfl
  | ref a => exact congrArg Val.ref (h a List.mem_cons_self)

theorem valsMap_congr (vs : List Val) (h : ∀ c ∈ valsRefs vs, f c = g c) : valsMap f vs = valsMap g vs := by
  induction vs with
  | nil => rfl
  | cons v vs ih =>
    simp only [valsRefs, List.forall_mem_append] at h
    rw [valsMap, valsMap, Val.map_congr v h.1, ih h.2]

theorem PVal.map_congr (p : PVal) (h : ∀ c ∈ p.refs, f c = g c) : p.map f = p.map g := by
  cases p with
  | data v => rw [PVal.map, PVal.map, Val.map_congr v h]
  | acc a b =>
    simp only [PVal.refs, List.forall_mem_append] at h
    rw [PVal.map, PVal.map, optMap_congr a h.1, optMap_congr b h.2]
  | bad => rfl

theorem propsMap_congr (ps : List PropE) (h : ∀ c ∈ propsRefs ps, f c = g c) : propsMap f ps = propsMap g ps := by
  induction ps with
  | nil => rfl
  | cons p ps ih =>
    simp only [propsRefs, List.forall_mem_append] at h
    rw [propsMap, propsMap, PVal.map_congr p.val h.1, ih h.2]

theorem Payload.map_congr (p : Payload) (h : ∀ c ∈ p.refs, f c = g c) : p.map f = p.map g := by
  cases p with
  | other t => rfl
  | native i => rfl
  | bound t th as =>
    simp only [Payload.refs, List.mem_cons, List.mem_append, or_imp, forall_and, forall_eq] at h
    rw [Payload.map, Payload.map, h.1, Val.map_congr th h.2.1, valsMap_congr as h.2.2]
  | nodeFn n s => rw [Payload.map, Payload.map, optMap_congr s h]
  | arguments ns s => rw [Payload.map, Payload.map, optMap_congr s h]

theorem bindingsMap_congr (bs : List Binding) (h : ∀ c ∈ bindingsRefs bs, f c = g c) : bindingsMap f bs = bindingsMap g bs := by
  induction bs with
  | nil => rfl
  | cons b bs ih =>
    simp only [bindingsRefs, List.forall_mem_append] at h
    rw [bindingsMap, bindingsMap, Val.map_congr b.val h.1, ih h.2]

theorem Node.map_congr (r : Nat) (n : Node) (h : ∀ c ∈ n.refs, f c = g c) : n.map r f = n.map r g := by
  cases n with
  | obj o =>
    simp only [Node.refs, List.forall_mem_append] at h
    rw [Node.map, Node.map, optMap_congr o.proto h.1, propsMap_congr o.props h.2.1, Payload.map_congr o.payload h.2.2]
  | dcl rt outer bs =>
    simp only [Node.refs, List.forall_mem_append] at h
    rw [Node.map, Node.map, bindingsMap_congr bs h.1, optMap_congr outer h.2]
  | fn rt outer bs args idx =>
    simp only [Node.refs, List.forall_mem_append] at h
    rw [Node.map, Node.map, bindingsMap_congr bs h.1, optMap_congr outer h.2.1, optMap_congr args h.2.2]
  | ost rt outer object =>
    simp only [Node.refs, List.forall_mem_append, List.forall_mem_singleton] at h
    rw [Node.map, Node.map, optMap_congr outer h.1, h.2]

variable (f g)

theorem optMap_optMap (o : Option Addr) : optMap g (optMap f o) = optMap (g ∘ f) o := by
  cases o <;> rfl

theorem Val.map_map (v : Val) : (v.map f).map g = v.map (g ∘ f) := by
  cases v <;> rfl

theorem valsMap_valsMap (vs : List Val) : valsMap g (valsMap f vs) = valsMap (g ∘ f) vs := by
  induction vs <;> simp [valsMap, Val.map_map, *]

theorem PVal.map_map (p : PVal) : (p.map f).map g = p.map (g ∘ f) := by
  cases p <;> simp [PVal.map, Val.map_map, optMap_optMap]

theorem propsMap_propsMap (ps : List PropE) : propsMap g (propsMap f ps) = propsMap (g ∘ f) ps := by
  induction ps <;> simp [propsMap, PVal.map_map, *]

theorem Payload.map_map (p : Payload) : (p.map f).map g = p.map (g ∘ f) := by
  cases p <;> simp [Payload.map, Val.map_map, valsMap_valsMap, optMap_optMap]

theorem bindingsMap_bindingsMap (bs : List Binding) : bindingsMap g (bindingsMap f bs) = bindingsMap (g ∘ f) bs := by
  induction bs <;> simp [bindingsMap, Val.map_map, *]

theorem Node.map_map (r s : Nat) (n : Node) : (n.map r f).map s g = n.map s (g ∘ f) := by
  cases n <;> simp [Node.map, optMap_optMap, propsMap_propsMap, Payload.map_map, bindingsMap_bindingsMap]

end laws

/-- every address handed out so far lies in `[base, st.next)`: the memo's values (which are distinct), the
    addresses written to, and every reference stored there -/
structure Inv (base : Addr) (st : St) : Prop where
  memoRange : ∀ x y, look x st.memo = some y → base ≤ y ∧ y < st.next
  inj       : ∀ x x' y, look x st.memo = some y → look x' st.memo = some y → x = x'
  outRange  : ∀ y n, (y, n) ∈ st.out → (base ≤ y ∧ y < st.next) ∧ ∀ c ∈ n.refs, base ≤ c ∧ c < st.next
  baseLe    : base ≤ st.next

theorem at_of_look {st : St} {x y : Addr} (h : look x st.memo = some y) : st.at x = y := by
  simp [St.at, h]

/-- `st.at a` is what the memo holds for `a` -/
theorem look_at {st : St} {a : Addr} (ha : look a st.memo ≠ none) : look a st.memo = some (st.at a) := by
  obtain ⟨y, hy⟩ := Option.ne_none_iff_exists'.mp ha
  rw [at_of_look hy, hy]

theorem Inv.at_range {base : Addr} {st : St} (hi : Inv base st) {a : Addr} (ha : look a st.memo ≠ none) :
    base ≤ st.at a ∧ st.at a < st.next :=
  hi.memoRange a _ (look_at ha)

/-- an address is handed out -/
theorem Inv.bump {base : Addr} {st : St} (hi : Inv base st) : Inv base { st with next := st.next + 1 } where
  memoRange x y hxy := (hi.memoRange x y hxy).imp_right Nat.lt_succ_of_lt
  inj := hi.inj
  outRange y n hy :=
    ⟨(hi.outRange y n hy).1.imp_right Nat.lt_succ_of_lt,
     fun c hc => ((hi.outRange y n hy).2 c hc).imp_right Nat.lt_succ_of_lt⟩
  baseLe := Nat.le_succ_of_le hi.baseLe

/-- the first half of a call that misses the memo: `out` is allocated and entered into the memo -/
theorem Inv.alloc {base : Addr} {st : St} (hi : Inv base st) (a : Addr) :
    Inv base { memo := (a, st.next) :: st.memo, out := st.out, next := st.next + 1 } where
  memoRange x y hxy := by
    rw [look_cons] at hxy
    split at hxy
    · cases hxy; exact ⟨hi.baseLe, Nat.lt_succ_self _⟩
    · exact hi.bump.memoRange x y hxy
  inj x x' y hx hx' := by
    rw [look_cons] at hx hx'
    split at hx <;> split at hx'
    · rename_i h1 h2; exact h1.symm.trans h2
    · cases hx; exact absurd (hi.memoRange x' _ hx').2 (Nat.lt_irrefl _)
    · cases hx'; exact absurd (hi.memoRange x _ hx).2 (Nat.lt_irrefl _)
    · exact hi.inj x x' y hx hx'
  outRange := hi.bump.outRange
  baseLe := hi.bump.baseLe

/-- a node is written at an address already handed out, holding references already handed out -/
theorem Inv.write {base : Addr} {st : St} (hi : Inv base st) {b : Addr} {n : Node}
    (hb : base ≤ b ∧ b < st.next) (hn : ∀ c ∈ n.refs, base ≤ c ∧ c < st.next) :
    Inv base { st with out := (b, n) :: st.out } where
  memoRange := hi.memoRange
  inj := hi.inj
  outRange y n' hy := by
    rcases List.mem_cons.mp hy with h | h
    · cases h; exact ⟨hb, hn⟩
    · exact hi.outRange y n' h
  baseLe := hi.baseLe

/-- `out.globalObject.prototype = out.global.ObjectPrototype`: one node gets a prototype that was handed out -/
theorem Inv.setProto {base : Addr} {st : St} (hi : Inv base st) (a : Addr) {p : Option Addr}
    (hp : ∀ q ∈ optRefs p, base ≤ q ∧ q < st.next) : Inv base { st with out := updateAt a (setProto p) st.out } where
  memoRange := hi.memoRange
  inj := hi.inj
  outRange := updateAt_all (fun _ v hv => ⟨hv.1, fun c hc => (refs_setProto p v c hc).elim (hp c) (hv.2 c)⟩)
    st.out hi.outRange
  baseLe := hi.baseLe

/-- `st'` extends `st`: the memo only grows, and what was written below `st.next` stays -/
structure Ext (st st' : St) : Prop where
  memo : ∀ x y, look x st.memo = some y → look x st'.memo = some y
  out  : ∀ y, y < st.next → look y st'.out = look y st.out
  next : st.next ≤ st'.next

theorem Ext.trans {a b c : St} (h1 : Ext a b) (h2 : Ext b c) : Ext a c where
  memo x y h := h2.memo x y (h1.memo x y h)
  out y hy := by rw [h2.out y (Nat.lt_of_lt_of_le hy h1.next), h1.out y hy]
  next := Nat.le_trans h1.next h2.next

theorem Ext.has {st st' : St} (he : Ext st st') {a : Addr} (ha : look a st.memo ≠ none) : look a st'.memo ≠ none := by
  rw [he.memo a _ (look_at ha)]
  exact Option.some_ne_none _

theorem Ext.at_eq {st st' : St} (he : Ext st st') {a : Addr} (ha : look a st.memo ≠ none) : st.at a = st'.at a :=
  (at_of_look (he.memo a _ (look_at ha))).symm

theorem Ext.alloc {st : St} {a : Addr} (hm : look a st.memo = none) :
    Ext st { memo := (a, st.next) :: st.memo, out := st.out, next := st.next + 1 } where
  memo x y hxy := by
    rw [look_cons, if_neg]
    · exact hxy
    · intro hax; rw [← hax, hm] at hxy; cases hxy
  out _ _ := rfl
  next := Nat.le_succ _

/-- writing at an address that `st` had not handed out yet -/
theorem Ext.write {st st' : St} (he : Ext st st') {b : Addr} (hb : st.next ≤ b) (n : Node) :
    Ext st { st' with out := (b, n) :: st'.out } where
  memo := he.memo
  out y hy := by
    rw [look_cons, if_neg (fun (hby : b = y) => Nat.lt_irrefl y (Nat.lt_of_lt_of_le hy (hby ▸ hb)))]
    exact he.out y hy
  next := he.next

/-- node `x` has been cloned completely: its clone is the image of the source node under the memo -/
def Done (r : Nat) (h : Heap) (st : St) (x : Addr) : Prop :=
  ∃ y n, look x st.memo = some y ∧ look x h = some n ∧ look y st.out = some (n.map r st.at) ∧
    ∀ c ∈ n.refs, look c st.memo ≠ none

/-- later memo entries do not change the image of a finished node: all its references were in the memo already -/
theorem Done.mono {r : Nat} {h : Heap} {base : Addr} {st st' : St} {x : Addr}
    (hi : Inv base st) (he : Ext st st') (hd : Done r h st x) : Done r h st' x := by
  obtain ⟨y, n, hm, hh, ho, hr⟩ := hd
  refine ⟨y, n, he.memo x y hm, hh, ?_, fun c hc => he.has (hr c hc)⟩
  rw [he.out y (hi.memoRange x y hm).2, ho, Node.map_congr r n fun c hc => he.at_eq (hr c hc)]

theorem Done.write {r : Nat} {h : Heap} {st : St} {x b : Addr} (hd : Done r h st x) (hb : look x st.memo ≠ some b)
    (n : Node) : Done r h { st with out := (b, n) :: st.out } x := by
  obtain ⟨y, n', hm, hh, ho, hr⟩ := hd
  refine ⟨y, n', hm, hh, ?_, hr⟩
  rw [look_cons, if_neg (fun (hby : b = y) => hb (hby ▸ hm))]
  exact ho

/-- what calls of the cloner on the addresses `as` guarantee: these are in the memo, and every node entered into the
    memo is finished when the last returns -/
structure Post (r : Nat) (h : Heap) (base : Addr) (as : List Addr) (st st' : St) : Prop where
  inv  : Inv base st'
  ext  : Ext st st'
  has  : ∀ a ∈ as, look a st'.memo ≠ none
  done : ∀ x, look x st'.memo ≠ none → look x st.memo = none → Done r h st' x

theorem Post.refl {r : Nat} {h : Heap} {base : Addr} {st : St} {as : List Addr} (hi : Inv base st)
    (has : ∀ a ∈ as, look a st.memo ≠ none) : Post r h base as st st :=
  ⟨hi, ⟨fun _ _ h => h, fun _ _ => rfl, Nat.le_refl _⟩, has, fun _ h1 h2 => absurd h2 h1⟩

theorem Post.trans {r : Nat} {h : Heap} {base : Addr} {as bs : List Addr} {st sm st' : St}
    (p1 : Post r h base as st sm) (p2 : Post r h base bs sm st') : Post r h base (as ++ bs) st st' where
  inv := p2.inv
  ext := p1.ext.trans p2.ext
  has a ha := (List.mem_append.mp ha).elim (fun ha => p2.ext.has (p1.has a ha)) (p2.has a)
  done x hx hxs := by
    by_cases hxm : look x sm.memo = none
    · exact p2.done x hx hxm
    · exact (p1.done x hxm hxs).mono p1.inv p2.ext

/-- nodes of the source heap not yet memoised -/
def todo (h : Heap) (st : St) : Nat := h.countP fun kv => (look kv.1 st.memo).isNone

theorem todo_mono (h : Heap) {st st' : St} (he : Ext st st') : todo h st' ≤ todo h st := by
  refine List.countP_mono_left fun kv _ hq => ?_
  cases hl : look kv.1 st.memo with
  | none => rfl
  | some y => rw [he.memo _ _ hl] at hq; cases hq

/-- a call that misses the memo on a node of the heap leaves fewer to do -/
theorem todo_alloc {h : Heap} {st : St} {a : Addr} {n : Node} (hm : look a st.memo = none) (hh : look a h = some n) :
    todo h { memo := (a, st.next) :: st.memo, out := st.out, next := st.next + 1 } < todo h st := by
  obtain ⟨s, t, rfl⟩ := List.append_of_mem (look_mem hh)
  -- no more to do before and after the node's place in the heap, one less at it
  have hs := todo_mono s (Ext.alloc hm)
  have ht := todo_mono t (Ext.alloc hm)
  have h1 : (look a ((a, st.next) :: st.memo)).isNone = false := by rw [look_cons, if_pos rfl]; rfl
  have h2 : (look a st.memo).isNone = true := by rw [hm]; rfl
  simp only [todo, List.countP_append, List.countP_cons, h1, h2, if_true, Bool.false_eq_true, if_false] at hs ht ⊢
  omega

/-- calls of the cloner on `as` from `st`, by the way they end: a state they return satisfies `Post`; they run out
    of fuel only if they were given no more than there are nodes still to do; a Go panic is a Go panic -/
def Ends (r : Nat) (h : Heap) (base : Addr) (fuel : Nat) (as : List Addr) (st : St) : Res St → Prop
  | .ok st' => Post r h base as st st'
  | .fuel => fuel ≤ todo h st
  | .panic => True

/-- a call made after another that returned -/
theorem Ends.after {r : Nat} {h : Heap} {base : Addr} {fuel : Nat} {as bs : List Addr} {st sm : St} {res : Res St}
    (he : Ends r h base fuel bs sm res) (p1 : Post r h base as st sm) : Ends r h base fuel (as ++ bs) st res := by
  cases res with
  | ok st' => exact p1.trans he
  | fuel => exact Nat.le_trans he (todo_mono h p1.ext)
  | panic => exact True.intro

theorem forRefs_post (r : Nat) (h : Heap) (base : Addr) (fuel : Nat) (f : Addr → St → Res St)
    (hf : ∀ a st, Inv base st → Ends r h base fuel [a] st (f a st)) :
    ∀ (as : List Addr) (st : St), Inv base st → Ends r h base fuel as st (forRefs f as st) := by
  intro as
  induction as with
  | nil => intro st hi; exact Post.refl hi nofun
  | cons a as ih =>
    intro st hi
    have ha := hf a st hi
    simp only [forRefs]
    generalize f a st = res at ha ⊢
    cases res with
    | panic => exact True.intro
    | fuel => exact ha
    | ok sm => exact (ih sm ha.inv).after ha  -- `[a] ++ as` is `a :: as` by computation

theorem cloneRef_post (r : Nat) (h : Heap) (base : Addr) :
    ∀ (fuel : Nat) (a : Addr) (st : St), Inv base st →
      Ends r h base fuel [a] st (cloneRef r h fuel a st) := by
  intro fuel
  induction fuel with
  | zero => intro a st _; exact Nat.zero_le _
  | succ fuel ih =>
    intro a st hi
    simp only [cloneRef]
    cases hm : look a st.memo with
    | some b => exact Post.refl hi fun c hc => by cases List.mem_singleton.mp hc; rw [hm]; nofun
    | none =>
      cases hh : look a h with
      | none => exact True.intro
      | some n =>
        simp only
        split
        · exact True.intro
        · have e2 := forRefs_post r h base fuel _ ih n.refs _ (hi.alloc a)
          generalize forRefs (cloneRef r h fuel) n.refs
              { memo := (a, st.next) :: st.memo, out := st.out, next := st.next + 1 } = res at e2 ⊢
          cases res with
          | panic => exact True.intro
          | fuel =>
            -- the nested calls ran out of `fuel` having started with fewer nodes to do than there were here
            exact Nat.succ_le_of_lt (Nat.lt_of_le_of_lt e2 (todo_alloc hm hh))
          | ok st2 =>
            have p2 : Post r h base n.refs _ st2 := e2
            have he1 : Ext st _ := Ext.alloc hm
            have hab : look a st2.memo = some st.next := p2.ext.memo a _ (by rw [look_cons, if_pos rfl])
            have hnext : st.next < st2.next := p2.ext.next
            -- the node written at `st.next`: its references are memo values of `st2`
            have hw : ∀ c ∈ (n.map r st2.at).refs, base ≤ c ∧ c < st2.next := by
              intro c hc
              rw [Node.refs_map] at hc
              obtain ⟨c0, hc0, rfl⟩ := List.mem_map.mp hc
              exact p2.inv.at_range (p2.has c0 hc0)
            refine ⟨p2.inv.write ⟨hi.baseLe, hnext⟩ hw, (he1.trans p2.ext).write (Nat.le_refl _) _,
              fun c hc => by cases List.mem_singleton.mp hc; rw [hab]; nofun, ?_⟩
            intro x hx hxs
            by_cases hax : a = x
            · subst hax
              exact ⟨st.next, n, hab, hh, by rw [look_cons, if_pos rfl]; rfl, p2.has⟩
            · -- `x` was entered by one of the nested calls; its clone is not at `st.next`, since the memo is injective
              have hx1 : look x ((a, st.next) :: st.memo) = none := by rw [look_cons, if_neg hax]; exact hxs
              exact (p2.done x hx hx1).write (fun hxb => hax (p2.inv.inj a x _ hab hxb)) _

/-- `out.globalStash = out.newObjectStash(globalObject, nil)` -/
theorem post_globalStash {r : Nat} {h : Heap} {base : Addr} {st : St} {g : Addr} (hi : Inv base st)
    (hg : look g st.memo ≠ none) :
    Post r h base [] st { st with out := (st.next, Node.ost r none (st.at g)) :: st.out, next := st.next + 1 } where
  inv := by
    refine hi.bump.write ⟨hi.baseLe, Nat.lt_succ_self _⟩ fun c hc => ?_
    cases List.mem_singleton.mp hc
    exact (hi.at_range hg).imp_right Nat.lt_succ_of_lt
  ext := ⟨fun _ _ hxy => hxy, fun y hy => by rw [look_cons, if_neg (Nat.ne_of_gt hy)], Nat.le_succ _⟩
  has := nofun
  done x hx hxs := absurd hxs hx

def Cloned.phi (c : Cloned) (a : Addr) : Addr := (look a c.memo).getD a

/-- everything `runtime.clone` guarantees, in terms of the memo table -/
structure CloneFacts (r : Nat) (h : Heap) (base : Addr) (roots : Roots) (c : Cloned) : Prop where
  range   : ∀ x y, look x c.memo = some y → base ≤ y ∧ y < c.next
  inj     : ∀ x x' y, look x c.memo = some y → look x' c.memo = some y → x = x'
  image   : ∀ x y, look x c.memo = some y → ∃ n, look x h = some n ∧
              look y c.out = some (if x = roots.globalObject then setProto ((roots.globals.map c.phi)[objectPrototypeIx]?) (n.map r c.phi) else n.map r c.phi) ∧
              ∀ c' ∈ n.refs, look c' c.memo ≠ none
  rootsIn : ∀ a ∈ roots.globalObject :: (roots.globals ++ [roots.eval]), look a c.memo ≠ none
  gObj    : c.roots.globalObject = c.phi roots.globalObject
  globals : c.roots.globals = roots.globals.map c.phi
  evalR   : c.roots.eval = c.phi roots.eval
  gStash  : look c.roots.globalStash c.out = some (.ost r none c.roots.globalObject) ∧ base ≤ c.roots.globalStash
  sep     : ∀ y n, (y, n) ∈ c.out → base ≤ y ∧ ∀ c' ∈ n.refs, base ≤ c'
  outLt   : ∀ y n, look y c.out = some n → y < c.next
  refsLt  : ∀ y n, (y, n) ∈ c.out → ∀ c' ∈ n.refs, c' < c.next

/-- `runtime.clone` by the way it ends: what it returns has the `CloneFacts`, and with more fuel than the heap has
    nodes it does not run out -/
theorem cloneRuntime_post (r : Nat) (h : Heap) (base fuel : Nat) (roots : Roots) :
    match cloneRuntime r h base fuel roots with
    | .ok c => CloneFacts r h base roots c
    | .fuel => fuel ≤ h.length
    | .panic => True := by
  unfold cloneRuntime
  simp only
  have hi0 : Inv base { memo := [], out := [], next := base } :=
    ⟨fun _ _ (h : none = some _) => (nomatch h), fun _ _ _ (h : none = some _) => (nomatch h),
     fun _ _ h => (List.not_mem_nil h).elim, Nat.le_refl _⟩
  have e1 := cloneRef_post r h base fuel roots.globalObject _ hi0
  generalize cloneRef r h fuel roots.globalObject { memo := [], out := [], next := base } = res at e1 ⊢
  cases res with
  | panic => exact True.intro
  | fuel => exact Nat.le_trans e1 List.countP_le_length
  | ok st1 =>
    simp only
    have p1 : Post r h base [roots.globalObject] _ st1 := e1
    have hg1 := p1.has _ List.mem_cons_self
    have p2 := post_globalStash (r := r) (h := h) p1.inv hg1
    have e3 := forRefs_post r h base fuel _ (cloneRef_post r h base fuel) roots.globals _ p2.inv
    generalize forRefs (cloneRef r h fuel) roots.globals
        { st1 with out := (st1.next, Node.ost r none (st1.at roots.globalObject)) :: st1.out, next := st1.next + 1 }
        = res at e3 ⊢
    cases res with
    | panic => exact True.intro
    | fuel => exact Nat.le_trans e3 List.countP_le_length
    | ok st3 =>
      simp only
      have p3 : Post r h base roots.globals _ st3 := e3
      have e4 := cloneRef_post r h base fuel roots.eval st3 p3.inv
      generalize cloneRef r h fuel roots.eval st3 = res at e4 ⊢
      cases res with
      | panic => exact True.intro
      | fuel => exact Nat.le_trans e4 List.countP_le_length
      | ok st4 =>
        have p4 : Post r h base [roots.eval] st3 st4 := e4
        show CloneFacts r h base roots _
        -- the whole run is one call on the object roots (the list is the appended one, by computation): they are in
        -- the memo, and everything in the memo is finished
        have p : Post r h base (roots.globalObject :: (roots.globals ++ [roots.eval])) _ st4 :=
          ((p1.trans p2).trans p3).trans p4
        have e14 : Ext st1 st4 := (p2.ext.trans p3.ext).trans p4.ext
        obtain ⟨g', hg'⟩ := Option.ne_none_iff_exists'.mp (p.has _ List.mem_cons_self)
        have hatg : st1.at roots.globalObject = g' := (e14.at_eq hg1).trans (at_of_look hg')
        have hproto : ∀ q ∈ optRefs (roots.globals.map st4.at)[objectPrototypeIx]?, base ≤ q ∧ q < st4.next := by
          intro q hq
          obtain ⟨q0, hq0, rfl⟩ := List.mem_map.mp (List.mem_of_getElem? (mem_optRefs.mp hq))
          exact p4.inv.at_range (p.has q0 (List.mem_cons_of_mem _ (List.mem_append_left _ hq0)))
        have hi := p4.inv.setProto (st1.at roots.globalObject) hproto
        have hne : st1.next ≠ g' := Nat.ne_of_gt (hatg ▸ p1.inv.at_range hg1).2
        refine ⟨p4.inv.memoRange, p4.inv.inj, ?_, p.has, e14.at_eq hg1, rfl, rfl, ⟨?_, p1.inv.baseLe⟩,
          fun y n hy => ⟨(hi.outRange y n hy).1.1, fun c' hc' => ((hi.outRange y n hy).2 c' hc').1⟩,
          fun y n hy => (hi.outRange y n (look_mem hy)).1.2,
          fun y n hy c' hc' => ((hi.outRange y n hy).2 c' hc').2⟩
        · intro x y hxy
          obtain ⟨y', n, hm, hh, ho, hr⟩ := p.done x (by simp [hxy]) rfl
          cases hxy.symm.trans hm
          refine ⟨n, hh, ?_, hr⟩
          show look y (updateAt _ _ st4.out) = _
          rw [look_updateAt, hatg, ho]
          by_cases hxg : x = roots.globalObject
          · subst hxg
            cases hxy.symm.trans hg'
            rw [if_pos rfl, if_pos rfl]; rfl
          · rw [if_neg (fun (hyg : y = g') => hxg (p4.inv.inj x _ g' (hyg ▸ hxy) hg')), if_neg hxg]; rfl
        · show look st1.next (updateAt _ _ st4.out) = _
          rw [look_updateAt, hatg, if_neg hne, p4.ext.out _ (Nat.lt_of_lt_of_le (Nat.lt_succ_self _) p3.ext.next),
            p3.ext.out _ (Nat.lt_succ_self _), look_cons, if_pos rfl, hatg]

theorem cloneRuntime_facts {r : Nat} {h : Heap} {base fuel : Nat} {roots : Roots} {c : Cloned}
    (hc : cloneRuntime r h base fuel roots = .ok c) : CloneFacts r h base roots c := by
  have := cloneRuntime_post r h base fuel roots
  rwa [hc] at this

end OttoVerif.C17
