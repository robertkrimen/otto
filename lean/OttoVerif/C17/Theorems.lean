/-
  C17/Theorems — Copy(): the memo table φ of a successful `runtime.clone` is an isomorphism from what the
  object roots reach onto fresh nodes (read off `cloneRuntime_facts`).  Two theorems about rooted heaps in
  general, a frame theorem for nodes laid over two separated runtimes (`SepInv.over`: a script's writes in
  `isolation`, the nodes `Copy()` allocates in `copy_isolated`) and a simulation theorem for renamed heaps
  (`observational_equiv`), are instantiated on the joint heap `c.out ++ h`, which is again a source heap
  (`copy_chain`).  The hypotheses are also executable checks, met by a small runtime; the regenerated facts
  tie `Node.map` to clone.go field by field.
-/
import OttoVerif.C17.Lemmas
import OttoVerif.C17.GenFacts
namespace OttoVerif.C17.Thm
open OttoVerif.C17

/-- true of every runtime at rest: the global object's prototype is `rt.global.ObjectPrototype`
    (global.go:45; ES5 has no way to change an object's prototype) -/
def GlobalProtoOK (h : Heap) (roots : Roots) : Prop :=
  ∃ go p, look roots.globalObject h = some (.obj go) ∧ go.proto = some p ∧ roots.globals[objectPrototypeIx]? = some p

def objRoots (roots : Roots) : List Addr := roots.globalObject :: (roots.globals ++ [roots.eval])

/-- `c.phi a` is what the memo holds for `a` -/
theorem look_phi {c : Cloned} {a : Addr} (ha : look a c.memo ≠ none) : look a c.memo = some (c.phi a) :=
  look_at (st := ⟨c.memo, c.out, c.next⟩) ha

/-- a set of addresses that holds the roots and is closed under references holds everything reachable -/
theorem reach_in {W : Heap} {P : Nat → Prop} {rs : List Nat} (hr : ∀ a ∈ rs, P a)
    (hc : ∀ a n, look a W = some n → P a → ∀ c ∈ n.refs, P c) : ∀ a, Reach W rs a → P a := by
  intro a ha
  induction ha with
  | root h => exact hr _ h
  | @step a' b n _ hl hb ih => exact hc a' n hl ih b hb

/-- … and reachability only looks at the heap inside such a set -/
theorem reach_congr {W W' : Heap} {P : Nat → Prop} {rs : List Nat} (hr : ∀ a ∈ rs, P a)
    (hc : ∀ a n, look a W = some n → P a → ∀ c ∈ n.refs, P c) (heq : ∀ a, P a → look a W' = look a W) :
    ∀ a, Reach W rs a → Reach W' rs a := by
  intro a ha
  induction ha with
  | root h => exact .root h
  | @step a' b n hra hl hb ih => exact .step ih ((heq a' (reach_in hr hc a' hra)).trans hl) hb

section facts
variable {r : Nat} {h : Heap} {base : Nat} {roots : Roots} {c : Cloned} (F : CloneFacts r h base roots c)
include F

theorem phi_range {a : Addr} (ha : look a c.memo ≠ none) : base ≤ c.phi a ∧ c.phi a < c.next :=
  F.range a _ (look_phi ha)

/-- everything reachable from the object roots was memoised (= cloned): the memoised addresses hold the roots, and
    the references of a memoised node are memoised -/
theorem reach_memo : ∀ a, Reach h (objRoots roots) a → look a c.memo ≠ none :=
  reach_in F.rootsIn fun a n hl ha b hb => by
    obtain ⟨n', hn', _, hr⟩ := F.image a _ (look_phi ha)
    cases hl.symm.trans hn'
    exact hr b hb

/-- the copy's roots are addresses `Copy()` handed out -/
theorem clone_roots_range : ∀ a ∈ rootList c.roots, base ≤ a ∧ a < c.next := by
  intro a ha
  simp only [rootList, List.mem_cons, List.mem_append, List.mem_nil_iff, or_false] at ha
  rcases ha with rfl | ha | rfl | rfl
  · rw [F.gObj]; exact phi_range F (F.rootsIn _ (by simp))
  · rw [F.globals] at ha
    obtain ⟨a0, ha0, rfl⟩ := List.mem_map.mp ha
    exact phi_range F (F.rootsIn _ (by simp [ha0]))
  · rw [F.evalR]; exact phi_range F (F.rootsIn _ (by simp))
  · exact ⟨F.gStash.2, F.outLt _ _ F.gStash.1⟩

end facts

/-- **C17.clone_iso** — `runtime.clone` builds an isomorphic image of everything reachable from the
    object roots: φ (the memo table) is injective there, sends every node to a fresh address
    (`≥ base`), the node stored at `φ a` is the source node with every reference sent through φ
    (same class, extensibility, property order, attributes, payload, bindings and flags, parameter
    map) and the runtime back-pointer set to the new runtime; the new roots are the φ-images of the
    old ones and the new global stash is a fresh objectStash over the new global object. -/
theorem clone_iso {r : Nat} {h : Heap} {base fuel : Nat} {roots : Roots} {c : Cloned}
    (hc : cloneRuntime r h base fuel roots = .ok c) (hg : GlobalProtoOK h roots) :
    InjOn c.phi (Reach h (objRoots roots)) ∧
    ImageOn r c.phi (Reach h (objRoots roots)) h c.out ∧
    (∀ a, Reach h (objRoots roots) a → base ≤ c.phi a) ∧
    c.roots.globalObject = c.phi roots.globalObject ∧
    c.roots.globals = roots.globals.map c.phi ∧
    c.roots.eval = c.phi roots.eval ∧
    look c.roots.globalStash c.out = some (.ost r none c.roots.globalObject) := by
  have F := cloneRuntime_facts hc
  have hmem := reach_memo F
  refine ⟨?_, ?_, fun a ha => (phi_range F (hmem a ha)).1, F.gObj, F.globals, F.evalR, F.gStash.1⟩
  · intro a b ha hb hab
    exact F.inj a b _ (hab ▸ look_phi (hmem a ha)) (look_phi (hmem b hb))
  · intro a ha n hn
    obtain ⟨n', hn', ho, _⟩ := F.image a _ (look_phi (hmem a ha))
    cases hn.symm.trans hn'
    rw [ho]
    split
    · -- the global object: the prototype `runtime.clone` sets last is the one it already has
      next hag =>
      obtain ⟨go, p, hgo, hp, hix⟩ := hg
      subst hag
      cases hn.symm.trans hgo
      rw [List.getElem?_map, hix, Option.map_some]
      simp only [setProto, Node.map, hp, optMap]
    · rfl

/-- **C17.clone_eval_root** — the copy's `rt.eval` is the image of the original's, whatever the
    script did to the global `eval` property (deleted it, overwrote it, made it an accessor). -/
theorem clone_eval_root {r : Nat} {h : Heap} {base fuel : Nat} {roots : Roots} {c : Cloned}
    (hc : cloneRuntime r h base fuel roots = .ok c) : c.roots.eval = c.phi roots.eval :=
  (cloneRuntime_facts hc).evalR

/-- **C17.clone_disjoint** — every node `Copy()` allocates lies at a fresh address and every
    reference stored in it is a fresh address: the clone holds NO pointer into the source heap.
    What it does share with the source are exactly the things `Node` keeps as opaque tokens:
    strings/numbers, `*nodeFunctionLiteral`, native Go function values, `*objectClass`,
    `*regexp.Regexp`, dates and error records – the kinds declared immutable. -/
theorem clone_disjoint {r : Nat} {h : Heap} {base fuel : Nat} {roots : Roots} {c : Cloned}
    (hc : cloneRuntime r h base fuel roots = .ok c) : Separated base c.out :=
  fun b n hb => (cloneRuntime_facts hc).sep b n hb

/-- one effect of a running script on the Go heap: node `addr` is (over)written – allocation is a
    write at an address that held nothing -/
structure Write where
  addr : Nat
  node : Node

def applyW (W : Heap) (w : Write) : Heap := (w.addr, w.node) :: W
def applyWs (W : Heap) (ws : List Write) : Heap := ws.foldl applyW W

/-- two runtimes living in one heap `W` with nothing in common: `PA`/`PB` say which addresses belong
    to which side (including the addresses each side will allocate later) -/
structure SepInv (W : Heap) (PA PB : Nat → Prop) (rsA rsB : List Nat) : Prop where
  disj    : ∀ a, PA a → PB a → False
  rootsA  : ∀ a ∈ rsA, PA a
  rootsB  : ∀ a ∈ rsB, PB a
  closedA : ∀ a n, look a W = some n → PA a → ∀ c ∈ n.refs, PA c
  closedB : ∀ a n, look a W = some n → PB a → ∀ c ∈ n.refs, PB c

theorem SepInv.symm {W : Heap} {PA PB : Nat → Prop} {rsA rsB : List Nat} (s : SepInv W PA PB rsA rsB) :
    SepInv W PB PA rsB rsA := ⟨fun a hb ha => s.disj a ha hb, s.rootsB, s.rootsA, s.closedB, s.closedA⟩

/-- a write performed by a script of the side owning `P`: it hits one of that side's nodes (or a
    node it allocates) and stores only that side's references -/
def OwnedBy (P : Nat → Prop) (w : Write) : Prop := P w.addr ∧ ∀ c ∈ w.node.refs, P c

/-- the frame rule: nodes laid over `W`, none at an address of B's, those at an address of A's holding A's
    references only, leave the two sides separated, every node of B as it was, and B reaching what it reached.
    A run of A's writes is this (`isolation`), and so are the nodes `Copy()` allocates, seen from the template
    (`SepInv.joint`) or from two other runtimes (`sep_preserved_by_copy`). -/
theorem SepInv.over {W : Heap} {PA PB : Nat → Prop} {rsA rsB : List Nat} (s : SepInv W PA PB rsA rsB) (out : Heap)
    (hA : ∀ a n, (a, n) ∈ out → PA a → ∀ c ∈ n.refs, PA c) (hB : ∀ a n, (a, n) ∈ out → ¬ PB a) :
    SepInv (out ++ W) PA PB rsA rsB ∧ (∀ a, PB a → look a (out ++ W) = look a W) ∧
    (∀ a, Reach (out ++ W) rsB a ↔ Reach W rsB a) := by
  have hl : ∀ a, PB a → look a (out ++ W) = look a W := fun a hb =>
    look_append_right W fun n hn => hB a n hn hb
  have s' : SepInv (out ++ W) PA PB rsA rsB := by
    refine ⟨s.disj, s.rootsA, s.rootsB, fun a n h1 ha => ?_, fun a n h1 hb => s.closedB a n ((hl a hb).symm.trans h1) hb⟩
    rcases look_append_cases h1 with h1 | h1
    · exact hA a n (look_mem h1) ha
    · exact s.closedA a n h1 ha
  exact ⟨s', hl, fun a => ⟨reach_congr s'.rootsB s'.closedB (fun a hb => (hl a hb).symm) a,
                           reach_congr s.rootsB s.closedB hl a⟩⟩

/-- a run of writes lays its nodes over the heap, the last on top -/
theorem applyWs_eq (ws : List Write) : ∀ W, applyWs W ws = (ws.map fun w => (w.addr, w.node)).reverse ++ W := by
  induction ws with
  | nil => intro W; rfl
  | cons w ws ih =>
    intro W
    rw [applyWs, List.foldl_cons, ← applyWs, ih, List.map_cons, List.reverse_cons, List.append_assoc]
    rfl

/-- **C17.isolation** — whatever sequence of writes a script of runtime A performs (assignments,
    deletions, defineProperty, freezing, edits of prototype objects and built-ins, closure state
    changes: each is a write to a node A owns storing references A owns), every node of runtime B
    holds afterwards exactly what it held before, B reaches exactly the same nodes, and the two
    stay separated (so the statement applies again to whatever runs next, on either side). -/
theorem isolation {PA PB : Nat → Prop} {rsA rsB : List Nat} (ws : List Write) (hw : ∀ w ∈ ws, OwnedBy PA w) :
    ∀ (W : Heap), SepInv W PA PB rsA rsB →
    SepInv (applyWs W ws) PA PB rsA rsB ∧
    (∀ a, PB a → look a (applyWs W ws) = look a W) ∧
    (∀ a, Reach (applyWs W ws) rsB a ↔ Reach W rsB a) := by
  intro W s
  rw [applyWs_eq]
  refine s.over _ (fun a n h _ => ?_) (fun a n h hb => ?_) <;>
    obtain ⟨w, hw', e⟩ := List.mem_map.mp (List.mem_reverse.mp h) <;> cases e
  · exact (hw w hw').2
  · exact s.disj _ (hw w hw').1 hb

/-- **C17.isolation_rev** — the same with the sides exchanged: writes by B leave A as it was -/
theorem isolation_rev {PA PB : Nat → Prop} {rsA rsB : List Nat} (ws : List Write) (hw : ∀ w ∈ ws, OwnedBy PB w)
    (W : Heap) (s : SepInv W PA PB rsA rsB) :
    SepInv (applyWs W ws) PA PB rsA rsB ∧
    (∀ a, PA a → look a (applyWs W ws) = look a W) ∧
    (∀ a, Reach (applyWs W ws) rsA a ↔ Reach W rsA a) := by
  obtain ⟨s', h1, h2⟩ := isolation ws hw W s.symm
  exact ⟨s'.symm, h1, h2⟩

/-- follow a path of reference indices from a node -/
def resolve (W : Heap) : Nat → List Nat → Option Nat
  | a, [] => some a
  | a, i :: p => match look a W with
    | none => none
    | some n => match n.refs[i]? with
      | none => none
      | some b => resolve W b p

/-- everything a script can read off a node without following a pointer: class, extensibility,
    property names in order with attributes and primitive values, payload kind and by-value data,
    binding names, flags and primitive values, parameter map (addresses erased) -/
def shape (n : Node) : Node := n.map 0 (fun _ => 0)

theorem shape_map (r : Nat) (φ : Nat → Nat) (n : Node) : shape (n.map r φ) = shape n :=
  Node.map_map φ (fun _ => 0) r 0 n

/-- `W'` simulates `W` on `dom` through the renaming φ -/
structure Sim (r : Nat) (φ : Nat → Nat) (dom : Nat → Prop) (W W' : Heap) : Prop where
  closed : ∀ a n, dom a → look a W = some n → ∀ c ∈ n.refs, dom c
  total  : ∀ a, dom a → look a W ≠ none
  image  : ImageOn r φ dom W W'

/-- **C17.observational_equiv** — under a simulation every pointer chase from corresponding nodes
    ends in corresponding nodes (or fails on both sides), and corresponding nodes look the same. -/
theorem observational_equiv {r : Nat} {φ : Nat → Nat} {dom : Nat → Prop} {W W' : Heap} (s : Sim r φ dom W W') :
    ∀ (p : List Nat) (a : Nat), dom a →
      resolve W' (φ a) p = (resolve W a p).map φ ∧
      (∀ b, resolve W a p = some b → dom b ∧ (look (φ b) W').map shape = (look b W).map shape) := by
  intro p
  induction p with
  | nil =>
    intro a ha
    refine ⟨rfl, fun b hb => ?_⟩
    cases hb
    obtain ⟨n, hl⟩ := Option.ne_none_iff_exists'.mp (s.total a ha)
    rw [s.image a ha n hl, hl, Option.map_some, Option.map_some, shape_map]
    exact ⟨ha, rfl⟩
  | cons i p ih =>
    intro a ha
    obtain ⟨n, hl⟩ := Option.ne_none_iff_exists'.mp (s.total a ha)
    -- one step on both sides: the i-th reference of the image node is the image of the i-th reference
    simp only [resolve, hl, s.image a ha n hl, Node.refs_map, List.getElem?_map]
    cases hi : n.refs[i]? with
    | none => exact ⟨rfl, nofun⟩
    | some b => exact ih b (s.closed a n ha hl b (List.mem_of_getElem? hi))

/-- identity comparisons (`===` on objects) agree as well -/
theorem observational_identity {r : Nat} {φ : Nat → Nat} {dom : Nat → Prop} {W W' : Heap} (s : Sim r φ dom W W')
    (hinj : InjOn φ dom) (a : Nat) (ha : dom a) (p q : List Nat) (x y : Nat)
    (hx : resolve W a p = some x) (hy : resolve W a q = some y) :
    (resolve W' (φ a) p = resolve W' (φ a) q) ↔ x = y := by
  obtain ⟨e1, d1⟩ := observational_equiv s p a ha
  obtain ⟨e2, d2⟩ := observational_equiv s q a ha
  rw [e1, e2, hx, hy]
  simp only [Option.map, Option.some.injEq]
  exact ⟨fun h => hinj x y (d1 x hx).1 (d2 y hy).1 h, fun h => by rw [h]⟩

/-- a source heap occupying the addresses below `base`, closed under references -/
structure SourceHeap (h : Heap) (base : Nat) (roots : Roots) : Prop where
  below  : ∀ a n, look a h = some n → a < base
  closed : ∀ a n, look a h = some n → ∀ c ∈ n.refs, c < base
  roots  : ∀ a ∈ rootList roots, a < base

/-- new nodes laid over a source heap, all below the allocator's new position `next`, give a source heap
    again, for any roots below `next` -/
theorem SourceHeap.extend {h out : Heap} {base next : Nat} {roots roots' : Roots} (hs : SourceHeap h base roots)
    (hbn : base ≤ next) (hout : ∀ y n, look y out = some n → y < next ∧ ∀ c ∈ n.refs, c < next)
    (hr : ∀ a ∈ rootList roots', a < next) : SourceHeap (out ++ h) next roots' where
  below a n hl := by
    rcases look_append_cases hl with ho | hl
    · exact (hout a n ho).1
    · exact Nat.lt_of_lt_of_le (hs.below a n hl) hbn
  closed a n hl c hc := by
    rcases look_append_cases hl with ho | hl
    · exact (hout a n ho).2 c hc
    · exact Nat.lt_of_lt_of_le (hs.closed a n hl c hc) hbn
  roots := hr

/-- a source heap alone is two separated runtimes already: the side that owns the addresses `≥ base` has no node yet -/
theorem SourceHeap.sep {h : Heap} {base : Nat} {roots : Roots} {rs : List Nat} (hs : SourceHeap h base roots)
    (hr : ∀ a ∈ rs, base ≤ a) : SepInv h (fun a => base ≤ a) (fun a => a < base) rs (rootList roots) :=
  ⟨fun _ h1 h2 => Nat.not_le_of_lt h2 h1, hr, hs.roots,
   fun a n hl ha => absurd ha (Nat.not_le_of_lt (hs.below a n hl)), fun a n hl _ => hs.closed a n hl⟩

/-- nodes at fresh addresses holding fresh references only, laid over a source heap, make a second runtime
    that has nothing in common with the first: they are writes of the side that owns the addresses `≥ base` -/
theorem SepInv.joint {h out : Heap} {base : Nat} {roots : Roots} {rs : List Nat} (hs : SourceHeap h base roots)
    (ho : Separated base out) (hr : ∀ a ∈ rs, base ≤ a) :
    SepInv (out ++ h) (fun a => base ≤ a) (fun a => a < base) rs (rootList roots) :=
  ((hs.sep hr).over out (fun a n h _ => (ho a n h).2) fun a n h hb => Nat.not_le_of_lt hb (ho a n h).1).1

/-- **C17.copy_leaves_original** — `Copy()` leaves the original as it was: in the joint Go heap
    every address of the source heap still holds what it held. -/
theorem copy_leaves_original {r : Nat} {h : Heap} {base fuel : Nat} {roots : Roots} {c : Cloned}
    (hc : cloneRuntime r h base fuel roots = .ok c) (a : Nat) (ha : a < base) :
    look a (c.out ++ h) = look a h :=
  look_append_right h fun n hn => Nat.not_le_of_lt ha (clone_disjoint hc a n hn).1

/-- **C17.copy_isolated** — after `Copy()` original and copy are separated in the joint heap (the
    copy owns the addresses `≥ base`, the original those `< base`): `isolation` / `isolation_rev`
    apply to every script run on either. -/
theorem copy_isolated {r : Nat} {h : Heap} {base fuel : Nat} {roots : Roots} {c : Cloned}
    (hc : cloneRuntime r h base fuel roots = .ok c) (hs : SourceHeap h base roots) :
    SepInv (c.out ++ h) (fun a => base ≤ a) (fun a => a < base) (rootList c.roots) (rootList roots) :=
  SepInv.joint hs (clone_disjoint hc) fun a ha => (clone_roots_range (cloneRuntime_facts hc) a ha).1

/-- **C17.copy_reach_fresh / original_reach_old** — in the joint heap
    nothing the copy can reach is a node of the source heap, and nothing the original can reach is
    a node `Copy()` allocated. -/
theorem copy_reach_fresh {r : Nat} {h : Heap} {base fuel : Nat} {roots : Roots} {c : Cloned}
    (hc : cloneRuntime r h base fuel roots = .ok c) (hs : SourceHeap h base roots) :
    ∀ a, Reach (c.out ++ h) (rootList c.roots) a → base ≤ a :=
  reach_in (copy_isolated hc hs).rootsA (copy_isolated hc hs).closedA

theorem original_reach_old {r : Nat} {h : Heap} {base fuel : Nat} {roots : Roots} {c : Cloned}
    (hc : cloneRuntime r h base fuel roots = .ok c) (hs : SourceHeap h base roots) :
    ∀ a, Reach (c.out ++ h) (rootList roots) a → a < base :=
  reach_in (copy_isolated hc hs).rootsB (copy_isolated hc hs).closedB

/-- **C17.copy_sim** — after `Copy()` the joint heap simulates the source heap on everything
    reachable from the roots: `observational_equiv` and `observational_identity` apply to the copy. -/
theorem copy_sim {r : Nat} {h : Heap} {base fuel : Nat} {roots : Roots} {c : Cloned}
    (hc : cloneRuntime r h base fuel roots = .ok c) (hg : GlobalProtoOK h roots) :
    Sim r c.phi (Reach h (objRoots roots)) h (c.out ++ h) ∧ InjOn c.phi (Reach h (objRoots roots)) := by
  have F := cloneRuntime_facts hc
  obtain ⟨hinj, himg, _⟩ := clone_iso hc hg
  refine ⟨⟨fun a n ha hl c' hc' => .step ha hl hc', ?_, ?_⟩, hinj⟩
  · intro a ha
    obtain ⟨n, hn, _⟩ := F.image a _ (look_phi (reach_memo F a ha))
    simp [hn]
  · intro a ha n hl
    rw [look_append, himg a ha n hl]

/-- **C17.copy_chain** — copies of copies: the joint heap after `Copy()` is again a source heap
    (below the allocator's new position, closed under references) for the copy AND for the
    original, so every theorem above applies to a copy of the copy and to a second copy of the
    original. -/
theorem copy_chain {r : Nat} {h : Heap} {base fuel : Nat} {roots : Roots} {c : Cloned}
    (hc : cloneRuntime r h base fuel roots = .ok c) (hs : SourceHeap h base roots) :
    SourceHeap (c.out ++ h) c.next c.roots ∧ SourceHeap (c.out ++ h) c.next roots := by
  have F := cloneRuntime_facts hc
  have hbn : base ≤ c.next := Nat.le_trans F.gStash.2 (Nat.le_of_lt (F.outLt _ _ F.gStash.1))
  have hout : ∀ y n, look y c.out = some n → y < c.next ∧ ∀ c' ∈ n.refs, c' < c.next := fun y n hy =>
    ⟨F.outLt y n hy, F.refsLt y n (look_mem hy)⟩
  exact ⟨hs.extend hbn hout fun a ha => (clone_roots_range F a ha).2,
         hs.extend hbn hout fun a ha => Nat.lt_of_lt_of_le (hs.roots a ha) hbn⟩

/-- **C17.sep_preserved_by_copy** — two separated runtimes stay separated when a third runtime is
    made by `Copy()` of anything: the new nodes are nobody's (they belong to the new runtime). -/
theorem sep_preserved_by_copy {W out : Heap} {PA PB : Nat → Prop} {rsA rsB : List Nat} {base2 : Nat}
    (s : SepInv W PA PB rsA rsB) (hnew : ∀ y n, (y, n) ∈ out → base2 ≤ y)
    (hold : ∀ a, PA a ∨ PB a → a < base2) : SepInv (out ++ W) PA PB rsA rsB :=
  (s.over out (fun a n h ha => absurd (hnew a n h) (Nat.not_le_of_lt (hold a (.inl ha))))
    fun a n h hb => Nat.not_le_of_lt (hold a (.inr hb)) (hnew a n h)).1

/-- **C17.settings_table** — for every setting the property constrains, `Copy()` does what it
    demands: stack depth limit, stack trace limit and random source are in force on the copy, the
    interrupt channel is not shared.  (Finite domain: proved for all five settings, and the harness
    observes all five through behaviour at copy depths 0-3.) -/
theorem settings_table (s : Setting) (b : Bool) (h : Spec.carried s = some b) : carried s = b := by
  cases s <;> simp [Spec.carried] at h <;> simp [carried, h]

/-- **C17.clone_total** — fuel is not a restriction: given more fuel than the heap has nodes the
    model of `runtime.clone` never runs out (it returns a copy or the Go panic). -/
theorem clone_total (r : Nat) (h : Heap) (base fuel : Nat) (roots : Roots) (hf : h.length < fuel) :
    (match cloneRuntime r h base fuel roots with | .fuel => false | _ => true) = true := by
  have hp := cloneRuntime_post r h base fuel roots
  cases hres : cloneRuntime r h base fuel roots with
  | fuel => rw [hres] at hp; exact absurd hf (Nat.not_lt.mpr hp)
  | _ => rfl

theorem checkSource_sound {h : Heap} {base : Nat} {roots : Roots} (hc : checkSource h base roots = true) :
    SourceHeap h base roots := by
  simp only [checkSource, Bool.and_eq_true, List.all_eq_true, decide_eq_true_eq] at hc
  obtain ⟨h1, h2⟩ := hc
  refine ⟨fun a n hl => (h1 (a, n) (look_mem hl)).1, fun a n hl c' hc' => (h1 (a, n) (look_mem hl)).2 c' hc', ?_⟩
  intro a ha
  exact h2 a ha

theorem checkGlobalProto_sound {h : Heap} {roots : Roots} (hc : checkGlobalProto h roots = true) :
    GlobalProtoOK h roots := by
  unfold checkGlobalProto at hc
  split at hc
  · rename_i go p h1 h2
    exact ⟨go, p, h1, by simpa using hc, h2⟩
  · cases hc

def gobj (props : List PropE) : Node :=
  .obj { rt := 0, cls := "", klass := "object", ext := true, proto := none, props := props, payload := .other "nil" }
def fnObj (id : String) : Node :=
  .obj { rt := 0, cls := "Function", klass := "object", ext := true, proto := none, props := [], payload := .native id }

/-- non-vacuity: a small runtime meeting every hypothesis, on which the cloner succeeds.
    0 = global object {eval: @2} with prototype 1 = Object.prototype, 2 = eval, 3 = global stash,
    4 = a closure over 5 = a function stash holding the closure itself and its arguments object 6. -/
def hSmall : Heap :=
  [(0, .obj { rt := 0, cls := "", klass := "object", ext := true, proto := some 1,
              props := [⟨"eval", 0o101, .data (.ref 2)⟩, ⟨"f", 0o111, .data (.ref 4)⟩], payload := .other "nil" }),
   (1, gobj [⟨"toString", 0o101, .data (.ref 2)⟩]), (2, fnObj "eval"), (3, .ost 0 none 0),
   (4, .obj { rt := 0, cls := "Function", klass := "object", ext := true, proto := some 1, props := [], payload := .nodeFn "n0" (some 5) }),
   (5, .fn 0 (some 3) [⟨"self", 4, .ref 4⟩, ⟨"arguments", 4, .ref 6⟩] (some 6) []),
   (6, .obj { rt := 0, cls := "Arguments", klass := "arguments", ext := true, proto := some 1,
              props := [⟨"callee", 0o101, .data (.ref 4)⟩], payload := .arguments ["x"] (some 5) })]
def rSmall : Roots := { globalObject := 0, globals := List.replicate 18 1, eval := 2, globalStash := 3 }

example : checkSource hSmall 7 rSmall = true := by decide +kernel
example : checkGlobalProto hSmall rSmall = true := by decide +kernel
example : (match cloneRuntime 1 hSmall 7 8 rSmall with
    | .ok c => c.roots.globalObject == 7 && c.roots.eval == 9 && c.next == 15 && c.out.length == 8
    | _ => false) = true := by decide +kernel

/- Facts about the current sources (GenFacts.lean is rewritten from /repo by `ottoh-C17 --facts` on
   every run): the model's `Node.map` replaces EVERY reference; these facts tie that to clone.go /
   object_class.go / stash.go / type_arguments.go field by field. -/

/-- fields that the clone path deliberately does NOT carry into the copy (they are left at their zero
    value), each with its reason.  EVERY other field of every struct on the clone path – whatever its
    type, also a plain bool or int – must be carried over (`clone_fields_carried`).
    * `runtime.scope`, `runtime.labels`: nil/empty in a runtime at rest – the copy starts at rest;
    * `runtime.halting`, `runtime.haltValue`: set only while an interrupt function's panic is on its way out
      of Run (fixes fd4edef/a1dbda4) – false/nil at rest, and a copy is not being halted;
    * `runtime.otto`: set by `Otto.Copy` (otto.go:645) to the copy's own handle;
    * `runtime.lck`: a mutex is never copied; the copy gets its own (unlocked) one;
    * `Otto.Interrupt`: left nil – a copy has no interrupt channel until the embedder gives it one;
      sharing the template's would break isolation. -/
def notCarried : List (String × String) :=
  [("runtime", "scope"), ("runtime", "labels"), ("runtime", "halting"), ("runtime", "haltValue"), ("runtime", "otto"),
   ("runtime", "lck"), ("Otto", "Interrupt")]

/-- payload types holding a reference that objectClone copies by value: primitive wrappers (`Value`
    holding a primitive), `dateObject` (its `value` is a number), `ottoError` (its `trace` slice is
    written only while the error is constructed), `result` (a completion record, never an object payload) -/
def sharedPayloads : List String := ["Value", "dateObject", "ottoError", "result"]

/-- **C17.clone_fields_carried** — every field of every struct on the clone path, of WHATEVER type, is
    carried into the copy: set from a cloner call / `c.runtime` / a new container (`fresh`), copied by value
    (`shared`: explicitly, or through a whole-struct copy `*out = *in`, `out := in`), or decided per payload
    type (`payload`: object.value) – unless it is on the `notCarried` list.  A field that a clone function
    forgets (e.g. a keyed literal that leaves out the bool `objectStash.provideThis`, so that every object
    environment of a copy behaves like the global one) makes this fail, naming the field. -/
theorem clone_fields_carried :
    Gen.cloneFields.all (fun f => f.2.2.2.2.2 == "fresh" || f.2.2.2.2.2 == "shared" || f.2.2.2.2.2 == "payload" ||
      (f.2.2.2.2.2 == "unset" && notCarried.contains (f.2.1, f.2.2.1))) = true := by decide +kernel

/-- **C17.clone_fields_fresh** — every field on the clone path whose type can hold a mutable reference
    (pointer to object/runtime/stash/scope, `stasher`, map, slice, chan, interface, or a struct containing
    one) is assigned from a cloner call, `c.runtime`, or a freshly made container, is `object.value` (decided
    per payload type, see `payload_cases_fresh`), or is on the `notCarried` list AND left at its zero
    value. A field copied by reference (also through a shallow struct copy `out := *o`) makes this fail,
    naming the field. -/
theorem clone_fields_fresh :
    Gen.cloneFields.all (fun f => !f.2.2.2.2.1 || f.2.2.2.2.2 == "fresh" || f.2.2.2.2.2 == "payload" ||
      (f.2.2.2.2.2 == "unset" && notCarried.contains (f.2.1, f.2.2.1))) = true := by decide +kernel

/-- the structs and fields are the ones the model transcribes (a new field shows up here);
    `runtime.halting` (fix fd4edef: an interrupt function panicked and the panic is on its way out of Run) is a
    bool the clone leaves at false: a copy is at rest; `objectStash.provideThis` (fix 20f1524: the environment of a
    with statement provides a this value, the global one does not) is a bool copied as it is -/
theorem clone_fields_expected : Gen.cloneFields.map (fun f => (f.2.1, f.2.2.1)) =
    [("object", "value"), ("object", "runtime"), ("object", "objectClass"), ("object", "prototype"), ("object", "property"),
     ("object", "class"), ("object", "propertyOrder"), ("object", "extensible"),
     ("bindFunctionObject", "target"), ("bindFunctionObject", "this"), ("bindFunctionObject", "argumentList"),
     ("nodeFunctionObject", "node"), ("nodeFunctionObject", "stash"),
     ("argumentsObject", "stash"), ("argumentsObject", "indexOfParameterName"),
     ("objectStash", "rt"), ("objectStash", "outr"), ("objectStash", "object"), ("objectStash", "provideThis"),
     ("dclStash", "rt"), ("dclStash", "outr"), ("dclStash", "property"),
     ("fnStash", "dclStash"), ("fnStash", "arguments"), ("fnStash", "indexOfArgumentName"),
     ("property", "value"), ("property", "mode"),
     ("dclProperty", "value"), ("dclProperty", "mutable"), ("dclProperty", "deletable"), ("dclProperty", "readable"),
     ("Value", "value"), ("Value", "kind"),
     ("runtime", "global"), ("runtime", "globalObject"), ("runtime", "globalStash"), ("runtime", "scope"), ("runtime", "otto"),
     ("runtime", "eval"), ("runtime", "debugger"), ("runtime", "random"), ("runtime", "labels"), ("runtime", "halting"), ("runtime", "haltValue"), ("runtime", "stackLimit"),
     ("runtime", "traceLimit"), ("runtime", "lck"), ("Otto", "Interrupt"), ("Otto", "runtime")] := rfl

/-- **C17.payload_cases_fresh** — every payload type objectClone's switch handles either holds no
    mutable reference (nativeFunctionObject: Go function values and strings) or is rebuilt from cloner calls -/
theorem payload_cases_fresh : Gen.payloadCases.all (fun c => !c.2.1 || c.2.2) = true := by decide

theorem payload_cases_expected : Gen.payloadCases.map (·.1) =
    ["nativeFunctionObject", "bindFunctionObject", "nodeFunctionObject", "argumentsObject"] := rfl

/-- **C17.payload_types_handled** — every struct type that the package ever asserts on a `.value`
    and that can hold a mutable reference is one of the switch's cases or on the `sharedPayloads` list -/
theorem payload_types_handled :
    Gen.payloadTypes.all (fun t => !t.2 || (Gen.payloadCases.map (·.1)).contains t.1 || sharedPayloads.contains t.1) = true := by decide +kernel

/- Heaps left by scripts that delete or replace the global `eval`, and a function stash without an
   arguments object: the cloner succeeds on each (`decide`). -/

/-- a minimal runtime: 0 = global object {eval: @1}, 1 = eval, 2 = global stash -/
def hOk : Heap := [(0, gobj [⟨"eval", 0o101, .data (.ref 1)⟩]), (1, fnObj "eval"), (2, .ost 0 none 0)]
def rOk : Roots := { globalObject := 0, globals := [], eval := 1, globalStash := 2 }

def isOk {α : Type} : Res α → Bool
  | .ok _ => true
  | _ => false

example : isOk (cloneRuntime 1 hOk 3 10 rOk) = true := by decide +kernel

/-- `delete eval` -/
def hEvalDeleted : Heap := [(0, gobj []), (1, fnObj "eval"), (2, .ost 0 none 0)]
example : (match cloneRuntime 1 hEvalDeleted 3 10 rOk with | .ok c => c.roots.eval == c.phi 1 && c.roots.eval == 5 | _ => false) = true := by decide +kernel

/-- `eval = 1` -/
def hEvalNumber : Heap := [(0, gobj [⟨"eval", 0o111, .data (.prim "i1")⟩]), (1, fnObj "eval"), (2, .ost 0 none 0)]
example : isOk (cloneRuntime 1 hEvalNumber 3 10 rOk) = true := by decide +kernel

/-- `var e = eval; eval = parseInt`: the copy's `rt.eval` is the image of the builtin, not of parseInt -/
def hEvalOther : Heap := [(0, gobj [⟨"eval", 0o111, .data (.ref 3)⟩, ⟨"e", 0o111, .data (.ref 1)⟩]), (1, fnObj "eval"), (2, .ost 0 none 0), (3, fnObj "parseInt")]
example : (match cloneRuntime 1 hEvalOther 4 10 rOk with
     | .ok c => c.roots.eval == (look 1 c.memo).getD 0 && c.roots.eval != (look 3 c.memo).getD 0
     | _ => false) = true := by decide +kernel

/-- a function stash without an arguments object (a parameter named `arguments`) -/
def hNoArgs : Heap :=
  [(0, gobj [⟨"eval", 0o101, .data (.ref 1)⟩, ⟨"f", 0o111, .data (.ref 3)⟩]), (1, fnObj "eval"), (2, .ost 0 none 0),
   (3, .obj { rt := 0, cls := "Function", klass := "object", ext := true, proto := none, props := [], payload := .nodeFn "n0" (some 4) }),
   (4, .fn 0 (some 2) [⟨"arguments", 4, .prim "i1"⟩] none [])]
example : (match cloneRuntime 1 hNoArgs 5 10 rOk with
     | .ok c => look (c.phi 4) c.out == some (.fn 1 (some (c.phi 2)) [⟨"arguments", 4, .prim "i1"⟩] none [])
     | _ => false) = true := by decide +kernel

end OttoVerif.C17.Thm
