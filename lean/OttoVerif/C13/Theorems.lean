/-
  C13/Theorems — otto's Math object and global URI / escape functions (C13/Model) against C13/Spec wherever the
  standard fixes the result: the special-value tables (the library `Lib` stays opaque; `LibOK` names the four values
  Go computes rather than special-cases), max/min, the unescaped sets, the two round trips.  The witnesses of the open
  deviation regions are at the end.
-/
import OttoVerif.C13.Lemmas
import OttoVerif.C05.Theorems
import OttoVerif.C06.Theorems
namespace OttoVerif.C13.Thm
open OttoVerif.F64 OttoVerif.Str OttoVerif.C13

/-- an arbitrary library for witnesses that do not depend on it -/
def Driverless.lib : Lib := { core1 := fun _ x => x, powCore := fun x _ => x, powLogPath := fun _ x _ => x }

/-- isNaN / isFinite apply ToNumber (§15.1.2.4–5) -/
theorem isNaN_isFinite (E : C05.Env) (v : C05.Val) :
    globalIsNaN E v = Spec.globalIsNaN E v ∧ globalIsFinite E v = Spec.globalIsFinite E v := by
  simp only [globalIsNaN, globalIsFinite, Spec.globalIsNaN, Spec.globalIsFinite, ← C05.Thm.toNumber_eq]
  cases C05.toFloat E v <;> simp [isNaN, isInf]

theorem abs_eq (x : FV) : mathAbs x = Spec.abs x := by
  cases x <;> rfl

/-- the facts about the opaque library that ES5's tables need beyond Go's documented special cases
    (each is checked per sample by the correspondence harness) -/
structure LibOK (L : Lib) : Prop where
  cos_zero : ∀ s e, L.core1 .cos (.fin s 0 e) = one
  exp_zero : ∀ s e, L.core1 .exp (.fin s 0 e) = one
  log_one : ∀ m e, eqNum (.fin false m e) one = true → L.core1 .log (.fin false m e) = zero
  acos_one : ∀ x, eqNum x one = true → L.core1 .acos x = zero

/-- C13.special_values — on every argument for which §15.8.2.2–4, 7, 8, 10, 16–18 fix the result of
    acos asin atan cos exp log sin sqrt tan, otto returns exactly that result -/
theorem special_values (L : Lib) (hL : LibOK L) (f : Fn1) (x r : FV)
    (h : Spec.fn1Table f x = some r) : mathFn1 L f x = r := by
  cases x with
  -- the NaN and ±∞ rows of all nine functions compute on both sides
  | nan => cases f <;> (cases h; rfl)
  | inf s => cases f <;> cases s <;> (cases h; rfl)
  | fin s m e =>
    by_cases hm : m = 0
    · -- ±0: Go special-cases it, except in cos and exp (`LibOK`)
      subst hm
      have hz := one_cmp_zero s e
      cases f
      case sin | tan | atan | sqrt | log => cases h; rfl
      case cos => cases h; exact hL.cos_zero s e
      case exp =>
        cases h
        have : expOverflowAmd64 (.fin s 0 e) = false := by
          have h3 := (alignInt_pos false 0x162E42FEFA39EF (-43) (if (-43:Int) ≤ e then -43 else e)).2 ⟨rfl, by decide⟩
          simp [expOverflowAmd64, gt, expOverflowConst, lt_fin, alignInt_zero, mul, rneInt, log2e] at h3 ⊢
          omega
        simp [mathFn1, goFn1, this, hL.exp_zero]
      case asin => simp [Spec.fn1Table, isNaN, hz] at h; subst h; rfl
      case acos => simp [Spec.fn1Table, isNaN, hz] at h
    · -- finite non-zero x: only sqrt, asin, acos and log have rows
      cases f
      case sin | tan | cos | atan | exp => simp [Spec.fn1Table, hm] at h
      case sqrt => cases s <;> simp [Spec.fn1Table, hm] at h; subst h; simp [mathFn1, goFn1, hm]
      case asin =>
        simp only [mathFn1, goFn1, isZero_fin, hm, decide_false, Bool.false_eq_true, if_false, isNaN, abs_gt_one]
        simp only [Spec.fn1Table, isNaN, Bool.false_eq_true, if_false, isZero_fin, hm, decide_false] at h
        by_cases h1 : Spec.gtOne (.fin s m e) = true <;> by_cases h2 : Spec.ltNegOne (.fin s m e) = true <;>
          simp [h1, h2] at h ⊢ <;> exact h
      case acos =>
        simp only [mathFn1, goFn1, isNaN, Bool.false_eq_true, if_false, abs_gt_one]
        simp only [Spec.fn1Table, isNaN, Bool.false_eq_true, if_false] at h
        by_cases h1 : Spec.gtOne (.fin s m e) = true <;> by_cases h2 : Spec.ltNegOne (.fin s m e) = true <;>
          simp [h1, h2] at h ⊢ <;> try exact h
        by_cases h3 : eqNum (.fin s m e) one = true
        · simp [h3] at h; rw [← h]; exact hL.acos_one _ h3
        · simp [h3] at h
      case log =>
        cases s
        · simp only [Spec.fn1Table, hm, if_false, Bool.false_eq_true] at h
          by_cases h3 : eqNum (.fin false m e) one = true
          · simp [h3] at h; subst h
            have hne : ¬(e = -1074 ∧ m < 2^52) := by
              intro ⟨he, hlt⟩
              subst he
              simp only [one, eqNum_fin, alignInt] at h3
              have h4 : (2:Nat)^52 ≤ 2^1074 := Nat.pow_le_pow_right (by decide) (by decide)
              generalize (2:Nat)^1074 = P at *
              simp at h3
              omega
            simp [mathFn1, goFn1, hm, logFrexpAmd64, hne, hL.log_one m e h3]
          · simp [h3] at h
        · simp [Spec.fn1Table, hm] at h; subst h; simp [mathFn1, goFn1, hm]

/-- C13.math_result_text — the Value any Math function returns for the number x is float64-kinded, so its
    text (String(r), r + "", a property key) is §9.8.1 ToString of x and Export() gives a float64 — for every
    x, under the digit-generation hypothesis of C06 (`Thm.toString_eq_spec`, validated per sample there). -/
theorem math_result_text (x : FV)
    (h : ∀ s m e, x = .fin s m e → m ≠ 0 →
      OttoVerif.C06.Thm.WFDec (OttoVerif.C06.Spec.shortestDigits m e) ∧
      OttoVerif.C06.Spec.Dev.sideOK x (OttoVerif.C06.Spec.shortestDigits m e).dp = true) :
    numValText OttoVerif.C06.Spec.exactLib (mathValue x) = Spec.resultText x ∧
    exportType (mathValue x) = Spec.resultExportType := by
  refine ⟨?_, rfl⟩
  simp only [numValText, mathValue, float64Value, OttoVerif.C06.numValToString, Spec.resultText]
  exact OttoVerif.C06.Thm.toString_eq_spec x h

/-- what an int64-kinded result would print: all the digits of 2^56, where §9.8.1 gives the 16 shortest -/
example : numValText OttoVerif.C06.Spec.exactLib ⟨.int64, .fin false (2^52) 4⟩ ≠ Spec.resultText (.fin false (2^52) 4) := by
  decide +kernel

/-- C13.max_min — Math.max over any argument list (0, 1, many; NaN anywhere; ±0 ordering) is §15.8.2.11 -/
theorem max_eq (l : List FV) : mathMax l = Spec.max l := by
  match l with
  | [] => rfl
  | [a] =>
    exact (by cases a <;> rfl : a = if isNaN a then .nan else a).trans
      (foldFlag_eq goMax Spec.max2 (.inf true) goMax_eq max2_cases max2_negInf a [])
  | a :: b :: rest => exact foldFlag_eq goMax Spec.max2 (.inf true) goMax_eq max2_cases max2_negInf a (b :: rest)

theorem min_eq (l : List FV) : mathMin l = Spec.min l := by
  match l with
  | [] => rfl
  | [a] =>
    exact (by cases a <;> rfl : a = if isNaN a then .nan else a).trans
      (foldFlag_eq goMin Spec.min2 (.inf false) goMin_eq min2_cases min2_posInf a [])
  | a :: b :: rest => exact foldFlag_eq goMin Spec.min2 (.inf false) goMin_eq min2_cases min2_posInf a (b :: rest)

/-- C13.maxmin_tonumber — Math.max/min call ToNumber on every argument (§15.8.2.11–12: "calls ToNumber on
    each of the arguments"), whatever the arguments convert to. -/
theorem maxmin_tonumber (l : List FV) : maxMinConverted l = Spec.maxMinConverted l := by
  match l with
  | [] => rfl
  | [a] => rfl
  | a :: b :: rest => simp [maxMinConverted, Spec.maxMinConverted]; omega

/-- C13.atan2_table — on every argument pair for which §15.8.2.5 fixes the result, otto returns it -/
theorem atan2_table (L : Lib) (y x r : FV) (h : Spec.atan2Table y x = some r) : mathAtan2 L y x = r := by
  cases y with
  | nan => cases x <;> (cases h; rfl)
  | inf sy => cases x with
    | nan => cases h; rfl
    | inf sx => cases sy <;> cases sx <;> (cases h; rfl)
    | fin sx mx ex => cases sy <;> cases mx <;> (cases h; rfl)
  | fin sy my ey => cases x with
    | nan => cases h; rfl
    | inf sx =>
      cases sy <;> cases sx <;> by_cases hm : my = 0 <;>
      simp [Spec.atan2Table, isNaN, isZero, Spec.isFiniteV, signBit, hm, Spec.isPositive, zero] at h <;>
      simp [mathAtan2, goAtan2, isNaN, isZero, isInf, copysign, signBit, hm, zero, negZero, neg, ← h]
    | fin sx mx ex =>
      cases sy <;> cases sx <;> by_cases hy : my = 0 <;> by_cases hx : mx = 0 <;>
      simp [Spec.atan2Table, isNaN, isZero_fin, Spec.isFiniteV, signBit, hy, hx, Spec.isPositive, zero] at h <;>
      simp [mathAtan2, goAtan2, isNaN, isZero_fin, copysign, signBit, hy, hx, zero, negZero, neg, ← h]

/-- for the rows `pow_table_partial` leaves out: Go's isOddInt is "odd integer" on every double -/
theorem isOddInt_eq (s : Bool) (m : Nat) (e : Int) (hm : m < 2^53) :
    isOddInt (.fin s m e) = Spec.isOddInteger (.fin s m e) := by
  simp only [isOddInt, Spec.isOddInteger, le_fin, alignInt, Bool.false_eq_true, if_false, isIntegral, truncAbs]
  by_cases he : e ≥ 0
  · simp only [he, if_true, Int.sub_zero, Int.toNat_zero, Nat.pow_zero, Nat.mul_one, Bool.true_and]
    by_cases hbig : ((2^53 : Nat) : Int) ≤ ((m * 2 ^ e.toNat : Nat) : Int)
    · simp only [hbig, decide_true, if_true]
      cases hn : e.toNat with
      | zero => rw [hn] at hbig; simp at hbig; omega
      | succ n =>
        have : m * 2 ^ (n + 1) = 2 * (m * 2 ^ n) := by rw [Nat.pow_succ]; ac_rfl
        rw [this]; simp
    · simp only [hbig, decide_false, Bool.false_eq_true, if_false]
  · simp only [he, if_false, Int.sub_self, Int.toNat_zero, Nat.pow_zero, Nat.mul_one]
    have hp : 1 ≤ 2 ^ ((0:Int) - e).toNat := Nat.pow_pos (by decide)
    have : ¬ (((2^53 * 2 ^ ((0:Int) - e).toNat : Nat) : Int) ≤ ((m : Nat) : Int)) := by
      have : 2^53 * 1 ≤ 2^53 * 2 ^ ((0:Int) - e).toNat := Nat.mul_le_mul_left _ hp
      omega
    simp only [this, decide_false, Bool.false_eq_true, if_false]

/-- C13.pow_table_partial — §15.8.2.13 for y NaN, y = ±0, x NaN, x = +∞ (any y) and x, y both infinite:
    otto returns the tabulated result.
    (Full statement, not proved: the same for every (x, y) with `Spec.powTable x y = some r`; the
    remaining bullets — finite x with y = ±∞, x = −∞ with finite y, x = ±0, and x < 0 with non-integer y —
    are covered by the correspondence harness only; `isOddInt_eq` is the lemma they need.) -/
theorem pow_table_partial (L : Lib) (x y r : FV) (hy : IsDouble y)
    (hcase : isNaN y = true ∨ isZero y = true ∨ isNaN x = true ∨ x = .inf false ∨ (isInf x = true ∧ isInf y = true))
    (h : Spec.powTable x y = some r) : mathPow L x y = r := by
  cases y with
  | nan => cases h; rfl
  | inf t =>
    cases x with
    | nan => cases t <;> (cases h; rfl)
    | inf s' => cases t <;> cases s' <;> (cases h; rfl)
    | fin s m e => simp [isNaN, isZero, isInf] at hcase
  | fin t n f =>
    by_cases hn : n = 0
    · subst hn
      cases h
      simp [mathPow, goPow, isInf, isNaN]
    · cases x with
      | nan =>
        simp [Spec.powTable, isNaN, hn] at h; subst h
        by_cases h1 : eqNum (.fin t n f) one = true <;> simp [mathPow, goPow, isInf, isNaN, hn, abs, h1]
      | inf s' =>
        have hne : eqNum (.inf s') one = false := by simp [one]
        cases s'
        · -- x = +∞
          simp [Spec.powTable, isNaN, hn, Spec.isPositive, zero] at h
          by_cases h1 : eqNum (.fin t n f) (.fin false 1 0) = true
          · simp [eq_one_pos t n f h1] at h; subst h
            simp [mathPow, goPow, isInf, isNaN, isZero, hn, abs, h1, one]
          · cases t <;> simp at h <;> subst h <;>
              simp [mathPow, goPow, isInf, isNaN, isZero, hn, abs, h1, one, zero]
        · simp [isNaN, isInf, hn] at hcase
      | fin s m e => simp [isNaN, isInf, hn] at hcase

/-- C13.encode_sets (ASCII half): for each of the 128 ASCII code points, what otto's regexp + url.QueryEscape
    pipeline emits is the character itself exactly when §15.1.3 lists it as unescaped, else "%XX" -/
theorem encode_sets_ascii : ∀ r, r < 128 →
    replaceRune keepURI r = (if Spec.unescapedURISet r then [r] else Spec.pctOctet r) ∧
    replaceRune keepComponent r = (if Spec.unescapedComponentSet r then [r] else Spec.pctOctet r) := by
  decide +kernel

/-- a code point ≥ 128 that the keep list does not hold (no list of ASCII code points does) becomes the %XX escapes
    of its UTF-8 octets -/
theorem replaceRune_high (keep : List Nat) (r : Nat) (hr : Scalar r) (h : 128 ≤ r) (hk : keep.contains r = false) :
    replaceRune keep r = (Spec.utf8Octets r).flatMap Spec.pctOctet := by
  have h32 : r ≠ 32 := by omega
  have hb := utf8Octets_high r hr h
  have hq := queryEscape_high (Spec.utf8Octets r) (fun b hb' => (hb b hb').1)
  have hp : (Spec.utf8Octets r).flatMap pct = (Spec.utf8Octets r).flatMap Spec.pctOctet := by
    apply flatMap_congr; intro b hb'; exact pct_eq b (hb b hb').2
  simp only [replaceRune, hk, Bool.false_eq_true, if_false, h32, encodeRune_eq r hr, hq, hp]

/-- C13.encode_sets (non-ASCII half): every code point ≥ 128 is emitted as the %XX escapes of its UTF-8 octets -/
theorem encode_sets_high (r : Nat) (hr : Scalar r) (h : 128 ≤ r) :
    replaceRune keepURI r = (Spec.utf8Octets r).flatMap Spec.pctOctet ∧
    replaceRune keepComponent r = (Spec.utf8Octets r).flatMap Spec.pctOctet :=
  ⟨replaceRune_high _ r hr h (not_contains_of_lt (b := 128) (by decide) h),
    replaceRune_high _ r hr h (not_contains_of_lt (b := 128) (by decide) h)⟩

theorem component_rune (r : Nat) (hr : Scalar r) (rest : List Nat) :
    queryUnescape (plusHack (replaceRune keepComponent r) ++ rest) = (queryUnescape rest).map (encodeRune r ++ ·) := by
  by_cases hlt : r < 128
  · rw [encodeRune_ascii hlt, (encode_sets_ascii r hlt).2]
    by_cases hu : Spec.unescapedComponentSet r = true
    · have h37 : r ≠ 37 := by rintro rfl; exact absurd hu (by decide)
      have h43 : r ≠ 43 := by rintro rfl; exact absurd hu (by decide)
      have hp : plusHack [r] = [r] := by simp [plusHack, h43]
      rw [if_pos hu, hp]
      exact qu_plain r h37 h43 rest
    · rw [if_neg hu, ← pct_eq r (by omega), plusHack_pct r (by omega), qu_pct r (by omega)]
      rfl
  · have hb := utf8Octets_high r hr (Nat.le_of_not_lt hlt)
    rw [(encode_sets_high r hr (Nat.le_of_not_lt hlt)).2, ← flatMap_congr _ (fun b hb' => pct_eq b (hb b hb').2),
      plusHack_pcts _ (fun b hb' => (hb b hb').2), qu_pcts _ (fun b hb' => (hb b hb').2), encodeRune_eq r hr]

/-- C13.uri_roundtrip_partial — for every sequence of Unicode scalar values, URL-unescaping (after the
    `+` → `%2B` hack) what encodeURIComponent's escaping stage emits returns exactly the UTF-8 bytes of the
    sequence, without error.
    (Full statement, not proved: decodeURIComponent(encodeURIComponent(s)) = s for every well-formed UTF-16 s.
    Missing links: utf8.ValidString(encodeRunes rs) = true, the surrogate-pairing loop
    encLoop (utf16Encode rs) = some (encodeRunes rs), and for the decodeURI/encodeURI pair that decodeURIGuard
    never fires on encodeURI output; decodeRunes ∘ encodeRunes = id is `C09.Lem.decodeRunes_encodeRunes`.) -/
theorem uri_roundtrip_partial (rs : List Nat) (h : ∀ r ∈ rs, Scalar r) :
    queryUnescape (plusHack (rs.flatMap (replaceRune keepComponent))) = some (encodeRunes rs) := by
  induction rs with
  | nil => simp [plusHack, queryUnescape, encodeRunes]
  | cons r rs ih =>
    have ih' := ih (fun x hx => h x (by simp [hx]))
    simp only [List.flatMap_cons, plusHack_append]
    rw [component_rune r (h r (by simp)), ih']
    simp [encodeRunes]

/-- non-vacuity: ASCII, BMP and astral scalar values -/
example : ∀ r ∈ [97, 37, 43, 0xE9, 0x20AC, 0x1F600, 0x10FFFF], Scalar r := by simp [Scalar]

/-- C13.escape_roundtrip (§B.2.1–2) — for every well-formed string s (any Unicode scalar values, incl. characters
    outside the BMP; held, as otto holds it, as the Go string `encodeRunes rs`), unescape(escape(s)) is the
    Go-string-held string with the same code units, i.e. s. -/
theorem escape_roundtrip (rs : List Nat) (h : ∀ r ∈ rs, Scalar r) :
    unescape (.go (escape (.go (encodeRunes rs)))) = .go (encodeRunes rs) := by
  simp only [unescape, escape, SV.string]
  rw [escapeAux_encodeRunes rs h _ (Nat.le_refl _), unescapeAux_escUnits _ _ (utf16Encode_lt rs) (Nat.le_refl _)]
  obtain ⟨hd, hw⟩ := utf16_encode rs h
  simp only [utf16Value, hw, Bool.false_eq_true, if_false, bytesOfUnits, hd]

/-- non-vacuity: "aé€ %@" and U+1F600 are scalar values -/
example : ∀ r ∈ [97, 0xE9, 0x20AC, 32, 37, 64, 0x1F600], Scalar r := by simp [Scalar]

-- witnesses of the open deviation regions (the regions themselves are the predicates `dev…` of C13/Driver);
-- the harness replays each of them on the real code

/-- exp_overflow_early: at x = 709.5 (< Overflow = 709.78…) the amd64 test already overflows, so the model
    (like the real code) answers +∞ whatever the library computes -/
example : expOverflowAmd64 (decode 0x40862C0000000000) = true ∧ gt (decode 0x40862C0000000000) expOverflowConst = false := by
  decide +kernel
/-- log_subnormal: the logarithm is taken of a different number than the argument 5e-324 -/
example : logFrexpAmd64 1 (-1074) ≠ .fin false 1 (-1074) := by decide
/-- atan2_underflow: Math.atan2(-5e-324, -2) is +π; §15.8.2.5 has y<0 ⇒ result < 0 -/
example : encode (mathAtan2 Driverless.lib (decode 0x8000000000000001) (decode 0xC000000000000000)) = encode pi := by
  decide +kernel
/-- lone_surrogate_input: escape, unescape and decodeURIComponent read a UTF-16-held argument through
    Value.string(), which turns the unpaired surrogate into U+FFFD -/
example : unitsOfBytes (escape (.u16 [0xD800])) ≠ Spec.escape [0xD800] := by decide
example : (unescape (.u16 [0xD800])).units ≠ Spec.unescape [0xD800] := by decide
example : (decodeURI false (.u16 [0xD800])).map unitsOfBytes ≠ Spec.decodeURIComponent [0xD800] := by decide

end OttoVerif.C13.Thm
