/-
  C13/Lemmas — Base/F64's order on the forms of argument the Math tables distinguish; Go's math.Max/Min and the
  builtinMathMax/Min loop against §15.8.2.11–12; one step of escape/unescape and of the URI escaping pipeline on a
  Unicode scalar value.
-/
import OttoVerif.C13.Spec
import OttoVerif.Base.StrLemmas
import OttoVerif.Base.F64Lemmas
namespace OttoVerif.C13.Thm
open OttoVerif.F64 OttoVerif.Str OttoVerif.C13

@[simp] theorem lt_nan_l (x : FV) : lt .nan x = false := by simp [lt, cmpReal]
@[simp] theorem lt_nan_r (x : FV) : lt x .nan = false := by cases x <;> simp [lt, cmpReal]
@[simp] theorem lt_inf_inf (s t : Bool) : lt (.inf s) (.inf t) = (s && !t) := by
  cases s <;> cases t <;> simp [lt, cmpReal]
@[simp] theorem lt_inf_fin (s t : Bool) (m : Nat) (e : Int) : lt (.inf s) (.fin t m e) = s := by
  cases s <;> simp [lt, cmpReal]
@[simp] theorem lt_fin_inf (s t : Bool) (m : Nat) (e : Int) : lt (.fin t m e) (.inf s) = !s := by
  cases s <;> simp [lt, cmpReal]
@[simp] theorem eqNum_nan_l (x : FV) : eqNum .nan x = false := by simp [eqNum, cmpReal]
@[simp] theorem eqNum_nan_r (x : FV) : eqNum x .nan = false := by cases x <;> simp [eqNum, cmpReal]
@[simp] theorem eqNum_inf_fin (s t : Bool) (m : Nat) (e : Int) : eqNum (.inf s) (.fin t m e) = false := by
  cases s <;> simp [eqNum, cmpReal]
@[simp] theorem eqNum_fin_inf (s t : Bool) (m : Nat) (e : Int) : eqNum (.fin t m e) (.inf s) = false := by
  cases s <;> simp [eqNum, cmpReal]

attribute [simp] isZero_fin lt_zero_fin lt_fin_zero

@[simp] theorem le_zero_inf (s : Bool) : le (.fin false 0 0) (.inf s) = !s := by
  cases s <;> simp [le, cmpReal]

@[simp] theorem le_zero_fin (s : Bool) (m : Nat) (e : Int) : le (.fin false 0 0) (.fin s m e) = (!s || decide (m = 0)) := by
  simp only [le_fin, alignInt_zero, Int.le_iff_lt_or_eq, alignInt_pos, eq_comm (a := (0:Int)), alignInt_eq_zero]
  cases s <;> by_cases hm : m = 0 <;> simp [hm]

theorem abs_gt_one (s : Bool) (m : Nat) (e : Int) :
    gt (abs (.fin s m e)) one = (Spec.gtOne (.fin s m e) || Spec.ltNegOne (.fin s m e)) := by
  simp only [gt, abs, one, negOne, Spec.gtOne, Spec.ltNegOne, lt_fin, ite_le_comm e 0]
  generalize (if e ≤ 0 then e else 0) = k
  cases s <;> simp only [alignInt, Bool.false_eq_true, if_false, if_true] <;>
    generalize (1 * 2 ^ ((0:Int) - k).toNat : Nat) = A <;>
    generalize (m * 2 ^ (e - k).toNat : Nat) = M <;>
    by_cases h1 : (A : Int) < (M : Int) <;> simp [h1] <;> omega

theorem one_cmp_zero (s : Bool) (e : Int) :
    Spec.gtOne (.fin s 0 e) = false ∧ Spec.ltNegOne (.fin s 0 e) = false ∧ eqNum (.fin s 0 e) one = false := by
  simp only [one, negOne, Spec.gtOne, Spec.ltNegOne, lt_fin, eqNum_fin, alignInt_zero]
  have h1 := (alignInt_pos false 1 0 (if (0:Int) ≤ e then 0 else e)).2 ⟨rfl, by decide⟩
  have h2 := (alignInt_neg true 1 0 (if e ≤ (0:Int) then e else 0)).2 ⟨rfl, by decide⟩
  have h3 := (alignInt_pos false 1 0 (if e ≤ (0:Int) then e else 0)).2 ⟨rfl, by decide⟩
  refine ⟨?_, ?_, ?_⟩ <;> simp <;> omega

theorem eq_one_pos (s : Bool) (m : Nat) (e : Int) (h : eqNum (.fin s m e) one = true) : s = false := by
  rw [one, eqNum_fin] at h
  have hp := (alignInt_pos false 1 0 (if e ≤ 0 then e else 0)).2 ⟨rfl, by decide⟩
  rw [← of_decide_eq_true h] at hp
  exact ((alignInt_pos s m e _).1 hp).1

def IsDouble : FV → Prop
  | .fin _ m _ => m < 2^53
  | _ => True

theorem max2_negInf (a : FV) (h : isNaN a = false) : Spec.max2 (.inf true) a = a := by
  cases a with
  | nan => cases h
  | inf s => cases s <;> rfl
  | fin s m e => rfl

theorem max2_posInf (a : FV) (h : isNaN a = false) :
    Spec.max2 (.inf false) a = .inf false ∧ Spec.max2 a (.inf false) = .inf false := by
  cases a with
  | nan => cases h
  | inf s => cases s <;> exact ⟨rfl, rfl⟩
  | fin s m e => exact ⟨rfl, rfl⟩

theorem min2_posInf (a : FV) (h : isNaN a = false) : Spec.min2 (.inf false) a = a := by
  cases a with
  | nan => cases h
  | inf s => cases s <;> rfl
  | fin s m e => rfl

theorem min2_negInf (a : FV) (h : isNaN a = false) :
    Spec.min2 (.inf true) a = .inf true ∧ Spec.min2 a (.inf true) = .inf true := by
  cases a with
  | nan => cases h
  | inf s => cases s <;> exact ⟨rfl, rfl⟩
  | fin s m e => exact ⟨rfl, rfl⟩

/-- pairwise: Go's math.Max makes the ES5 choice on non-NaN arguments: the two test the order and the
    signed zeros in different sequence, which is immaterial because `lt` is asymmetric and false on two zeros -/
theorem goMax_eq (a b : FV) (ha : isNaN a = false) (hb : isNaN b = false) : goMax a b = Spec.max2 a b := by
  unfold goMax Spec.max2 gt
  by_cases hi : a = .inf false ∨ b = .inf false
  · rw [if_pos hi]
    rcases hi with rfl | rfl
    · exact (max2_posInf b hb).1.symm
    · exact (max2_posInf a ha).2.symm
  rw [if_neg hi, ha, hb, if_neg (by decide)]
  by_cases hz : (isZero a && isZero b) = true
  · have h := Bool.and_eq_true_iff.1 hz
    rw [if_pos hz, lt_of_isZero h.1 h.2, lt_of_isZero h.2 h.1, if_pos hz]; rfl
  · rw [if_neg hz, if_neg hz]
    by_cases h1 : lt a b = true
    · rw [if_pos h1, lt_asymm _ _ h1]; rfl
    · rw [if_neg h1]

theorem goMin_eq (a b : FV) (ha : isNaN a = false) (hb : isNaN b = false) : goMin a b = Spec.min2 a b := by
  unfold goMin Spec.min2
  by_cases hi : a = .inf true ∨ b = .inf true
  · rw [if_pos hi]
    rcases hi with rfl | rfl
    · exact (min2_negInf b hb).1.symm
    · exact (min2_negInf a ha).2.symm
  rw [if_neg hi, ha, hb, if_neg (by decide)]
  by_cases hz : (isZero a && isZero b) = true
  · have h := Bool.and_eq_true_iff.1 hz
    rw [if_pos hz, lt_of_isZero h.1 h.2, lt_of_isZero h.2 h.1, if_pos hz]; rfl
  · rw [if_neg hz, if_neg hz]
    split
    · rfl
    · split <;> rfl

theorem max2_cases (a b : FV) : Spec.max2 a b = a ∨ Spec.max2 a b = b := by
  unfold Spec.max2
  by_cases h1 : lt a b = true <;> by_cases h2 : lt b a = true <;> by_cases h3 : (isZero a && isZero b) = true <;>
    by_cases h4 : signBit a = true <;> simp [h1, h2, h3, h4]
theorem min2_cases (a b : FV) : Spec.min2 a b = a ∨ Spec.min2 a b = b := by
  unfold Spec.min2
  by_cases h1 : lt a b = true <;> by_cases h2 : lt b a = true <;> by_cases h3 : (isZero a && isZero b) = true <;>
    by_cases h4 : signBit a = true <;> simp [h1, h2, h3, h4]

theorem foldFlag_flag (op : FV → FV → FV) :
    ∀ (l : List FV) (r : FV) (n : Bool), (foldFlag op r n l).2 = (n || l.any isNaN) := by
  intro l
  induction l with
  | nil => intro r n; simp [foldFlag]
  | cons v rest ih => intro r n; simp only [foldFlag, ih, List.any_cons, Bool.or_assoc]

theorem foldFlag_val (op spec2 : FV → FV → FV)
    (hop : ∀ a b, isNaN a = false → isNaN b = false → op a b = spec2 a b)
    (hc : ∀ a b, spec2 a b = a ∨ spec2 a b = b) :
    ∀ (l : List FV) (r : FV) (n : Bool), isNaN r = false → l.any isNaN = false →
      (foldFlag op r n l).1 = l.foldl spec2 r := by
  intro l
  induction l with
  | nil => intro r n _ _; simp [foldFlag]
  | cons v rest ih =>
    intro r n hr hl
    simp only [List.any_cons, Bool.or_eq_false_iff] at hl
    have hn : isNaN (spec2 r v) = false := by
      rcases hc r v with h | h
      · rw [h]; exact hr
      · rw [h]; exact hl.1
    simp only [foldFlag, List.foldl_cons]
    rw [hop r v hr hl.1, ih _ _ hn hl.2]

/-- the loop of builtinMathMax/Min against the fold of §15.8.2.11–12, for any pairwise operation that makes the
    spec's choice on non-NaN arguments; `bot` is the fold's start value, neutral for that choice -/
theorem foldFlag_eq (op spec2 : FV → FV → FV) (bot : FV)
    (hop : ∀ a b, isNaN a = false → isNaN b = false → op a b = spec2 a b)
    (hc : ∀ a b, spec2 a b = a ∨ spec2 a b = b)
    (hbot : ∀ a, isNaN a = false → spec2 bot a = a) (a : FV) (rest : List FV) :
    (if (foldFlag op a (isNaN a) rest).2 then FV.nan else (foldFlag op a (isNaN a) rest).1) =
      if (a :: rest).any isNaN then .nan else (a :: rest).foldl spec2 bot := by
  rw [foldFlag_flag, List.any_cons]
  cases h : (isNaN a || rest.any isNaN)
  · have h' := Bool.or_eq_false_iff.1 h
    rw [if_neg (by decide), if_neg (by decide), List.foldl_cons, hbot a h'.1,
      foldFlag_val op spec2 hop hc rest a _ h'.1 h'.2]
  · rfl

theorem hexUpper_ne_u : ∀ n, n < 16 → hexUpper n ≠ 117 := by decide
theorem hexUpper_ne_plus : ∀ n, n < 16 → hexUpper n ≠ 43 := by decide
theorem isHex_hexUpper : ∀ n, n < 16 → isHex (hexUpper n) = true := by decide
theorem unhex_hexUpper : ∀ n, n < 16 → unhex (hexUpper n) = n := by decide
theorem hexUpper_eq_hexChar : ∀ n, n < 16 → hexUpper n = Spec.hexChar n := by decide

theorem unescapeAux_pct (k b : Nat) (hb : b < 256) (rest : List Nat) :
    unescapeAux (k + 1) (pct b ++ rest) = b :: unescapeAux k rest := by
  have l1 : b / 16 < 16 := by omega
  have l2 : b % 16 < 16 := by omega
  simp only [pct, List.cons_append, List.nil_append]
  rw [unescapeAux.eq_4 _ _ _ _ (by intro _ _ _ _ h; exact absurd h (hexUpper_ne_u _ l1))]
  simp only [isHex_hexUpper _ l1, isHex_hexUpper _ l2, unhex_hexUpper _ l1, unhex_hexUpper _ l2, and_self, if_true]
  congr 1; omega

theorem unescapeAux_pctU (k u : Nat) (hu : u < 65536) (rest : List Nat) :
    unescapeAux (k + 1) (pctU u ++ rest) = u :: unescapeAux k rest := by
  have l1 : u / 4096 < 16 := by omega
  have l2 : (u / 256) % 16 < 16 := by omega
  have l3 : (u / 16) % 16 < 16 := by omega
  have l4 : u % 16 < 16 := by omega
  simp only [pctU, List.cons_append, List.nil_append]
  rw [unescapeAux.eq_3]
  simp only [isHex_hexUpper _ l1, isHex_hexUpper _ l2, isHex_hexUpper _ l3, isHex_hexUpper _ l4, unhex_hexUpper _ l1,
    unhex_hexUpper _ l2, unhex_hexUpper _ l3, unhex_hexUpper _ l4, and_self, if_true]
  congr 1; omega

theorem unescapeAux_plain (k c : Nat) (hc : c ≠ 37) (hlt : c < 128) (rest : List Nat) :
    unescapeAux (k + 1) (c :: rest) = c :: unescapeAux k rest := by
  rw [unescapeAux.eq_5]
  · have hn : ¬((0xD800 ≤ c ∧ c ≤ 0xDFFF) ∨ c > 0x10FFFF) := by omega
    simp [decodeRune, hlt, utf16Encode, if_neg hn]
    rw [if_pos (by omega)]; rfl
  · intro a b c d r h _; exact hc h
  · intro a b r h _; exact hc h

def BMP (r : Nat) : Prop := r < 0x10000 ∧ ¬(0xD800 ≤ r ∧ r ≤ 0xDFFF)
def Scalar (r : Nat) : Prop := r ≤ 0x10FFFF ∧ ¬(0xD800 ≤ r ∧ r ≤ 0xDFFF)

theorem encodeRune_eq (r : Nat) (hr : Scalar r) : encodeRune r = Spec.utf8Octets r :=
  encodeRune_of_scalar hr.1 hr.2

theorem not_contains_of_lt {l : List Nat} {r b : Nat} (hl : ∀ x ∈ l, x < b) (hr : b ≤ r) : l.contains r = false := by
  cases h : l.contains r
  · rfl
  · exact absurd (hl r (List.contains_iff_mem.1 h)) (Nat.not_lt.2 hr)

theorem isAlnum_high (c : Nat) (h : 128 ≤ c) : isAlnum c = false := by
  simp [isAlnum]; omega

theorem shouldEscape_high (c : Nat) (h : 128 ≤ c) : shouldEscape c = true := by
  rw [shouldEscape, isAlnum_high c h, not_contains_of_lt (b := 128) (by decide) h]; rfl

theorem hasLone_cons_bmp (u : Nat) (hu : ¬(0xD800 ≤ u ∧ u ≤ 0xDFFF)) (rest : List Nat) :
    hasLone (u :: rest) = hasLone rest := by
  cases rest with
  | nil => simp [hasLone]; omega
  | cons v rest' => rw [hasLone, if_neg (by omega), if_neg (by omega)]

theorem utf16_step (r : Nat) (hr : Scalar r) (us : List Nat) :
    utf16Decode (utf16Encode [r] ++ us) = r :: utf16Decode us ∧ hasLone (utf16Encode [r] ++ us) = hasLone us := by
  rw [utf16Encode_singleton hr.1 hr.2]
  obtain ⟨h1, h2⟩ := hr
  by_cases hb : r < 0x10000
  · rw [if_pos hb]; exact ⟨utf16Decode_cons_bmp r h2 us, hasLone_cons_bmp r h2 us⟩
  · rw [if_neg hb]
    refine ⟨?_, ?_⟩
    · show utf16Decode (_ :: _ :: us) = _
      rw [utf16Decode, if_pos (by omega)]; congr 1; omega
    · show hasLone (_ :: _ :: us) = _
      rw [hasLone, if_pos (by omega)]

theorem utf16_encode (rs : List Nat) (h : ∀ r ∈ rs, Scalar r) :
    utf16Decode (utf16Encode rs) = rs ∧ hasLone (utf16Encode rs) = false := by
  induction rs with
  | nil => exact ⟨rfl, rfl⟩
  | cons r rs ih =>
    obtain ⟨hd, hl⟩ := utf16_step r (h r (List.mem_cons_self ..)) (utf16Encode rs)
    obtain ⟨ihd, ihl⟩ := ih fun x hx => h x (List.mem_cons_of_mem _ hx)
    rw [utf16Encode_cons, hd, hl, ihd]
    exact ⟨rfl, ihl⟩

theorem flatMap_congr {f g : Nat → List Nat} (l : List Nat) (h : ∀ b ∈ l, f b = g b) : l.flatMap f = l.flatMap g := by
  rw [List.flatMap_def, List.flatMap_def, List.map_congr_left h]

/-- what `escape` emits for one UTF-16 code unit (§B.2.1 steps 6–13): a kept character as it is, else %XX below
    256, else %uXXXX -/
def escUnit (u : Nat) : List Nat :=
  if u < 128 ∧ shouldEscape u = false then [u] else if u < 256 then pct u else pctU u

/-- a scalar value that is not kept is escaped unit by unit: it is its own single unit, or all its units are ≥ 128 -/
theorem escapeRune_eq (r : Nat) (hr : Scalar r) (hk : ¬(r < 128 ∧ shouldEscape r = false)) :
    escapeRune r = (utf16Encode [r]).flatMap escUnit := by
  refine flatMap_congr _ fun u hu => ?_
  rw [utf16Encode_singleton hr.1 hr.2] at hu
  have hnk : ¬(u < 128 ∧ shouldEscape u = false) := by
    split at hu
    · rw [List.mem_singleton.1 hu]; exact hk
    · simp only [List.mem_cons, List.not_mem_nil, or_false] at hu; omega
  rw [escUnit, if_neg hnk]

theorem escapeAux_encodeRune (k r : Nat) (hr : Scalar r) (rest : List Nat) :
    escapeAux (k + 1) (encodeRune r ++ rest) = (utf16Encode [r]).flatMap escUnit ++ escapeAux k rest := by
  have hd := decodeRune_encodeRune hr.1 hr.2 rest
  by_cases hlt : r < 128
  · rw [encodeRune_ascii hlt] at hd ⊢
    show escapeAux (k + 1) (r :: rest) = _
    rw [escapeAux]
    cases hse : shouldEscape r
    · rw [if_neg (by decide), utf16Encode_singleton hr.1 hr.2, if_pos (by omega), List.flatMap_cons, escUnit,
        if_pos ⟨hlt, hse⟩]; rfl
    · have hd' : decodeRune (r :: rest) = some (r, 1) := hd
      rw [if_pos rfl, hd', ← escapeRune_eq r hr (fun h => by rw [hse] at h; cases h.2)]; rfl
  · obtain ⟨c, t, e, hb⟩ := encodeRune_high (Nat.le_of_not_lt hlt)
    rw [e] at hd ⊢
    rw [List.cons_append, escapeAux, if_pos (shouldEscape_high c (hb c (List.mem_cons_self ..)).1), ← List.cons_append, hd,
      ← escapeRune_eq r hr (fun h => hlt h.1)]
    show _ ++ escapeAux k (List.drop (c :: t).length (c :: t ++ rest)) = _
    rw [List.drop_left]

/-- escape of a well-formed Go string, in closed form: the UTF-16 units of the string, each escaped -/
theorem escapeAux_encodeRunes (rs : List Nat) (h : ∀ r ∈ rs, Scalar r) :
    ∀ m, (encodeRunes rs).length ≤ m → escapeAux m (encodeRunes rs) = (utf16Encode rs).flatMap escUnit := by
  induction rs with
  | nil => intro m _; cases m <;> rfl
  | cons r rs ih =>
    intro m hm
    rw [encodeRunes_cons, List.length_append] at hm
    have hpos := encodeRune_length_pos r
    obtain ⟨k, rfl⟩ : ∃ k, m = k + 1 := ⟨m - 1, by omega⟩
    rw [encodeRunes_cons, escapeAux_encodeRune k r (h r (List.mem_cons_self ..)),
      ih (fun x hx => h x (List.mem_cons_of_mem _ hx)) k (by omega), utf16Encode_cons r rs, List.flatMap_append]

/-- unescape reads the piece of one unit back as that unit, for one unit of fuel (a value outside the BMP is two
    units and two steps) -/
theorem unescapeAux_escUnit (k u : Nat) (hu : u < 65536) (rest : List Nat) :
    unescapeAux (k + 1) (escUnit u ++ rest) = u :: unescapeAux k rest := by
  unfold escUnit
  by_cases hk : u < 128 ∧ shouldEscape u = false
  · rw [if_pos hk]
    exact unescapeAux_plain k u (by rintro rfl; exact absurd hk.2 (by decide)) hk.1 rest
  · rw [if_neg hk]
    by_cases h : u < 256
    · rw [if_pos h]; exact unescapeAux_pct k u h rest
    · rw [if_neg h]; exact unescapeAux_pctU k u hu rest

/-- … hence any sequence of units, lone surrogates included, as long as the fuel covers the input -/
theorem unescapeAux_escUnits : ∀ (us : List Nat) (n : Nat), (∀ u ∈ us, u < 65536) →
    (us.flatMap escUnit).length ≤ n → unescapeAux n (us.flatMap escUnit) = us
  | [], n, _, _ => by cases n <;> rfl
  | u :: us, n, h, hn => by
    rw [List.flatMap_cons] at hn ⊢
    rw [List.length_append] at hn
    have : 1 ≤ (escUnit u).length := by
      unfold escUnit; split
      · exact Nat.le_refl 1
      · split <;> exact Nat.succ_le_succ (Nat.zero_le _)
    obtain ⟨k, rfl⟩ : ∃ k, n = k + 1 := ⟨n - 1, by omega⟩
    rw [unescapeAux_escUnit k u (h u (List.mem_cons_self ..)),
      unescapeAux_escUnits us k (fun x hx => h x (List.mem_cons_of_mem _ hx)) (by omega)]

theorem pct_eq (b : Nat) (hb : b < 256) : pct b = Spec.pctOctet b := by
  simp [pct, Spec.pctOctet, hexUpper_eq_hexChar (b / 16) (by omega), hexUpper_eq_hexChar (b % 16) (by omega)]

theorem queryEscape_high (bs : List Nat) (h : ∀ b ∈ bs, 128 ≤ b) : queryEscape bs = bs.flatMap pct :=
  flatMap_congr bs fun b hb => by
    have h128 := h b hb
    have he : urlShouldEscape b = true := by simp [urlShouldEscape, isAlnum_high b h128]; omega
    rw [if_neg (by omega), he]; rfl

theorem utf8Octets_high (r : Nat) (hr : Scalar r) (h : 128 ≤ r) : ∀ b ∈ Spec.utf8Octets r, 128 ≤ b ∧ b < 256 := by
  obtain ⟨c, t, e, hb⟩ := encodeRune_high h
  rw [← encodeRune_eq r hr, e]
  exact hb

theorem qu_plain (c : Nat) (h37 : c ≠ 37) (h43 : c ≠ 43) (rest : List Nat) :
    queryUnescape (c :: rest) = (queryUnescape rest).map (c :: ·) := by
  rw [queryUnescape.eq_4]
  · intro a b r h _; exact h37 h
  · intro h; exact h37 h
  · intro h; exact h43 h

theorem qu_pct (b : Nat) (hb : b < 256) (rest : List Nat) :
    queryUnescape (pct b ++ rest) = (queryUnescape rest).map (b :: ·) := by
  have l1 : b / 16 < 16 := by omega
  have l2 : b % 16 < 16 := by omega
  simp only [pct, List.cons_append, List.nil_append]
  rw [queryUnescape.eq_1]
  simp only [isHex_hexUpper _ l1, isHex_hexUpper _ l2, unhex_hexUpper _ l1, unhex_hexUpper _ l2, and_self, if_true]
  have : b / 16 * 16 + b % 16 = b := by omega
  rw [this]

theorem plusHack_pct (b : Nat) (hb : b < 256) : plusHack (pct b) = pct b := by
  have h1 := hexUpper_ne_plus (b / 16) (by omega)
  have h2 := hexUpper_ne_plus (b % 16) (by omega)
  simp [plusHack, pct, h1, h2]

theorem plusHack_append (a b : List Nat) : plusHack (a ++ b) = plusHack a ++ plusHack b := by
  simp [plusHack, List.flatMap_append]

theorem plusHack_pcts (bs : List Nat) (h : ∀ b ∈ bs, b < 256) : plusHack (bs.flatMap pct) = bs.flatMap pct := by
  rw [plusHack, List.flatMap_assoc]
  exact flatMap_congr bs fun b hb => plusHack_pct b (h b hb)

theorem qu_pcts (bs : List Nat) (h : ∀ b ∈ bs, b < 256) (rest : List Nat) :
    queryUnescape (bs.flatMap pct ++ rest) = (queryUnescape rest).map (bs ++ ·) := by
  induction bs with
  | nil => simp
  | cons b t ih =>
    simp only [List.flatMap_cons, List.append_assoc]
    rw [qu_pct b (h b (by simp)), ih (fun x hx => h x (by simp [hx]))]
    cases queryUnescape rest <;> simp

end OttoVerif.C13.Thm
