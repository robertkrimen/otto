/-
  C11/Theorems — the ledger for property C11.  Every `theorem` in this file is audited
  (`#print axioms` ⊆ {propext, Classical.choice, Quot.sound}) on every run.

  Model = otto's code (C11/Model), Spec = ES5 15.12 (C11/Spec).  Deviation regions are the decidable
  predicates of C11/Spec ("deviation regions"); each has a kernel-checked witness below.
-/
import OttoVerif.C11.Stringify
import OttoVerif.C11.Parse
namespace OttoVerif.C11.Thm
open OttoVerif.C11 OttoVerif.C11.Spec OttoVerif.C11.Lem
open OttoVerif.F64 (FV)

/-- `grammar_accepts`: otto accepts exactly the texts of the ES5 JSON grammar.  The hypothesis
    `goStr t = t` says the text has no unpaired surrogate (region parse_lone_surrogate). -/
theorem grammar_accepts (t : Str) (hs : goStr t = t) : (C11.jsonParse t).isSome = inJSON t := by
  unfold C11.jsonParse inJSON
  rw [hs]
  cases h : parseText t with
  | none => rfl
  | some rt =>
    obtain ⟨v, hv⟩ := decode_some rt
    simp [hv]

/-- every text the grammar rejects is rejected by otto (SyntaxError), with no exception -/
theorem rejects_invalid (t : Str) (hs : goStr t = t) (h : inJSON t = false) : C11.jsonParse t = none :=
  Option.not_isSome_iff_eq_none.mp (by rw [grammar_accepts t hs, h]; exact Bool.false_ne_true)

/-- `denotation`: an accepted text yields exactly the value ES5 prescribes — numbers as the nearest
    double (±∞ beyond the range), strings code unit by code unit, properties in text order with a
    duplicate overwriting the value — unless a string literal holds an escaped surrogate half that is
    not paired (region parse_lone_surrogate). -/
theorem denotation (t : Str) (hs : goStr t = t) (rt : RT) (hp : parseText t = some rt)
    (hc : rtAny loneEsc rt = false) :
    C11.jsonParse t = Spec.jsonParse t :=
  jsonParse_eq t hs fun _ h => Option.some.inj (hp.symm.trans h) ▸ hc

/-- string literals: Go's unquote equals the ES5 code-unit reading unless an escaped surrogate half
    is unpaired -/
theorem string_literal_eq (s : List Item) (h : loneEsc s = false) : goCombine s = s.map Item.unit :=
  goCombine_eq s h

/-- `reviver_order`: for EVERY reviver — also one that changes its holder while it runs (deletes or
    adds a sibling key, sets the array's length, pushes, pops, deletes or assigns an element ahead or
    behind) — and every parsed value, builtinJSONReviveWalk makes exactly the calls ES5 15.12.2 Walk
    makes: bottom-up; for an array the indices below the length READ ONCE before the loop, for an object
    the keys taken before any is walked (a property or element gone meanwhile is still visited, with
    undefined; one added meanwhile is not); holder/key arguments; deleted on undefined and (re)defined
    otherwise; same order, same result. -/
theorem reviver_order (f : Reviver) (fuel hk : Nat) (name : Str) (v : RV) :
    reviveM f fuel hk name v = Spec.revive f fuel hk name v :=
  (revive_all_eq f fuel).1 hk name v

/-- the array loop is over at index `len`, the length read before the loop, whatever the array has become:
    a reviver that pushes onto its holder on every call does not prolong it -/
theorem revive_array_stops (f : Reviver) (fuel len : Nat) (cur : RVs) :
    reviveArrM f (fuel + 1) len len cur = (cur, []) := by
  simp [reviveArrM]

/-- shrinking the holder: a four-element array with a reviver that sets `this.length = 2` when called for
    "1": the calls are still 0,1,2,3 (then the root) -/
example : (reviveTop (fun k v => ⟨some v, if k = [49] then .setLen 2 else .none⟩) 9
      (.arr (.cons (.num .nan) (.cons .null (.cons (.bool true) (.cons (.bool false) .nil)))))).2
    = [[65, 48], [65, 49], [65, 50], [65, 51], [79]] := by decide +kernel

/-- `stringify_rules`: for EVERY value tree, replacer function, property list, key and stack depth the
    walk of builtinJSONStringifyWalk produces the Go image (`gvOf`) of the tree ES5's Str/JO/JA
    produce: toJSON first, then the replacer function, then unboxing of Number/String/Boolean objects,
    accessor properties read through their getter, undefined and functions omitted from objects and
    null in arrays, non-finite numbers null,
    TypeError exactly on a reference to an enclosing container (cycle), property-list filtering.
    (`gvOf` is where the remaining differences live: keys go through a Go map, which the encoder
    sorts — region str_key_order —, strings through `goStr` — str_lone_surrogate —, numbers through
    `walkNum`, int64 or float64 for the encoder.) -/
theorem stringify_rules (M : MCtx) (S : SCtx) (hr : M.repl = S.repl) (hp : M.plist = S.plist) (hc : M.cv = S.cv)
    (hj : M.pj = S.pj) (fuel depth : Nat) (key : Str) (v : SV) :
    walk M fuel depth key v = WR.map gvOf (serial S fuel depth key v) :=
  walk_eq M S hr hp hc hj fuel depth key v

def smHas (k : Str) : SMs → Bool
  | .nil => false
  | .cons k' _ t => k' == k || smHas k t

/-- `inherited_get`: the member a property list names is read with [[Get]] — an own property
    (enumerable or not) shadows the prototype's, and a name the object does not own is looked up on the
    prototype chain (`objP own nonEnum proto` is looked up in own ++ nonEnum ++ proto) -/
theorem inherited_get (k : Str) (rest : SMs) : ∀ own : SMs,
    SMs.get k (SMs.app own rest) = if smHas k own then SMs.get k own else SMs.get k rest
  | .nil => by simp [SMs.app, smHas]
  | .cons k' v t => by
    by_cases h : k' = k
    · simp [SMs.app, SMs.get, smHas, h]
    · simp [SMs.app, SMs.get, smHas, h, inherited_get k rest t]

/-- `tojson_objects_only`: whatever toJSON methods or getters sit on String.prototype,
    Number.prototype, Boolean.prototype or Object.prototype (`pj`), a PRIMITIVE value — undefined,
    null, boolean, number, string — is never asked for one (ES5 15.12.3 Str step 2: "If Type(value) is
    Object"); for an object an own toJSON comes before an inherited one. -/
theorem tojson_objects_only (pj : SV → Str → Option SV) (key : Str) :
    viaToJSON pj key .undef = .undef ∧ viaToJSON pj key .null = .null ∧
    (∀ b, viaToJSON pj key (.bool b) = .bool b) ∧ (∀ x, viaToJSON pj key (.num x) = .num x) ∧
    (∀ s, viaToJSON pj key (.str s) = .str s) ∧ (∀ r, viaToJSON pj key (.tojson r) = r) := by
  simp [viaToJSON, isObjectKind]

/-- the lookup agrees with ES5 on every value and every prototype pollution -/
theorem tojson_step_eq (pj : SV → Str → Option SV) (key : Str) (v : SV) : viaToJSON pj key v = step2 pj key v :=
  viaToJSON_eq pj key v

/-- `wrapper_unboxing`: a Number object is serialised as ToNumber of it and a String object as ToString
    of it — [[DefaultValue]] calls `valueOf` / `toString` in the order of the hint, an own method
    overrides the inherited one, a non-callable one is passed over, TypeError when neither is callable —
    for every scripted pair of methods; a Boolean object gives its internal value.  The same function
    unwraps the `space` argument (`spaceOf`). -/
theorem wrapper_unboxing (cv : Conv) (v : SV) : unbox cv v = unbox4 cv v := unbox_eq cv v

theorem space_arg_eq (cv : Conv) (a : Option SV) : C11.spaceOf cv a = Spec.spaceOf cv a := by
  cases a with
  | none => rfl
  | some v =>
    simp only [C11.spaceOf, Spec.spaceOf, unbox_eq]
    cases unbox4 cv v <;> rfl

/-- `new Number(1)` with an own `valueOf` returning 42 serialises as the number 42 -/
example (cv : Conv) : unbox cv (.wrapNum (.fin false 1 0) (.ret (.num (.fin false 42 0))) .inherited) = .num (.fin false 42 0) := rfl
/-- `toString = null` and a custom `valueOf` on a String object: ToString falls back to valueOf -/
example (cv : Conv) : unbox cv (.wrapStr [97] (.ret (.str [98])) .notCallable) = .str [98] := rfl

/-- `cycle_detect`: a reference to the k-th enclosing container that is on the stack (k < depth) makes
    the walk throw TypeError, here without replacer function and inherited toJSON; that it throws in
    no other case, and that ES5 does the same, is the `back` arm of `stringify_rules`. -/
theorem cycle_detect (M : MCtx) (hn : M.repl = none) (fuel depth k : Nat) (key : Str) (h : k < depth)
    (hj : M.pj (.back k) key = none) :
    walk M (fuel + 1) depth key (.back k) = .throw := by
  simp [walk, hn, viaToJSON, isObjectKind, hj, viaGet, unbox, h]

/-- undefined / function: absent at top level and in objects … -/
theorem omit_undefined_function (M : MCtx) (hn : M.repl = none) (fuel depth : Nat) (key : Str)
    (hj : M.pj .func key = none) :
    walk M (fuel + 1) depth key .undef = .absent ∧ walk M (fuel + 1) depth key .func = .absent := by
  simp [walk, hn, viaToJSON, isObjectKind, hj, viaGet, unbox]

/-- … and `null` inside arrays -/
theorem array_undefined_is_null (M : MCtx) (hn : M.repl = none) (fuel depth i : Nat)
    (hj : ∀ k, M.pj .func k = none) :
    walkArr M (fuel + 3) depth i (.cons .undef (.cons .func .nil)) = .val (.cons .nil (.cons .nil .nil)) := by
  simp [walkArr, walk, hn, viaToJSON, isObjectKind, hj, viaGet, unbox]

/-- the gap never exceeds ten characters (ES5 15.12.3 steps 6-7), for every `space` argument -/
theorem spec_gap_le_10 (sp : Space) : (Spec.gapOf sp).length ≤ 10 := by
  cases sp with
  | str s => simp [Spec.gapOf]; omega
  | num x =>
    cases x with
    | nan => simp [Spec.gapOf, Spec.gapCount]
    | inf s => cases s <;> simp [Spec.gapOf, Spec.gapCount]
    | fin s m e => simp only [Spec.gapOf, Spec.gapCount, List.length_replicate]; split <;> omega
  | _ => simp [Spec.gapOf]

/-- a numeric `space` gives the same gap in otto as in ES5 (clamped to 0..10), for every double -/
theorem gap_number_eq (x : FV) : C11.gapOf (.num x) = Spec.gapOf (.num x) :=
  gapOf_eq _ fun _ h => nomatch h

/-- a string `space` gives the ES5 gap (its first ten code units) unless those hold an unpaired
    surrogate (region str_lone_surrogate) -/
theorem gap_string_eq (s : Str) (h : goStr (s.take 10) = s.take 10) : C11.gapOf (.str s) = Spec.gapOf (.str s) :=
  gapOf_eq _ fun _ e => Space.str.inj e ▸ h

/-- the array replacer: otto's property list is ES5's PropertyList (15.12.3 step 4.b) for every
    replacer array whose names need no surrogate repair — accepted names in order, duplicates and
    other values skipped -/
theorem property_list_eq (numStr : FV → Str) (items : List PLItem)
    (h : ∀ it ∈ items, C11.PLItem.name numStr it = Spec.PLItem.name numStr it) :
    C11.propertyList numStr items = Spec.propertyList numStr items [] := by
  unfold C11.propertyList
  generalize ([] : List Str) = seen
  induction items generalizing seen with
  | nil => rfl
  | cons it rest ih =>
    have h1 := h it (by simp)
    have h2 : ∀ x ∈ rest, C11.PLItem.name numStr x = Spec.PLItem.name numStr x :=
      fun x hx => h x (List.mem_cons_of_mem _ hx)
    simp only [plNames, Spec.propertyList, h1]
    cases Spec.PLItem.name numStr it with
    | none => exact ih h2 seen
    | some n => by_cases hc : seen.contains n = true <;> simp [hc, ih h2]

/-- `stringify_valid` + `roundtrip_value`: for EVERY Go value tree the walk can produce (all code
    units incl. controls, quotes, U+2028/9 and surrogate halves; any nesting), with a white-space gap,
    the text written by json.Marshal+Indent is accepted by the ES5 JSON grammar, and reading it back
    gives exactly that tree (`jvOf`): strings code unit for code unit, containers element by element,
    numbers as the value of their printed digits.  The reading falls in no parse deviation region, so
    otto's own JSON.parse returns the same tree.  `GOK` asks that code units are below 2^16 and that
    each printed number is a JSONNumber (`NumTxt`, validated per sample). -/
theorem stringify_valid (L : OttoVerif.C06.Lib) (gap : Str) (hgap : gap.all isWS = true) (g : GV) (hg : GOK L g) :
    inJSON (marshal L gap 0 g) = true ∧
    Spec.jsonParse (marshal L gap 0 g) = some (jvOf L g) ∧
    (parseText (marshal L gap 0 g)).bind decode = some (jvOf L g) := by
  obtain ⟨rt, h1, h2, h3⟩ := parseText_marshal L gap hgap g hg
  refine ⟨by simp [inJSON, h1], by simp [Spec.jsonParse, h1, h2], ?_⟩
  simp [h1, decode_eq rt h3, h2]

/-- a quoted string reads back code unit for code unit (Go's escaping incl. the escapes of U+2028/9) -/
theorem quote_roundtrip (s : Str) (hs : ∀ c ∈ s, c < 65536) (rest : List Nat) :
    ∃ items, scanString (s.flatMap goEscChar ++ 34 :: rest) = some (items, rest) ∧
      items.map Item.unit = s ∧ goCombine items = s := by
  obtain ⟨items, h1, h2, h3⟩ := scan_goQuote s hs rest
  exact ⟨items, h1, h2, by rw [goCombine_eq items h3, h2]⟩

/-- outside region str_u2028_escape Go's string escaping IS ES5's Quote, for every string -/
theorem quote_eq (s : Str) (h : s.any lsps = false) : goQuote s = quote s := by
  unfold goQuote quote
  congr 2
  induction s with
  | nil => rfl
  | cons c t ih =>
    simp only [List.any_cons, Bool.or_eq_false_iff] at h
    simp [List.flatMap_cons, goEscChar_eq c h.1, ih h.2]

-- the hypothesis `GOK` of `stringify_valid` can be met, and its conclusion evaluated
example : GOK OttoVerif.C06.Spec.exactLib (.arr (.cons (.str [60, 0xD83D, 0xDE00, 10]) (.cons .nil (.cons (.map (.cons [97] (.bool true) .nil)) .nil)))) := by
  simp [GOK, GOKL, GOKM, unitsOK]

example : inJSON (marshal OttoVerif.C06.Spec.exactLib [32, 32] 0
    (.arr (.cons (.str [60, 10]) (.cons .nil (.cons (.map (.cons [97] (.bool true) .nil)) .nil))))) = true := by decide +kernel

def firstStr : Option JV → Str
  | some (.str s) => s
  | _ => []

/-- parse_lone_surrogate: a string literal holding the escape for 0xD800 -/
example : C11.jsonParse [34, 92, 117, 100, 56, 48, 48, 34] ≠ Spec.jsonParse [34, 92, 117, 100, 56, 48, 48, 34] :=
  fun h => absurd (congrArg firstStr h) (by decide +kernel)

def idNum : Conv := { numStr := fun _ => [48], strNum := fun _ => .nan }

/-- str_key_order: {b:null,a:null} -/
example : C11.jsonStringify OttoVerif.C06.Spec.exactLib idNum noProtoToJSON 9 (.obj (.cons [98] .null (.cons [97] .null .nil))) .none .absent
    ≠ Spec.jsonStringify idNum noProtoToJSON 9 (.obj (.cons [98] .null (.cons [97] .null .nil))) .none .absent := by decide +kernel
/-- str_u2028_escape: the one-character string U+2028 -/
example : C11.jsonStringify OttoVerif.C06.Spec.exactLib idNum noProtoToJSON 9 (.str [0x2028]) .none .absent
    ≠ Spec.jsonStringify idNum noProtoToJSON 9 (.str [0x2028]) .none .absent := by decide +kernel
/-- str_lone_surrogate: the one-character string 0xD800 -/
example : C11.jsonStringify OttoVerif.C06.Spec.exactLib idNum noProtoToJSON 9 (.str [0xD800]) .none .absent
    ≠ Spec.jsonStringify idNum noProtoToJSON 9 (.str [0xD800]) .none .absent := by decide +kernel
/-- str_lone_surrogate, in the gap: nine spaces and a surrogate pair, cut after its first half -/
example : C11.gapOf (.str [32, 32, 32, 32, 32, 32, 32, 32, 32, 0xD83D, 0xDE00]) ≠ Spec.gapOf (.str [32, 32, 32, 32, 32, 32, 32, 32, 32, 0xD83D, 0xDE00]) := by decide +kernel

end OttoVerif.C11.Thm
