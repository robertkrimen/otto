/-
  C11/Parse — the parse side: Go's literal conversion against the ES5 reading of a syntax tree (`decode_eq`, on whole texts
  `jsonParse_eq`), Go's escaper read back by the JSON scanner (`scan_goQuote`), the text json.Marshal+Indent emits read back by
  the JSON grammar (`pv_marshal`), and the reviver walk (`revive_all_eq`).
-/
import OttoVerif.C11.Spec
namespace OttoVerif.C11.Lem
open OttoVerif.C11 OttoVerif.C11.Spec
open OttoVerif.F64 (FV)

theorem goCombine_eq : ∀ (s : List Item), loneEsc s = false → goCombine s = s.map Item.unit
  | [], _ => rfl
  | .raw u :: t, h => by
    simp only [loneEsc] at h
    simp [goCombine, Item.unit, goCombine_eq t h]
  | [.esc u], h => by
    simp only [loneEsc] at h
    simp [goCombine, h, Item.unit]
  | .esc u :: .esc w :: t, h => by
    simp only [loneEsc] at h
    by_cases hp : isHi u = true ∧ isLo w = true
    · simp only [hp, and_self, if_true] at h
      simp [goCombine, hp, Item.unit, goCombine_eq t h]
    · simp only [hp, if_false, Bool.or_eq_false_iff] at h
      have := goCombine_eq (.esc w :: t) h.2
      simp [goCombine, hp, h.1, this, Item.unit]
  | .esc u :: .raw w :: t, h => by
    simp only [loneEsc, Bool.or_eq_false_iff] at h
    simp [goCombine, h.1, Item.unit, goCombine_eq t h.2]

mutual
theorem decode_eq : ∀ rt, rtAny loneEsc rt = false → decode rt = some (denote rt)
  | .null, _ => rfl
  | .bool _, _ => rfl
  | .num n, _ => by simp [decode, goNum, denote]
  | .str s, h => by simp only [rtAny] at h; simp [decode, goCombine_eq s h, denote]
  | .arr l, h => by simp only [rtAny] at h; simp [decode, decodeL_eq l h, denote]
  | .obj m, h => by
    simp only [rtAny] at h
    simp [decode, decodeM_eq m h, denote]
theorem decodeL_eq : ∀ l, rtAnyL loneEsc l = false → decodeL l = some (denoteL l)
  | .nil, _ => rfl
  | .cons v t, h => by
    simp only [rtAnyL, Bool.or_eq_false_iff] at h
    simp [decodeL, decode_eq v h.1, decodeL_eq t h.2, denoteL]
theorem decodeM_eq : ∀ m, rtAnyM loneEsc m = false → decodeM m = some (denoteM m)
  | .nil, _ => rfl
  | .cons k v t, h => by
    simp only [rtAnyM, Bool.or_eq_false_iff] at h
    simp [decodeM, decode_eq v h.1.2, decodeM_eq t h.2, denoteM, goCombine_eq k h.1.1]
end

/-- JSON.parse without reviver is §15.12.2 on every text outside the region parse_lone_surrogate: rejection and
    acceptance alike (on a rejected text the second hypothesis is empty) -/
theorem jsonParse_eq (t : Str) (hs : goStr t = t) (hc : ∀ rt, parseText t = some rt → rtAny loneEsc rt = false) :
    C11.jsonParse t = Spec.jsonParse t := by
  unfold C11.jsonParse Spec.jsonParse
  rw [hs]
  cases hp : parseText t with
  | none => rfl
  | some rt => exact decode_eq rt (hc rt hp)

mutual
theorem decode_some : ∀ rt, ∃ v, decode rt = some v
  | .null => ⟨_, rfl⟩
  | .bool _ => ⟨_, rfl⟩
  | .num n => by simp [decode, goNum]
  | .str s => ⟨_, rfl⟩
  | .arr l => by
    obtain ⟨a, ha⟩ := decodeL_some l
    simp [decode, ha]
  | .obj m => by
    obtain ⟨a, ha⟩ := decodeM_some m
    simp [decode, ha]
theorem decodeL_some : ∀ l, ∃ v, decodeL l = some v
  | .nil => ⟨_, rfl⟩
  | .cons v t => by
    obtain ⟨a, ha⟩ := decode_some v
    obtain ⟨b, hb⟩ := decodeL_some t
    simp [decodeL, ha, hb]
theorem decodeM_some : ∀ m, ∃ v, decodeM m = some v
  | .nil => ⟨_, rfl⟩
  | .cons k v t => by
    obtain ⟨a, ha⟩ := decode_some v
    obtain ⟨b, hb⟩ := decodeM_some t
    simp [decodeM, ha, hb]
end

theorem skipWS_nonws (c : Nat) (r : List Nat) (h : isWS c = false) : skipWS (c :: r) = c :: r := by
  simp [skipWS, h]

theorem skipWS_ws : ∀ (w : List Nat) (x : List Nat), w.all isWS = true → skipWS (w ++ x) = skipWS x
  | [], _, _ => rfl
  | c :: w, x, h => by
    simp only [List.all_cons, Bool.and_eq_true] at h
    simp [skipWS, h.1, skipWS_ws w x h.2]

theorem scan_u (c : Nat) (hc : c < 65536) (tail : List Nat) :
    scanString (92 :: 117 :: (hex4 c ++ tail)) = (scanString tail).map (fun p => (Item.esc c :: p.1, p.2)) := by
  -- the digit `hex4` writes for `v` reads back as `v`
  have hdigit : ∀ v, v < 16 → hexVal (if v < 10 then 48 + v else 87 + v) = some v := by decide
  simp only [hex4, List.cons_append, List.nil_append, scanString]
  simp only [hdigit _ (Nat.mod_lt _ (by decide : 16 > 0))]
  -- four hex digits put together again: quotient and remainder by 16, three times
  have : ((c / 4096 % 16 * 16 + c / 256 % 16) * 16 + c / 16 % 16) * 16 + c % 16 = c := by
    have h : c / 16 / 16 / 16 < 16 :=
      Nat.div_lt_of_lt_mul (Nat.div_lt_of_lt_mul (Nat.div_lt_of_lt_mul (show c < 16 * (16 * (16 * 16)) from hc)))
    rw [← Nat.div_div_eq_div_mul c 16 256, ← Nat.div_div_eq_div_mul c 16 16, ← Nat.div_div_eq_div_mul (c / 16) 16 16,
      Nat.mod_eq_of_lt h, Nat.div_add_mod', Nat.div_add_mod', Nat.div_add_mod']
  simp [this]

theorem scanString_quote (r : List Nat) : scanString (34 :: r) = some ([], r) := by
  rw [scanString.eq_def]; simp
theorem scanString_simple (e u : Nat) (r : List Nat) (h : simpleEsc e = some u) (h117 : e ≠ 117) :
    scanString (92 :: e :: r) = (scanString r).map (fun p => (Item.esc u :: p.1, p.2)) := by
  rw [scanString.eq_def]; simp [h, h117]
theorem scanString_raw (c : Nat) (r : List Nat) (h1 : c ≠ 34) (h2 : c ≠ 92) (h3 : ¬ c < 32) :
    scanString (c :: r) = (scanString r).map (fun p => (Item.raw c :: p.1, p.2)) := by
  rw [scanString.eq_def]; simp [h1, h2, h3]

theorem goEscChar_cases (c : Nat) :
    (∃ e, goEscChar c = [92, e] ∧ simpleEsc e = some c ∧ e ≠ 117 ∧ c ≤ 92) ∨
    (goEscChar c = 92 :: 117 :: hex4 c ∧ (c < 32 ∨ c = 0x2028 ∨ c = 0x2029)) ∨
    (goEscChar c = [c] ∧ c ≠ 34 ∧ c ≠ 92 ∧ ¬ c < 32) := by
  by_cases hs : c = 34 ∨ c = 92 ∨ c = 8 ∨ c = 12 ∨ c = 10 ∨ c = 13 ∨ c = 9
  · rcases hs with rfl | rfl | rfl | rfl | rfl | rfl | rfl <;> exact .inl ⟨_, rfl, rfl, by decide, by decide⟩
  · simp only [not_or] at hs
    have e : goEscChar c = if c < 32 ∨ c = 0x2028 ∨ c = 0x2029 then 92 :: 117 :: hex4 c else [c] := by
      simp only [goEscChar, hs, if_false]
    by_cases h : c < 32 ∨ c = 0x2028 ∨ c = 0x2029
    · exact .inr (.inl ⟨by rw [e, if_pos h], h⟩)
    · exact .inr (.inr ⟨by rw [e, if_neg h], hs.1, hs.2.1, fun h' => h (.inl h')⟩)

def escOK (it : Item) : Prop := ∀ u, it = .esc u → isSurr u = false

theorem escOK_esc (u : Nat) (h : u < 0xD800 ∨ 0xE000 ≤ u) : escOK (.esc u) := by
  intro _ e; cases e
  simp only [isSurr, Bool.and_eq_false_iff, decide_eq_false_iff_not]; omega

theorem scan_goEsc (c : Nat) (hc : c < 65536) (tail : List Nat) :
    ∃ it, scanString (goEscChar c ++ tail) = (scanString tail).map (fun p => (it :: p.1, p.2)) ∧
      it.unit = c ∧ escOK it := by
  rcases goEscChar_cases c with ⟨e, h, hs, he, hle⟩ | ⟨h, hu⟩ | ⟨h, h1, h2, h3⟩
  · exact ⟨.esc c, by rw [h]; exact scanString_simple e c tail hs he, rfl, escOK_esc c (by omega)⟩
  · exact ⟨.esc c, by rw [h]; exact scan_u c hc tail, rfl, escOK_esc c (by omega)⟩
  · exact ⟨.raw c, by rw [h]; exact scanString_raw c tail h1 h2 h3, rfl, fun _ e => nomatch e⟩

theorem loneEsc_ok : ∀ (items : List Item), (∀ it ∈ items, escOK it) → loneEsc items = false
  | [], _ => rfl
  | .raw u :: t, h => by
    simp only [loneEsc]; exact loneEsc_ok t (fun it hi => h it (List.mem_cons_of_mem _ hi))
  | [.esc u], h => by
    simp only [loneEsc]; exact h (.esc u) (by simp) u rfl
  | .esc u :: .esc w :: t, h => by
    have hu := h (.esc u) (by simp) u rfl
    have ht := loneEsc_ok (.esc w :: t) (fun it hi => h it (List.mem_cons_of_mem _ hi))
    -- no surrogate, so no high surrogate that could pair with `w`
    have hhi : isHi u = false := by
      simp only [isSurr, isHi, Bool.and_eq_false_iff, decide_eq_false_iff_not] at *; omega
    simp [loneEsc, hhi, hu, ht]
  | .esc u :: .raw w :: t, h => by
    have hu := h (.esc u) (by simp) u rfl
    have ht := loneEsc_ok t (fun it hi => h it (List.mem_cons_of_mem _ (List.mem_cons_of_mem _ hi)))
    simp [loneEsc, hu, ht]

theorem scan_goBody : ∀ (s : Str), (∀ c ∈ s, c < 65536) → ∀ rest,
    ∃ items, scanString (s.flatMap goEscChar ++ 34 :: rest) = some (items, rest) ∧
      items.map Item.unit = s ∧ (∀ it ∈ items, escOK it)
  | [], _, rest => ⟨[], by simpa using scanString_quote rest, rfl, by simp⟩
  | c :: s, h, rest => by
    obtain ⟨items, h1, h2, h3⟩ := scan_goBody s (fun c hc => h c (List.mem_cons_of_mem _ hc)) rest
    obtain ⟨it, e1, e2, e3⟩ := scan_goEsc c (h c (by simp)) (s.flatMap goEscChar ++ 34 :: rest)
    refine ⟨it :: items, ?_, by simp [e2, h2], ?_⟩
    · simp only [List.flatMap_cons, List.append_assoc, e1, h1, Option.map_some]
    · intro x hx
      rcases List.mem_cons.1 hx with rfl | hx
      · exact e3
      · exact h3 x hx

/-- a Go-quoted string reads back as the same code units (both under ES5 and under Go's decoder) -/
theorem scan_goQuote (s : Str) (hs : ∀ c ∈ s, c < 65536) (rest : List Nat) :
    ∃ items, scanString (s.flatMap goEscChar ++ 34 :: rest) = some (items, rest) ∧
      items.map Item.unit = s ∧ loneEsc items = false := by
  obtain ⟨items, h1, h2, h3⟩ := scan_goBody s hs rest
  exact ⟨items, h1, h2, loneEsc_ok items h3⟩

theorem pv_ws (fuel : Nat) (w x : List Nat) (hw : w.all isWS = true) :
    parseValue fuel (w ++ x) = parseValue fuel x := by
  cases fuel with
  | zero => simp [parseValue]
  | succ f => simp only [parseValue, skipWS_ws w x hw]

theorem pv_null (f : Nat) (rest : List Nat) : parseValue (f + 1) (110 :: 117 :: 108 :: 108 :: rest) = some (.null, rest) := rfl
theorem pv_true (f : Nat) (rest : List Nat) : parseValue (f + 1) (116 :: 114 :: 117 :: 101 :: rest) = some (.bool true, rest) := rfl
theorem pv_false (f : Nat) (rest : List Nat) : parseValue (f + 1) (102 :: 97 :: 108 :: 115 :: 101 :: rest) = some (.bool false, rest) := rfl
theorem pv_str (f : Nat) (r : List Nat) : parseValue (f + 1) (34 :: r) = (scanString r).map fun p => (RT.str p.1, p.2) := rfl
theorem pv_arr_empty (f : Nat) (rest : List Nat) : parseValue (f + 1) (91 :: 93 :: rest) = some (.arr .nil, rest) := rfl
theorem pv_obj_empty (f : Nat) (rest : List Nat) : parseValue (f + 1) (123 :: 125 :: rest) = some (.obj .nil, rest) := rfl
theorem pv_arr (f : Nat) (r : List Nat) (c : Nat) (r' : List Nat) (h : skipWS r = c :: r') (hc : c ≠ 93) :
    parseValue (f + 1) (91 :: r) = (parseElems f r).map fun p => (RT.arr p.1, p.2) := by
  simp only [parseValue]
  rw [skipWS_nonws 91 r (by decide)]
  simp only [h, show (91 : Nat) ≠ 34 by decide, if_false, if_true]
  split
  · next h2 => simp at h2; omega
  · rfl
theorem pv_obj (f : Nat) (r : List Nat) (c : Nat) (r' : List Nat) (h : skipWS r = c :: r') (hc : c ≠ 125) :
    parseValue (f + 1) (123 :: r) = (parseMembers f r).map fun p => (RT.obj p.1, p.2) := by
  simp only [parseValue]
  rw [skipWS_nonws 123 r (by decide)]
  simp only [h, show (123 : Nat) ≠ 34 by decide, show (123 : Nat) ≠ 91 by decide, if_false, if_true]
  split
  · next h2 => simp at h2; omega
  · rfl
/-- the first character of a number is neither white space, nor the first character of any other value, nor a
    closing bracket -/
theorem numStart (c : Nat) (hc : c = 45 ∨ isDigit c = true) :
    isWS c = false ∧ c ≠ 34 ∧ c ≠ 91 ∧ c ≠ 123 ∧ c ≠ 110 ∧ c ≠ 116 ∧ c ≠ 102 ∧ c ≠ 93 ∧ c ≠ 125 := by
  rcases hc with rfl | h
  · decide
  · simp only [isDigit, Bool.and_eq_true, decide_eq_true_eq] at h
    simp only [isWS, Bool.or_eq_false_iff, decide_eq_false_iff_not]; omega

theorem pv_num (f : Nat) (c : Nat) (r : List Nat) (hc : c = 45 ∨ isDigit c = true) :
    parseValue (f + 1) (c :: r) = (scanNumber (c :: r)).map fun p => (RT.num p.1, p.2) := by
  obtain ⟨hw, h34, h91, h123, h110, h116, h102, _⟩ := numStart c hc
  simp only [parseValue, skipWS, hw, Bool.false_eq_true, if_false, h34, h91, h123, h110, h116, h102]

/-- what follows a value in the emitted text: nothing, `,`, `]`, `}` or the line break of `nl`; `NumTxt` asks
    that `scanNumber` (maximal munch) ends a printed number before each of these -/
def Delim (rest : List Nat) : Prop := rest = [] ∨ ∃ c t, rest = c :: t ∧ (c = 44 ∨ c = 93 ∨ c = 125 ∨ c = 10)

/-- the (per-sample validated) assumption on a printed number: it is a JSONNumber -/
def NumTxt (txt : Str) : Prop :=
  (∃ c t, txt = c :: t ∧ (c = 45 ∨ isDigit c = true)) ∧
  ∃ n, ∀ rest, Delim rest → scanNumber (txt ++ rest) = some (n, rest)

-- `.nan` stands for a text that is no JSONNumber; wherever `jvOf` is used, `GOK` (through `NumTxt`) excludes it
def decVal (txt : Str) : FV :=
  match scanNumber txt with
  | some (n, _) => n.value
  | none => .nan

mutual
def jvOf (L : OttoVerif.C06.Lib) : GV → JV
  | .nil => .null
  | .bool b => .bool b
  | .str s => .str s
  | .int i => .num (decVal (OttoVerif.C06.formatInt i 10))
  | .float x => .num (decVal (goFloat L x))
  | .arr l => .arr (jvOfL L l)
  | .map m => .obj (defineAll .nil (jvOfM L m))
def jvOfL (L : OttoVerif.C06.Lib) : GVs → JVs
  | .nil => .nil
  | .cons v t => .cons (jvOf L v) (jvOfL L t)
def jvOfM (L : OttoVerif.C06.Lib) : GMs → JMs
  | .nil => .nil
  | .cons k v t => .cons k (jvOf L v) (jvOfM L t)
end

def unitsOK (s : Str) : Prop := ∀ c ∈ s, c < 65536

mutual
def GOK (L : OttoVerif.C06.Lib) : GV → Prop
  | .str s => unitsOK s
  | .int i => NumTxt (OttoVerif.C06.formatInt i 10)
  | .float x => NumTxt (goFloat L x)
  | .arr l => GOKL L l
  | .map m => GOKM L m
  | _ => True
def GOKL (L : OttoVerif.C06.Lib) : GVs → Prop
  | .nil => True
  | .cons v t => GOK L v ∧ GOKL L t
def GOKM (L : OttoVerif.C06.Lib) : GMs → Prop
  | .nil => True
  | .cons k v t => unitsOK k ∧ GOK L v ∧ GOKM L t
end

mutual
def size : GV → Nat
  | .arr l => 1 + sizeL l
  | .map m => 1 + sizeM m
  | _ => 1
def sizeL : GVs → Nat
  | .nil => 0
  | .cons v t => 1 + size v + sizeL t
def sizeM : GMs → Nat
  | .nil => 0
  | .cons _ v t => 1 + size v + sizeM t
end

theorem nl_ws (gap : Str) (hg : gap.all isWS = true) (d : Nat) : (nl gap d).all isWS = true := by
  unfold nl
  split
  · rfl
  · simp only [List.all_cons, Bool.and_eq_true]
    refine ⟨by decide, ?_⟩
    induction d with
    | zero => simp
    | succ n ih => simp [List.replicate_succ, hg, ih]

theorem pv_numTxt (f : Nat) (txt : Str) (h : NumTxt txt) (rest : List Nat) (hd : Delim rest) :
    ∃ n, parseValue (f + 1) (txt ++ rest) = some (.num n, rest) ∧ n.value = decVal txt := by
  obtain ⟨⟨c, t, rfl, hc⟩, n, hs⟩ := h
  have h0 := hs [] (Or.inl rfl)
  rw [List.append_nil] at h0
  refine ⟨n, ?_, by simp only [decVal, h0]⟩
  rw [List.cons_append, pv_num f c _ hc, ← List.cons_append, hs rest hd]; rfl

theorem numTxt_head (txt : Str) (h : NumTxt txt) : ∃ c t, txt = c :: t ∧ isWS c = false ∧ c ≠ 93 ∧ c ≠ 125 := by
  obtain ⟨⟨c, t, rfl, hc⟩, _⟩ := h
  obtain ⟨hw, _, _, _, _, _, _, hclose⟩ := numStart c hc
  exact ⟨c, t, rfl, hw, hclose⟩

theorem marshal_head (L : OttoVerif.C06.Lib) (gap : Str) (d : Nat) (g : GV) (hg : GOK L g) :
    ∃ c t, marshal L gap d g = c :: t ∧ isWS c = false ∧ c ≠ 93 ∧ c ≠ 125 :=
  match g, hg with
  | .nil, _ => ⟨110, _, rfl, by decide⟩
  | .bool true, _ => ⟨116, _, rfl, by decide⟩
  | .bool false, _ => ⟨102, _, rfl, by decide⟩
  | .str _, _ => ⟨34, _, rfl, by decide⟩
  | .int _, hg => numTxt_head _ hg
  | .float _, hg => numTxt_head _ hg
  | .arr .nil, _ | .arr (.cons _ _), _ => ⟨91, _, rfl, by decide⟩
  | .map .nil, _ | .map (.cons _ _ _), _ => ⟨123, _, rfl, by decide⟩

def elemsText (L : OttoVerif.C06.Lib) (gap : Str) (d : Nat) : GVs → Str
  | .nil => []
  | .cons v t => nl gap (d + 1) ++ (marshal L gap (d + 1) v ++ marshalL L gap d t)

def membersText (L : OttoVerif.C06.Lib) (gap : Str) (d : Nat) : GMs → Str
  | .nil => []
  | .cons k v t => nl gap (d + 1) ++ (34 :: (k.flatMap goEscChar ++ 34 :: (colon gap ++ (marshal L gap (d + 1) v ++ marshalM L gap d t))))

theorem marshal_arr_cons (L : OttoVerif.C06.Lib) (gap : Str) (d : Nat) (v : GV) (t : GVs) :
    marshal L gap d (.arr (.cons v t)) = 91 :: elemsText L gap d (.cons v t) := by
  simp [marshal, elemsText]
theorem marshalL_cons (L : OttoVerif.C06.Lib) (gap : Str) (d : Nat) (v : GV) (t : GVs) :
    marshalL L gap d (.cons v t) = 44 :: elemsText L gap d (.cons v t) := by
  simp [marshalL, elemsText]
theorem marshal_map_cons (L : OttoVerif.C06.Lib) (gap : Str) (d : Nat) (k : Str) (v : GV) (t : GMs) :
    marshal L gap d (.map (.cons k v t)) = 123 :: membersText L gap d (.cons k v t) := by
  simp [marshal, membersText, goQuote]
theorem marshalM_cons (L : OttoVerif.C06.Lib) (gap : Str) (d : Nat) (k : Str) (v : GV) (t : GMs) :
    marshalM L gap d (.cons k v t) = 44 :: membersText L gap d (.cons k v t) := by
  simp [marshalM, membersText, goQuote]

theorem delim_nl_close (gap : Str) (d c : Nat) (hc : c = 93 ∨ c = 125) (rest : List Nat) : Delim (nl gap d ++ c :: rest) := by
  unfold nl; split
  · exact Or.inr ⟨c, rest, rfl, by omega⟩
  · exact Or.inr ⟨10, _, rfl, by omega⟩

theorem delim_marshalL (L : OttoVerif.C06.Lib) (gap : Str) (d : Nat) (t : GVs) (rest : List Nat) :
    Delim (marshalL L gap d t ++ rest) := by
  cases t with
  | nil => simpa [marshalL] using delim_nl_close gap d 93 (Or.inl rfl) rest
  | cons v t => rw [marshalL_cons]; exact Or.inr ⟨44, _, rfl, by omega⟩

theorem delim_marshalM (L : OttoVerif.C06.Lib) (gap : Str) (d : Nat) (t : GMs) (rest : List Nat) :
    Delim (marshalM L gap d t ++ rest) := by
  cases t with
  | nil => simpa [marshalM] using delim_nl_close gap d 125 (Or.inr rfl) rest
  | cons k v t => rw [marshalM_cons]; exact Or.inr ⟨44, _, rfl, by omega⟩

theorem colon_ws (gap : Str) : ∃ w, colon gap = 58 :: w ∧ w.all isWS = true := by
  unfold colon; split
  · exact ⟨[], rfl, rfl⟩
  · exact ⟨[32], rfl, by decide⟩

theorem size_pos (g : GV) : 0 < size g := by
  cases g <;> simp only [size] <;> omega

section
variable (L : OttoVerif.C06.Lib) (gap : Str) (hgap : gap.all isWS = true)
include hgap

theorem skipWS_nl (d c : Nat) (x : List Nat) (hc : isWS c = false) : skipWS (nl gap d ++ c :: x) = c :: x := by
  rw [skipWS_ws _ _ (nl_ws gap hgap d)]; exact skipWS_nonws c x hc

theorem skipWS_membersText (d : Nat) (k : Str) (v : GV) (t : GMs) (rest : List Nat) :
    skipWS (membersText L gap d (.cons k v t) ++ rest) =
      34 :: (k.flatMap goEscChar ++ 34 :: (colon gap ++ (marshal L gap (d + 1) v ++ (marshalM L gap d t ++ rest)))) := by
  simp only [membersText, List.append_assoc, List.cons_append]
  exact skipWS_nl gap hgap (d + 1) 34 _ (by decide)

/- The reader run over the emitted text, by recursion on the tree: a value after white space, the
   element list after `[`, the member list after `{`.  The fuel only has to cover the tree. -/
mutual
theorem pv_marshal : ∀ (g : GV), GOK L g → ∀ (w : List Nat) (d : Nat) (rest : List Nat) (fuel : Nat),
    w.all isWS = true → Delim rest → size g ≤ fuel →
    ∃ rt, parseValue fuel (w ++ (marshal L gap d g ++ rest)) = some (rt, rest) ∧
      denote rt = jvOf L g ∧ rtAny loneEsc rt = false := by
  intro g hg w d rest fuel hw hd hf
  obtain ⟨f, rfl⟩ : ∃ f, fuel = f + 1 := ⟨fuel - 1, by have := size_pos g; omega⟩
  rw [pv_ws _ _ _ hw]
  match g, hg with
  | .nil, _ => exact ⟨.null, pv_null f rest, rfl, rfl⟩
  | .bool false, _ => exact ⟨.bool false, pv_false f rest, rfl, rfl⟩
  | .bool true, _ => exact ⟨.bool true, pv_true f rest, rfl, rfl⟩
  | .str s, hg =>
    obtain ⟨items, h1, h2, h3⟩ := scan_goQuote s hg rest
    refine ⟨.str items, ?_, congrArg JV.str h2, h3⟩
    simp only [marshal, goQuote, List.cons_append, List.append_assoc, List.nil_append, pv_str, h1, Option.map_some]
  | .int _, hg | .float _, hg =>
    obtain ⟨n, hn, hv⟩ := pv_numTxt f _ hg rest hd
    exact ⟨.num n, hn, congrArg JV.num hv, rfl⟩
  | .arr .nil, _ => exact ⟨.arr .nil, pv_arr_empty f rest, rfl, rfl⟩
  | .arr (.cons v t), hg =>
    obtain ⟨rts, h1, h2, h3⟩ := pl_marshal (.cons v t) hg d rest f (by simp only [size] at hf; omega)
    obtain ⟨c, t', hc, hcw, hc93, _⟩ := marshal_head L gap (d + 1) v hg.1
    have hskip : skipWS (elemsText L gap d (.cons v t) ++ rest) = c :: (t' ++ (marshalL L gap d t ++ rest)) := by
      simp only [elemsText, List.append_assoc, hc, List.cons_append]
      exact skipWS_nl gap hgap (d + 1) c _ hcw
    rw [marshal_arr_cons, List.cons_append, pv_arr f _ c _ hskip hc93, h1]
    exact ⟨.arr rts, rfl, congrArg JV.arr h2, h3⟩
  | .map .nil, _ => exact ⟨.obj .nil, pv_obj_empty f rest, rfl, rfl⟩
  | .map (.cons k v t), hg =>
    obtain ⟨rms, h1, h2, h3⟩ := pm_marshal (.cons k v t) hg d rest f (by simp only [size] at hf; omega)
    rw [marshal_map_cons, List.cons_append,
      pv_obj f _ 34 _ (skipWS_membersText L gap hgap d k v t rest) (by decide), h1]
    exact ⟨.obj rms, rfl, congrArg (fun m => JV.obj (defineAll .nil m)) h2, h3⟩
theorem pl_marshal : ∀ (l : GVs), GOKL L l → ∀ (d : Nat) (rest : List Nat) (fuel : Nat), sizeL l ≤ fuel →
    match l with
    | .nil => True
    | .cons _ _ => ∃ rts, parseElems fuel (elemsText L gap d l ++ rest) = some (rts, rest) ∧
        denoteL rts = jvOfL L l ∧ rtAnyL loneEsc rts = false
  | .nil, _, _, _, _, _ => trivial
  | .cons v t, hg, d, rest, fuel, hf => by
    simp only [sizeL] at hf
    obtain ⟨f, rfl⟩ : ∃ f, fuel = f + 1 := ⟨fuel - 1, by omega⟩
    obtain ⟨rt, h1, h2, h3⟩ := pv_marshal v hg.1 (nl gap (d + 1)) (d + 1) (marshalL L gap d t ++ rest) f
      (nl_ws gap hgap (d + 1)) (delim_marshalL L gap d t rest) (by omega)
    simp only [elemsText, List.append_assoc, parseElems, h1, Option.bind_some]
    cases t with
    | nil =>
      have : skipWS (marshalL L gap d .nil ++ rest) = 93 :: rest := by
        simp only [marshalL, List.append_assoc, List.cons_append, List.nil_append]
        exact skipWS_nl gap hgap d 93 rest (by decide)
      simp only [this]
      exact ⟨_, rfl, congrArg (JVs.cons · .nil) h2, (congrArg (· || false) h3 :)⟩
    | cons v' t' =>
      obtain ⟨rts, r1, r2, r3⟩ := pl_marshal (.cons v' t') hg.2 d rest f (by omega)
      have : skipWS (marshalL L gap d (.cons v' t') ++ rest) = 44 :: (elemsText L gap d (.cons v' t') ++ rest) := by
        rw [marshalL_cons]; exact skipWS_nonws 44 _ (by decide)
      simp only [this, r1, Option.map_some]
      exact ⟨_, rfl, congr (congrArg JVs.cons h2) r2, (congr (congrArg or h3) r3 :)⟩
theorem pm_marshal : ∀ (m : GMs), GOKM L m → ∀ (d : Nat) (rest : List Nat) (fuel : Nat), sizeM m ≤ fuel →
    match m with
    | .nil => True
    | .cons _ _ _ => ∃ rms, parseMembers fuel (membersText L gap d m ++ rest) = some (rms, rest) ∧
        denoteM rms = jvOfM L m ∧ rtAnyM loneEsc rms = false
  | .nil, _, _, _, _, _ => trivial
  | .cons k v t, hg, d, rest, fuel, hf => by
    simp only [sizeM] at hf
    obtain ⟨f, rfl⟩ : ∃ f, fuel = f + 1 := ⟨fuel - 1, by omega⟩
    obtain ⟨cw, hcolon, hcw⟩ := colon_ws gap
    obtain ⟨rt, h1, h2, h3⟩ := pv_marshal v hg.2.1 cw (d + 1) (marshalM L gap d t ++ rest) f
      hcw (delim_marshalM L gap d t rest) (by omega)
    obtain ⟨items, s1, s2, s3⟩ := scan_goQuote k hg.1 (colon gap ++ (marshal L gap (d + 1) v ++ (marshalM L gap d t ++ rest)))
    have hskip2 : skipWS (colon gap ++ (marshal L gap (d + 1) v ++ (marshalM L gap d t ++ rest))) =
        58 :: (cw ++ (marshal L gap (d + 1) v ++ (marshalM L gap d t ++ rest))) := by
      rw [hcolon]; exact skipWS_nonws 58 _ (by decide)
    simp only [parseMembers, skipWS_membersText L gap hgap d k v t rest, s1, Option.bind_some, hskip2, h1]
    cases t with
    | nil =>
      have : skipWS (marshalM L gap d .nil ++ rest) = 125 :: rest := by
        simp only [marshalM, List.append_assoc, List.cons_append, List.nil_append]
        exact skipWS_nl gap hgap d 125 rest (by decide)
      simp only [this]
      exact ⟨_, rfl, by simp only [denoteM, jvOfM, h2, s2], by simp only [rtAnyM, h3, s3, Bool.or_self]⟩
    | cons k' v' t' =>
      obtain ⟨rms, r1, r2, r3⟩ := pm_marshal (.cons k' v' t') hg.2.2 d rest f (by omega)
      have : skipWS (marshalM L gap d (.cons k' v' t') ++ rest) = 44 :: (membersText L gap d (.cons k' v' t') ++ rest) := by
        rw [marshalM_cons]; exact skipWS_nonws 44 _ (by decide)
      simp only [this, r1, Option.map_some]
      exact ⟨_, rfl, by simp only [denoteM, jvOfM, h2, r2, s2], by simp only [rtAnyM, h3, r3, s3, Bool.or_self]⟩
end
end

mutual
theorem size_le (L : OttoVerif.C06.Lib) (gap : Str) : ∀ (g : GV) (d : Nat), GOK L g → size g ≤ (marshal L gap d g).length
  | .arr (.cons v t), d, h => by
    have h1 := size_le L gap v (d + 1) h.1
    have h2 := sizeL_le L gap t d h.2
    simp only [size, sizeL, marshal, List.length_cons, List.length_append]; omega
  | .map (.cons k v t), d, h => by
    have h1 := size_le L gap v (d + 1) h.2.1
    have h2 := sizeM_le L gap t d h.2.2
    simp only [size, sizeM, marshal, List.length_cons, List.length_append]; omega
  | .nil, d, h | .bool _, d, h | .str _, d, h | .int _, d, h | .float _, d, h | .arr .nil, d, h | .map .nil, d, h => by
    -- size 1, and the text has a first character
    obtain ⟨c, t, hc, _⟩ := marshal_head L gap d _ h
    rw [hc]; exact Nat.succ_le_succ (Nat.zero_le _)
theorem sizeL_le (L : OttoVerif.C06.Lib) (gap : Str) : ∀ (l : GVs) (d : Nat), GOKL L l → sizeL l + 1 ≤ (marshalL L gap d l).length
  | .nil, _, _ => by simp [sizeL, marshalL]
  | .cons v t, d, h => by
    have h1 := size_le L gap v (d + 1) h.1
    have h2 := sizeL_le L gap t d h.2
    simp only [sizeL, marshalL, List.length_cons, List.length_append]; omega
theorem sizeM_le (L : OttoVerif.C06.Lib) (gap : Str) : ∀ (m : GMs) (d : Nat), GOKM L m → sizeM m + 1 ≤ (marshalM L gap d m).length
  | .nil, _, _ => by simp [sizeM, marshalM]
  | .cons k v t, d, h => by
    have h1 := size_le L gap v (d + 1) h.2.1
    have h2 := sizeM_le L gap t d h.2.2
    simp only [sizeM, marshalM, List.length_cons, List.length_append]; omega
end

theorem parseText_marshal (L : OttoVerif.C06.Lib) (gap : Str) (hgap : gap.all isWS = true) (g : GV) (hg : GOK L g) :
    ∃ rt, parseText (marshal L gap 0 g) = some rt ∧ denote rt = jvOf L g ∧ rtAny loneEsc rt = false := by
  obtain ⟨rt, h1, h2, h3⟩ := pv_marshal L gap hgap g hg [] 0 [] ((marshal L gap 0 g).length + 1) rfl (Or.inl rfl)
    (by have := size_le L gap g 0 hg; omega)
  refine ⟨rt, ?_, h2, h3⟩
  simp only [List.nil_append, List.append_nil] at h1
  simp [parseText, h1, skipWS]

/-- The three reviver walks at once, by induction on the fuel: every recursive call is at the fuel below. -/
theorem revive_all_eq (f : Reviver) : ∀ fuel,
    (∀ hk name v, reviveM f fuel hk name v = Spec.revive f fuel hk name v) ∧
    (∀ i len cur, reviveArrM f fuel i len cur = Spec.reviveArr f fuel i len cur) ∧
    (∀ names cur, reviveObjM f fuel names cur = Spec.reviveObj f fuel names cur)
  | 0 => by simp [reviveM, Spec.revive, reviveArrM, Spec.reviveArr, reviveObjM, Spec.reviveObj]
  | fuel + 1 => by
    obtain ⟨ih, ihA, ihO⟩ := revive_all_eq f fuel
    refine ⟨fun hk name v => ?_, fun i len cur => ?_, fun names cur => ?_⟩
    · cases v <;> simp [reviveM, Spec.revive, ihA, ihO]
    · simp only [reviveArrM, Spec.reviveArr]
      by_cases h : i < len
      · simp only [h, if_true, ih]
        cases (Spec.revive f fuel 65 (decimalNat i) (RVs.getI i cur)).fst.val <;> simp only [ihA]
      · simp [h]
    · cases names with
      | nil => simp [reviveObjM, Spec.reviveObj]
      | cons name names =>
        simp only [reviveObjM, Spec.reviveObj]
        cases hg : RMs'.get name cur <;>
          simp only [ih] <;>
          cases (Spec.revive f fuel 79 name _).fst.val <;>
          simp only [ihO]

theorem reviveArrM_eq (f : Reviver) : ∀ fuel i len cur, reviveArrM f fuel i len cur = Spec.reviveArr f fuel i len cur :=
  fun fuel => (revive_all_eq f fuel).2.1
theorem reviveObjM_eq (f : Reviver) : ∀ fuel names cur, reviveObjM f fuel names cur = Spec.reviveObj f fuel names cur :=
  fun fuel => (revive_all_eq f fuel).2.2

end OttoVerif.C11.Lem
