/-
  C11/Stringify — the stringify side: otto's walk against ES5 Str/JO/JA (`walk_all_eq`, one induction on the fuel, with the
  leaf steps `unbox_eq`, `viaToJSON_eq`), the gap (`gapOf_eq`) and Go's string escaping against Quote (`goEscChar_eq`).
-/
import OttoVerif.C11.Spec
namespace OttoVerif.C11.Lem
open OttoVerif.C11 OttoVerif.C11.Spec
open OttoVerif.F64 (FV)

/-- the gap of JSON.stringify is §15.12.3 steps 5–8 for every `space` argument outside the region str_lone_surrogate -/
theorem gapOf_eq (sp : Space) (h : ∀ s, sp = .str s → goStr (s.take 10) = s.take 10) : C11.gapOf sp = Spec.gapOf sp := by
  -- otto clamps with `> 10`, ES5 with `min`
  have hm : ∀ a : Nat, (if a > 10 then 10 else a) = min 10 a := by intro a; split <;> omega
  cases sp with
  | str s => simp [C11.gapOf, Spec.gapOf, h s rfl]
  | num x =>
    cases x with
    | fin s m e => simp only [C11.gapOf, Spec.gapOf, C11.gapCount, Spec.gapCount, hm]
    | _ => rfl
  | _ => rfl

mutual
def gvOf : JV → GV
  | .null => .nil
  | .bool b => .bool b
  | .num x => walkNum x
  | .str s => .str (goStr s)
  | .arr l => .arr (gvOfL l)
  | .obj m => .map (gvOfM .nil m)
def gvOfL : JVs → GVs
  | .nil => .nil
  | .cons v t => .cons (gvOf v) (gvOfL t)
def gvOfM : GMs → JMs → GMs
  | acc, .nil => acc
  | acc, .cons k v t => gvOfM (gmSet (goStr k) (gvOf v) acc) t
end

def WR.map {α β : Type} (f : α → β) : WR α → WR β
  | .val a => .val (f a)
  | .absent => .absent
  | .throw => .throw
  | .oof => .oof

theorem walkNum_nonfinite (x : FV) (h : isFiniteF x = false) : walkNum x = .nil := by
  cases x <;> simp_all [isFiniteF, walkNum]

theorem primFloat_eq (cv : Conv) (p : Prim) : primFloat cv p = toNumberPrim cv p := by
  cases p with
  | bool b => cases b <;> rfl
  | _ => rfl

theorem primString_eq (cv : Conv) (p : Prim) : primString cv p = toStringPrim cv p := by
  cases p with
  | bool b => cases b <;> rfl
  | _ => rfl

theorem unbox_eq (cv : Conv) (v : SV) : unbox cv v = unbox4 cv v := by
  cases v with
  | wrapNum x vo ts =>
    simp only [unbox, unbox4, defaultValue, defaultValueNumber]
    cases vo.call (.num x) <;> cases ts.call (.str (cv.numStr x)) <;> simp [primFloat_eq]
  | wrapStr s vo ts =>
    simp only [unbox, unbox4, defaultValue, defaultValueString]
    cases vo.call (.str s) <;> cases ts.call (.str s) <;> simp [primString_eq]
  | _ => rfl

theorem viaToJSON_eq (pj : SV → Str → Option SV) (key : Str) (v : SV) : viaToJSON pj key v = step2 pj key v := by
  cases v <;> simp [viaToJSON, step2, isObjectKind] <;> cases pj _ key <;> rfl

/-- The four walks at once, by induction on the fuel: every recursive call is at the fuel below. -/
theorem walk_all_eq (M : MCtx) (S : SCtx) (hr : M.repl = S.repl) (hp : M.plist = S.plist) (hc : M.cv = S.cv) (hj : M.pj = S.pj) :
    ∀ fuel, (∀ depth key v, walk M fuel depth key v = WR.map gvOf (serial S fuel depth key v)) ∧
      (∀ depth i l, walkArr M fuel depth i l = WR.map gvOfL (serialArr S fuel depth i l)) ∧
      (∀ depth acc m, walkObj M fuel depth acc m = WR.map (gvOfM acc) (serialObj S fuel depth m)) ∧
      (∀ depth acc m ks, walkList M fuel depth acc m ks = WR.map (gvOfM acc) (serialList S fuel depth m ks))
  | 0 => by simp [walk, serial, walkArr, serialArr, walkObj, serialObj, walkList, serialList, WR.map]
  | fuel + 1 => by
    obtain ⟨ih, ihA, ihO, ihL⟩ := walk_all_eq M S hr hp hc hj fuel
    refine ⟨fun depth key v => ?_, fun depth i l => ?_, fun depth acc m => ?_, fun depth acc m ks => ?_⟩
    · simp only [walk, serial, hr, hp, hc, hj, unbox_eq, viaToJSON_eq]
      generalize (unbox4 S.cv (match S.repl with | some f => f key (step2 S.pj key (viaGet v)) | none => step2 S.pj key (viaGet v))) = u
      cases u with
      | arr l =>
        simp only [ihA]
        cases serialArr S fuel (depth + 1) 0 l <;> rfl
      | obj m =>
        cases S.plist <;> simp only [ihO, ihL]
        · cases serialObj S fuel (depth + 1) m <;> rfl
        · cases serialList S fuel (depth + 1) m _ <;> rfl
      | objP own ne proto =>
        cases S.plist <;> simp only [ihO, ihL]
        · cases serialObj S fuel (depth + 1) own <;> rfl
        · cases serialList S fuel (depth + 1) (SMs.app own (SMs.app ne proto)) _ <;> rfl
      | num x =>
        cases hf : isFiniteF x <;> simp [WR.map, gvOf, walkNum_nonfinite, hf]
      | back k => by_cases hk : k < depth <;> simp [hk, WR.map, gvOf, gvOfM]
      | _ => simp [WR.map, gvOf, gvOfM]
    · cases l with
      | nil => simp [walkArr, serialArr, WR.map, gvOfL]
      | cons v t =>
        simp only [walkArr, serialArr, ih, ihA]
        cases serial S fuel depth (decimalNat i) v <;> cases serialArr S fuel depth (i + 1) t <;> rfl
    · cases m with
      | nil => simp [walkObj, serialObj, WR.map, gvOfM]
      | cons k v t =>
        simp only [walkObj, serialObj, ih]
        cases serial S fuel depth k v <;> simp only [WR.map, ihO] <;>
          cases serialObj S fuel depth t <;> rfl
    · cases ks with
      | nil => simp [walkList, serialList, WR.map, gvOfM]
      | cons k ks =>
        simp only [walkList, serialList, ih]
        cases serial S fuel depth k (SMs.get k m) <;> simp only [WR.map, ihL] <;>
          cases serialList S fuel depth m ks <;> rfl

theorem walk_eq (M : MCtx) (S : SCtx) (hr : M.repl = S.repl) (hp : M.plist = S.plist) (hc : M.cv = S.cv) (hj : M.pj = S.pj) :
    ∀ fuel depth key v, walk M fuel depth key v = WR.map gvOf (serial S fuel depth key v) :=
  fun fuel => (walk_all_eq M S hr hp hc hj fuel).1
theorem walkArr_eq (M : MCtx) (S : SCtx) (hr : M.repl = S.repl) (hp : M.plist = S.plist) (hc : M.cv = S.cv) (hj : M.pj = S.pj) :
    ∀ fuel depth i l, walkArr M fuel depth i l = WR.map gvOfL (serialArr S fuel depth i l) :=
  fun fuel => (walk_all_eq M S hr hp hc hj fuel).2.1
theorem walkObj_eq (M : MCtx) (S : SCtx) (hr : M.repl = S.repl) (hp : M.plist = S.plist) (hc : M.cv = S.cv) (hj : M.pj = S.pj) :
    ∀ fuel depth acc m, walkObj M fuel depth acc m = WR.map (gvOfM acc) (serialObj S fuel depth m) :=
  fun fuel => (walk_all_eq M S hr hp hc hj fuel).2.2.1
theorem walkList_eq (M : MCtx) (S : SCtx) (hr : M.repl = S.repl) (hp : M.plist = S.plist) (hc : M.cv = S.cv) (hj : M.pj = S.pj) :
    ∀ fuel depth acc m ks, walkList M fuel depth acc m ks = WR.map (gvOfM acc) (serialList S fuel depth m ks) :=
  fun fuel => (walk_all_eq M S hr hp hc hj fuel).2.2.2

theorem goEscChar_eq (c : Nat) (h : lsps c = false) : goEscChar c = escChar c := by
  simp only [lsps, Bool.or_eq_false_iff, decide_eq_false_iff_not] at h
  simp only [goEscChar, escChar, h.1, h.2, or_false]

end OttoVerif.C11.Lem
