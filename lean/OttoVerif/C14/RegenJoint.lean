/-
  C14/RegenJoint — ledger module: the seven configurations (`user`, `dump` of each) and the ONE evaluation that
  compares every REGENERATED dump (Gen<Cfg>.lean, written by `ottoh-C14 --dump` from the running runtime on every
  ./check, never committed) with the model.  It re-runs in the kernel whenever a dump changes and fails when any dump
  departs from the model; `shapes` and `wirings` hand each Regen<Cfg>.lean its part.
-/
import OttoVerif.C14.Theorems
import OttoVerif.C14.GenFresh
import OttoVerif.C14.GenFresh2
import OttoVerif.C14.GenUnder
import OttoVerif.C14.GenCopy
import OttoVerif.C14.GenCopy2
import OttoVerif.C14.GenUsedcopy
import OttoVerif.C14.GenUndercopy
namespace OttoVerif.C14.Thm
open OttoVerif.C14
open OttoVerif.C14.Spec (Owner Slot Props Facts Dump)

/-! `user`: the globals created by the configuration's own scripts ("modulo the underscore global") -/

def Fresh.user : List String := []
def Fresh.dump : Dump := GenFresh.dump

def Fresh2.user : List String := []
def Fresh2.dump : Dump := GenFresh2.dump

def Under.user : List String := ["_"]
def Under.dump : Dump := GenUnder.dump

def Copy.user : List String := []
def Copy.dump : Dump := GenCopy.dump

def Copy2.user : List String := []
def Copy2.dump : Dump := GenCopy2.dump

def Usedcopy.user : List String := ["userFn", "userGlobal"]
def Usedcopy.dump : Dump := GenUsedcopy.dump

def Undercopy.user : List String := ["_"]
def Undercopy.dump : Dump := GenUndercopy.dump

def configs : List (List String × Dump) :=
  [(Fresh.user, Fresh.dump), (Fresh2.user, Fresh2.dump), (Under.user, Under.dump), (Copy.user, Copy.dump),
   (Copy2.user, Copy2.dump), (Usedcopy.user, Usedcopy.dump), (Undercopy.user, Undercopy.dump)]

/-- the configurations whose dumps also carry the bind and kind tables of the Go-level hook -/
def wiredConfigs : List (List String × Dump) := [(Fresh.user, Fresh.dump), (Copy2.user, Copy2.dump)]

/- ONE evaluation for all seven, although each dump is compared with the model only, never with another dump.
   Nearly all the cost of `conforms` is reading string literals (the kernel unpacks a literal of n bytes in ≈ n²/2
   steps), the kernel remembers what it has reduced only within one declaration, and the seven dumps share almost all
   their literals and, where they are equal, whole lookups: the second to seventh configuration cost a few per cent of
   the first here, and each as much as the first in a declaration of its own.  A dump that lists the same entries in
   another order still passes (its lookups are then evaluated afresh). -/
theorem checked :
    ((configs.all fun c => conforms c.1 c.2) && wiredConfigs.all fun c => wired c.1 c.2) = true := by
  decide +kernel

theorem shapes : ∀ c ∈ configs, Conforms c.1 c.2 :=
  fun c h => .of_check (List.all_eq_true.mp (Bool.and_eq_true_iff.mp checked).1 c h)

theorem wirings : ∀ c ∈ wiredConfigs,
    Spec.stripUser c.1 c.2.binds = Model.bindTable ∧ Spec.stripUser c.1 c.2.kinds = Model.kindTable :=
  fun c h => wired_sound (List.all_eq_true.mp (Bool.and_eq_true_iff.mp checked).2 c h)

end OttoVerif.C14.Thm
