/-
  C14/Theorems — the ledger for property C14, static part: the hand-written model of otto's generator input
  (Model.lean) against the hand-written ES5 §15 table (Spec.lean).  The theorems over the REGENERATED dumps of
  the running runtimes are in Regen<Cfg>.lean / RegenAll.lean (also ledger modules, also audited): each configuration
  evaluates `conforms user dump` (end of this file) once, and `Conforms.of_check` turns that into its theorems.
  Every `theorem` is audited (`#print axioms` ⊆ {propext, Classical.choice, Quot.sound}) on every run.
-/
import OttoVerif.C14.Model
namespace OttoVerif.C14.Thm
open OttoVerif.C14
open OttoVerif.C14.Spec (Owner Slot Props Facts Dump)

/-! Strings by number.  The tables are keyed by strings, and the kernel pays for a string every time it looks at one:
    a literal is unpacked into its UTF-8 bytes in time quadratic in its length.  So a string is turned into a number
    once (`code`), and the lookups of `Spec` are evaluated in the form `assocC` / `lookupC`, which compare codes:
    a table theorem is proved by rewriting its statement to the coded lookups (`← lookupC_eq`) and evaluating. -/

/-- the UTF-8 bytes of a string as one bijective base-256 numeral -/
def code (s : String) : Nat := s.toByteArray.data.toList.foldr (fun b n => 256 * n + b.toNat + 1) 0

theorem code_inj {s t : String} (h : code s = code t) : s = t := by
  have digits : ∀ l l' : List UInt8,
      l.foldr (fun b n => 256 * n + b.toNat + 1) 0 = l'.foldr (fun b n => 256 * n + b.toNat + 1) 0 → l = l' := by
    intro l
    induction l with
    | nil => intro l' h; cases l' with
      | nil => rfl
      | cons b l' => simp only [List.foldr] at h; omega
    | cons b l ih => intro l' h; cases l' with
      | nil => simp only [List.foldr] at h; omega
      | cons b' l' =>
        simp only [List.foldr] at h
        have := b.toNat_lt; have := b'.toNat_lt
        rw [ih l' (by omega), UInt8.toNat_inj.mp (by omega : b.toNat = b'.toNat)]
  exact String.toByteArray_inj.mp (ByteArray.ext (Array.ext' (digits _ _ h)))

theorem beq_code (s t : String) : (code s).beq (code t) = decide (s = t) := by
  by_cases h : s = t
  · simp [h]
  · simpa [h] using Bool.eq_false_iff.mpr fun e => h (code_inj (Nat.eq_of_beq_eq_true e))

/-- `Spec.assoc` comparing codes (`Nat.beq` on literals is one step of the kernel) -/
def assocC {α : Type} (k : String) : List (String × α) → Option α
  | [] => none
  | p :: r => bif (code p.1).beq (code k) then some p.2 else assocC k r

theorem assocC_eq {α : Type} (k : String) (ps : List (String × α)) : assocC k ps = Spec.assoc k ps := by
  induction ps with
  | nil => rfl
  | cons p ps ih =>
    obtain ⟨a, b⟩ := p
    rw [assocC, beq_code, ih]
    by_cases h : a = k <;> simp [Spec.assoc, h]

def lookupC {α : Type} (t : List (Owner × List (String × α))) (o : Owner) (k : String) : Option α :=
  (Spec.assoc o t).bind (assocC k)

theorem lookupC_eq {α : Type} (t : List (Owner × List (String × α))) (o : Owner) (k : String) :
    lookupC t o k = Spec.lookup t o k := by
  unfold lookupC Spec.lookup
  cases Spec.assoc o t with
  | none => rfl
  | some ps => exact assocC_eq k ps

/-- the entry regions are exact: an (owner, property) of ES5 §15.1–15.12 + Annex B has, in otto's generator input, the
    specified kind, function length, [[Class]], links and attributes exactly when `Model.devEntry` puts it in no region -/
theorem entry_regions_exact :
    ∀ e ∈ Spec.entries, Model.devEntry e.1 e.2.1 = "-" ↔ Spec.lookup Model.table e.1 e.2.1 = some e.2.2 := by
  simp only [← lookupC_eq]; decide +kernel

theorem model_matches_spec :
    ∀ e ∈ Spec.entries, Model.devEntry e.1 e.2.1 = "-" → Spec.lookup Model.table e.1 e.2.1 = some e.2.2 :=
  fun e he => (entry_regions_exact e he).mp

/-- object-level facts: typeof, [[Class]], [[Prototype]], extensibility, [[PrimitiveValue]] of wrapper prototypes -/
theorem owners_match_spec :
    ∀ of ∈ Spec.owners, ∀ ft ∈ of.2, Spec.lookup Model.ownerFacts of.1 ft.1 = some ft.2 := by
  decide +kernel

/-- `Model.forIn`, `Model.links`, `Model.behaviours` and `Model.routes` are DEFINED as the Spec tables, so the four `rfl`
    theorems `forin_`, `links_`, `behaviours_`, `routes_match_spec` only record that; what ties these tables to otto is
    `<Cfg>.forin_eq_model`, `links_eq_spec`, `behaviours_eq_model`, `routes_eq_spec` over the dumps. -/
theorem forin_matches_spec : Model.forIn = Spec.forIn := rfl

theorem links_match_spec : Model.links = Spec.links := rfl

/-- the deviation regions are tight: at every listed (owner, property) inside a region the model differs from ES5 -/
theorem entry_regions_tight :
    ∀ e ∈ Spec.entries, Model.devEntry e.1 e.2.1 ≠ "-" → Spec.lookup Model.table e.1 e.2.1 ≠ some e.2.2 :=
  fun e he h h' => h ((entry_regions_exact e he).mpr h')

/-- every §15 object is represented (class field, table of internal methods, Go type of value) the way otto represents an
    object of the kind ES5 says it is – Array.prototype dispatches through classArray, String.prototype through classString, … -/
theorem kinds_match_spec : ∀ o ∈ Owner.all, Model.selfKind o = Spec.repOf o := by decide +kernel

/-- … and therefore behaves as that kind in every probed aspect (index write → length, invalid length → RangeError, shrink
    deletes, callable/not callable, wrapped value, NaN time value, …), exactly outside the RegExp.prototype region -/
theorem aspect_regions_exact :
    ∀ o ∈ Owner.all, ∀ a ∈ Spec.aspectsOf o, Model.devKind o a = "-" ↔ Model.aspect o a = Spec.aspect o a := by decide +kernel

theorem aspects_match_spec :
    ∀ o ∈ Owner.all, ∀ a ∈ Spec.aspectsOf o, Model.devKind o a = "-" → Model.aspect o a = Spec.aspect o a :=
  fun o ho a ha => (aspect_regions_exact o ho a ha).mp

theorem aspect_regions_tight :
    ∀ o ∈ Owner.all, ∀ a ∈ Spec.aspectsOf o, Model.devKind o a ≠ "-" → Model.aspect o a ≠ Spec.aspect o a :=
  fun o ho a ha h h' => h ((aspect_regions_exact o ho a ha).mpr h')

/-- every object-valued slot holds either a native function object (ordinary internal methods) or one of the owners -/
theorem slot_kinds_wellformed :
    ∀ e ∈ Spec.flatten Model.kindTable, e.2.2 = Model.fnKind ∨ Owner.all.any (fun o => Model.selfKind o = e.2.2) = true := by
  decide +kernel

theorem behaviours_match_spec : Model.behaviours = Spec.behaviours := rfl

/-- the route table of the model is the one of the spec (see `forin_matches_spec`); that [[Call]] and [[Construct]] of every
    constructor create the object ES5 prescribes, by every route, is `<Cfg>.routes_eq_spec` -/
theorem routes_match_spec : Model.routes = Spec.routes := rfl

/-- non-vacuity and shape of the route table: 15 constructors × 9 routes; a NativeError creates the same object by every route -/
theorem routes_table :
    Spec.routes.length = 135 ∧
    (∀ r ∈ Spec.routeNames, Spec.assoc ("ReferenceError_" ++ r) Spec.routes = some "ReferenceError.prototype:Error:ReferenceError:ReferenceError:m") ∧
    Spec.assoc "String_call" Spec.routes = some "prim:string" ∧ Spec.assoc "String_new" Spec.routes = some "String.prototype:String:String:-" := by
  simp only [← assocC_eq]; decide +kernel

example : Model.aspect .RegExpPrototype "retest" = some "throws:TypeError" ∧ Spec.aspect .RegExpPrototype "retest" = some "true" := by decide +kernel
example : Spec.aspect .ArrayPrototype "idxlen" = some "6" ∧ Spec.aspect .ObjectPrototype "idxlen" = some "same" := by decide +kernel

/-- for-in never shows a built-in: every slot otto creates (ES5 ones *and* otto's extras, `console` included)
    is non-enumerable -/
theorem model_no_enumerable_builtin :
    ∀ e ∈ Spec.flatten Model.table, e.2.2.attrs.e = false := by
  decide +kernel

/-- the members of the `console` object (inline.go newConsole) are all {W:true,E:false,C:true} functions -/
theorem console_members_nonenumerable : ∀ d ∈ Model.consoleProps, d.slot.attrs = Spec.wc ∧ d.slot.val = (Spec.fn 0).val := by
  decide +kernel

/-- function.tmpl, for ANY yaml item: `length` is {W:false,E:false,C:false}, [[Class]] Function, [[Prototype]]
    Function.prototype, extensible, no own `prototype`, not a constructor, no enumerable own property; the slot
    itself is {W:true,E:false,C:true}; and `function: -1` means length 0. -/
theorem fn_slot_wellformed (d : Model.Decl) (s : Spec.FnShape) (h : d.slot.val = .fn s) :
    s.lenAttrs = Spec.ro ∧ s.cls = .Function ∧ s.proto = .FunctionPrototype ∧ s.ext = true ∧
    s.hasPrototype = false ∧ s.newOK = false ∧ s.enumOwn = 0 ∧ d.slot.attrs = Spec.wc := by
  cases d <;> simp [Model.Decl.slot, Model.fnValue] at h <;> subst h <;>
    simp [Model.attrs, Spec.ro, Spec.wc, Model.Decl.slot]

theorem fn_len (n : String) (len : Int) :
    (Model.Decl.fn n len).slot = Spec.fn (if len = -1 then 0 else len.toNat) := by
  simp [Model.Decl.slot, Model.fnValue, Model.fnLen, Spec.fn, Spec.fnShape, Model.attrs, Spec.ro, Spec.wc]

/-- a value/link item gets exactly the attributes of its octal mode (the `propertyMode` masks of property.go), for every mode -/
theorem mode_attrs (w e c : Bool) :
    Model.attrs ((if w then 64 else 0) + (if e then 8 else 0) + (if c then 1 else 0)) = ⟨w, e, c⟩ := by
  cases w <;> cases e <;> cases c <;> decide

/-- newBoundFunctionObject computes max(0, L − n) (ES5 §15.3.4.5 step 15), for every target length and argument count -/
theorem bound_length (L n : Nat) : Model.boundLength L n = ((L - n : Nat) : Int) := by
  unfold Model.boundLength; simp only; split <;> omega

theorem dyn_length_eq (k : Spec.DynKind) (L n : Nat) : Model.dynLength k L n = (Spec.dynLength k L n : Int) := by
  cases k <;> simp [Model.dynLength, Spec.dynLength, bound_length]

/-- §13.2 / §15.3.4.5: a reflected field of a run-time function object is as specified, for every L and n, exactly when
    `Model.devDyn` puts it in no region (the only one is `bound_has_prototype`) -/
theorem dyn_regions_exact (k : Spec.DynKind) (L n : Nat) (f : Spec.DynField) :
    Model.devDyn k f = "-" ↔ Model.dyn k L n f = Spec.dyn k L n f := by
  cases f
  · have := dyn_length_eq k L n
    cases k <;> simp_all [Model.dyn, Spec.dyn, Model.devDyn, Model.attrs, Spec.Attrs.tok, Spec.ro]
  all_goals cases k <;> simp [Model.dyn, Spec.dyn, Model.devDyn, Model.attrs, Spec.Attrs.tok]

theorem dyn_model_eq_spec (k : Spec.DynKind) (L n : Nat) (f : Spec.DynField) (h : Model.devDyn k f = "-") :
    Model.dyn k L n f = Spec.dyn k L n f :=
  (dyn_regions_exact k L n f).mp h

/-- inside the regions otto deviates for every L and n -/
theorem dyn_regions_tight (k : Spec.DynKind) (L n : Nat) (f : Spec.DynField) (h : Model.devDyn k f ≠ "-") :
    Model.dyn k L n f ≠ Spec.dyn k L n f :=
  fun h' => h ((dyn_regions_exact k L n f).mpr h')

example : Model.dyn .bound 2 1 .hasproto = "P" ∧ Spec.dyn .bound 2 1 .hasproto = "-" := by decide +kernel
-- the `caller` descriptor of a script function (it panicked before /repo f48e83f, finding accessor_descriptor_panic) is in no region
example : Model.dyn .node 2 0 .callerdesc = Spec.dyn .node 2 0 .callerdesc ∧ Model.devDyn .node .callerdesc = "-" := by decide +kernel
example : Model.devDyn .node .length = "-" ∧ Model.devDyn .bound .length = "-" := by decide +kernel

/-- wiring: which Go function a slot is bound to follows the naming convention builtin<Type><Name>, except for
    the listed `call:` overrides -/
theorem call_overrides :
    (Model.types.flatMap (fun t => (t.props ++ t.protoProps).filterMap (fun d =>
        match d with | .fnCall n _ c => some (t.name, n, c) | _ => none))) =
    [("EvalError", "toString", "ErrorToString"), ("TypeError", "toString", "ErrorToString"), ("RangeError", "toString", "ErrorToString"),
     ("ReferenceError", "toString", "ErrorToString"), ("SyntaxError", "toString", "ErrorToString"), ("URIError", "toString", "ErrorToString")] := by
  decide +kernel

def noDupKeys {α : Type} (ps : List (String × α)) : Bool :=
  match ps with
  | [] => true
  | (k, _) :: r => !(r.any (fun q => q.1 = k)) && noDupKeys r

/-- `noDupKeys` on the codes of the keys -/
def distinct : List Nat → Bool
  | [] => true
  | k :: r => !(r.any (·.beq k)) && distinct r

theorem noDupKeys_eq {α : Type} (ps : List (String × α)) : noDupKeys ps = distinct (ps.map fun q => code q.1) := by
  induction ps with
  | nil => rfl
  | cons p r ih => simp [noDupKeys, distinct, List.any_map, Function.comp_def, beq_code, ih]

/-- no two slots of one owner share a name (so `lookup` is the whole story), for the model and the spec -/
theorem keys_unique : ∀ op ∈ Model.table ++ Spec.table, noDupKeys op.2 = true := by
  simp only [noDupKeys_eq]; decide +kernel

theorem model_keys_unique : ∀ op ∈ Model.table, noDupKeys op.2 = true :=
  fun op h => keys_unique op (List.mem_append_left _ h)
theorem spec_keys_unique : ∀ op ∈ Spec.table, noDupKeys op.2 = true :=
  fun op h => keys_unique op (List.mem_append_right _ h)

/-- witness: the unchanged tree really deviates inside the entry region (replayed on the real code by the request
    `entry fresh RegExp.prototype lastIndex` – see known_findings.jsonl) -/
example : Spec.lookup Model.table .RegExpPrototype "lastIndex" = none ∧ (Spec.lookup Spec.table .RegExpPrototype "lastIndex").isSome := by decide +kernel
-- non-vacuity: the entry region covers 5 of the 258 ES5 slots; the model has 281 slots (23 are otto's extras)
set_option maxRecDepth 1000000 in
example : (Spec.entries.filter (fun e => Model.devEntry e.1 e.2.1 != "-")).length = 5 ∧ Spec.entries.length = 258 ∧
    (Spec.flatten Model.table).length = 281 := by decide +kernel

/-- a table with its property names replaced by their codes and its values by `f` -/
def encT {α β : Type} (f : α → β) (t : List (Owner × List (String × α))) : List (Owner × List (Nat × β)) :=
  t.map fun op => (op.1, op.2.map fun kv => (code kv.1, f kv.2))

theorem encT_inj {α β : Type} (f : α → β) (hf : ∀ a b, f a = f b → a = b) {s t : List (Owner × List (String × α))}
    (h : encT f s = encT f t) : s = t := by
  refine (List.map_inj_right ?_).mp h
  rintro ⟨o, ps⟩ ⟨o', ps'⟩ e
  simp only [Prod.mk.injEq] at e
  obtain ⟨rfl, e⟩ := e
  congr 1
  refine (List.map_inj_right ?_).mp e
  rintro ⟨k, v⟩ ⟨k', v'⟩ e
  simp only [Prod.mk.injEq] at e
  rw [code_inj e.1, hf _ _ e.2]

/-- what the reflected shape of a running runtime has to satisfy, whatever the configuration
    (`user`: the globals its own scripts made) -/
structure Conforms (user : List String) (d : Dump) : Prop where
  ents : Spec.stripUser user d.ents = Model.table
  owns : ∀ of ∈ Model.ownerFacts, ∀ ft ∈ of.2, (of.1 = Owner.global ∧ ft.1 = "forin") ∨ Spec.lookup d.owns of.1 ft.1 = some ft.2
  globalForin : Spec.lookup d.owns .global "forin" = some (if user.isEmpty then "-" else ",".intercalate user)
  forIn : ∀ kv ∈ Model.forIn, Spec.assoc kv.1 d.forIn = some kv.2
  links : ∀ kv ∈ Spec.links, Spec.assoc kv.1 d.links = some kv.2
  selfKinds : ∀ o ∈ Owner.all, Spec.lookup d.kinds o "@self" = some (Model.selfKind o)
  behaviours : ∀ kv ∈ Model.behaviours, Spec.assoc kv.1 d.behaviours = some kv.2
  routes : ∀ kv ∈ Spec.routes, Spec.assoc kv.1 d.routes = some kv.2

/-- `o = some v`, decided on the codes -/
def holds (o : Option String) (v : String) : Bool := o.map code == some (code v)

theorem holds_iff {o : Option String} {v : String} : holds o v = true ↔ o = some v := by
  cases o with
  | none => simp [holds]
  | some w => simpa [holds] using ⟨code_inj, congrArg code⟩

/-- `Conforms`, decided: one evaluation looks at every string of the dump once -/
def conforms (user : List String) (d : Dump) : Bool :=
  decide (encT id (Spec.stripUser user d.ents) = encT id Model.table) &&
  (Model.ownerFacts.all fun of => of.2.all fun ft =>
    decide (of.1 = Owner.global ∧ ft.1 = "forin") || holds (lookupC d.owns of.1 ft.1) ft.2) &&
  holds (lookupC d.owns .global "forin") (if user.isEmpty then "-" else ",".intercalate user) &&
  (Model.forIn.all fun kv => holds (assocC kv.1 d.forIn) kv.2) &&
  (Spec.links.all fun kv => holds (assocC kv.1 d.links) kv.2) &&
  (Owner.all.all fun o => holds (lookupC d.kinds o "@self") (Model.selfKind o)) &&
  (Model.behaviours.all fun kv => holds (assocC kv.1 d.behaviours) kv.2) &&
  (Spec.routes.all fun kv => holds (assocC kv.1 d.routes) kv.2)

theorem Conforms.of_check {user : List String} {d : Dump} (h : conforms user d = true) : Conforms user d := by
  simp only [conforms, Bool.and_eq_true, Bool.or_eq_true, List.all_eq_true, decide_eq_true_eq, holds_iff, lookupC_eq, assocC_eq] at h
  obtain ⟨⟨⟨⟨⟨⟨⟨ents, owns⟩, globalForin⟩, forIn⟩, links⟩, selfKinds⟩, behaviours⟩, routes⟩ := h
  exact ⟨encT_inj id (fun _ _ e => e) ents, owns, globalForin, forIn, links, selfKinds, behaviours, routes⟩

/-- what follows from the table alone, for any dump that conforms -/
theorem Conforms.matches_spec {user : List String} {d : Dump} (h : Conforms user d) :
    ∀ e ∈ Spec.entries, Model.devEntry e.1 e.2.1 = "-" → Spec.lookup (Spec.stripUser user d.ents) e.1 e.2.1 = some e.2.2 :=
  h.ents ▸ model_matches_spec

theorem Conforms.no_enumerable_builtin {user : List String} {d : Dump} (h : Conforms user d) :
    ∀ e ∈ Spec.flatten (Spec.stripUser user d.ents), e.2.2.attrs.e = false :=
  h.ents ▸ model_no_enumerable_builtin

/-! The bind table in a form the kernel can evaluate.  `wired` (below) compares the Go function names of a dump with
    `Model.bindTable`, which builds its 220 names with `Model.ucfirst`; that goes through `String.toList`, and decoding
    UTF-8 is by far the dearest thing the kernel does with them.  Everything from here to `bindTableB_eq` is the same table
    computed on the bytes (`upFirst`: one comparison), for that one evaluation. -/

def upFirst : List UInt8 → List UInt8
  | [] => []
  | b :: r => (if 97 ≤ b.toNat ∧ b.toNat ≤ 122 then UInt8.ofNat (b.toNat - 32) else b) :: r

/-- an ASCII lower-case letter is one byte and loses 32; the first byte of any other character is outside `a`–`z` -/
theorem upFirst_encode (c : Char) (R : List UInt8) :
    upFirst (String.utf8EncodeChar c ++ R) = String.utf8EncodeChar c.toUpper ++ R := by
  unfold Char.toUpper
  split
  · rename_i h
    have h1 : 97 ≤ c.val.toNat := UInt32.le_iff_toNat_le.mp h.1
    have h2 : c.val.toNat ≤ 122 := UInt32.le_iff_toNat_le.mp h.2
    have e : ('A'.val - 'a'.val).toNat = 4294967264 := by decide
    have h3 : (c.val + ('A'.val - 'a'.val)).toNat = c.val.toNat - 32 := by rw [UInt32.toNat_add, e]; omega
    have h4 : c.val.toNat ≤ 127 := by omega
    have h5 : c.val.toNat - 32 ≤ 127 := by omega
    have h6 : c.val.toNat % 256 = c.val.toNat := by omega
    simp only [String.utf8EncodeChar, h3, h4, h5, if_true, upFirst, List.cons_append, List.nil_append, UInt8.toNat_ofNat', h6]
    rw [if_pos ⟨h1, h2⟩]
  · rename_i h
    have : ¬(97 ≤ c.val.toNat ∧ c.val.toNat ≤ 122) :=
      fun ⟨a, b⟩ => h ⟨UInt32.le_iff_toNat_le.mpr a, UInt32.le_iff_toNat_le.mpr b⟩
    simp only [String.utf8EncodeChar]
    repeat' split
    all_goals
      simp only [upFirst, List.cons_append, List.nil_append, UInt8.toNat_ofNat']
      rw [if_neg (by omega)]

theorem ucfirst_bytes (s : String) :
    (upFirst s.toByteArray.data.toList).toByteArray = (Model.ucfirst s).toByteArray := by
  have bytes_ofList : ∀ l : List Char, (String.ofList l).toByteArray.data.toList = l.flatMap String.utf8EncodeChar := by
    intro l; simp [String.ofList, List.utf8Encode]
  have hs : s.toByteArray.data.toList = s.toList.flatMap String.utf8EncodeChar := by
    rw [← bytes_ofList, String.ofList_toList]
  refine ByteArray.ext (Array.ext' ?_)
  rw [List.toList_data_toByteArray, hs, Model.ucfirst]
  cases s.toList with
  | nil => rfl
  | cons c r => simp only [bytes_ofList, List.flatMap_cons, upFirst_encode]

def ucfirstB (s : String) : String :=
  ⟨(upFirst s.toByteArray.data.toList).toByteArray, ucfirst_bytes s ▸ (Model.ucfirst s).isValidUTF8⟩

def bindB (ty : String) : Model.Decl → String
  | .fn n _ => "101:" ++ n ++ ":builtin" ++ ty ++ ucfirstB n ++ ":-"
  | d => d.bind ty

theorem bindB_eq (ty : String) (d : Model.Decl) : bindB ty d = d.bind ty := by
  have ucfirstB_eq : ∀ s, ucfirstB s = Model.ucfirst s := fun s => String.toByteArray_inj.mp (ucfirst_bytes s)
  cases d <;> simp [bindB, Model.Decl.bind, ucfirstB_eq]

/-- `Model.bindTable` with `bindB` for `Decl.bind` -/
def bindTableB : List (Owner × Facts) :=
  Model.aliasGMT <| Model.types.flatMap fun t =>
    [(t.owner, t.props.map (fun d => (d.name, bindB t.name d)) ++
        (if t.owner = .global then [("console", "101:-:-:-")] else []))] ++
    (if t.hasProto then [(t.protoOwner, t.protoProps.map fun d => (d.name, bindB t.name d))] else [])

theorem bindTableB_eq : bindTableB = Model.bindTable := by
  simp only [bindTableB, Model.bindTable, Model.bindsOf, bindB_eq]

/-- the Go-level wiring and the internal representation of every slot -/
def wired (user : List String) (d : Dump) : Bool :=
  decide (encT code (Spec.stripUser user d.binds) = encT code bindTableB) &&
  decide (encT code (Spec.stripUser user d.kinds) = encT code Model.kindTable)

theorem wired_sound {user : List String} {d : Dump} (h : wired user d = true) :
    Spec.stripUser user d.binds = Model.bindTable ∧ Spec.stripUser user d.kinds = Model.kindTable := by
  simp only [wired, Bool.and_eq_true, decide_eq_true_eq, bindTableB_eq] at h
  exact ⟨encT_inj code (fun _ _ => code_inj) h.1, encT_inj code (fun _ _ => code_inj) h.2⟩

end OttoVerif.C14.Thm
