/-
  C14/RegenFresh2 — ledger module: theorems over the REGENERATED dump of configuration `fresh2`
  (GenFresh2.lean, written by `ottoh-C14 --dump` from the running runtime on every ./check, never committed).
  `user`, `dump` and the one evaluation that compares this dump (with the six others) against the model are in
  RegenJoint.lean; it fails when the dump departs from the model, and the theorems below are then the property for
  this configuration.
  (Same text for every configuration but for the names; `fresh` and `copy2` also carry the bind and kind tables.)
-/
import OttoVerif.C14.RegenJoint
namespace OttoVerif.C14.Thm.Fresh2
open OttoVerif.C14
open OttoVerif.C14.Spec (Owner Slot Props Facts Dump)

theorem shape : Conforms user dump := shapes (user, dump) (by simp [configs])

/-- the reflected runtime has exactly the model's slots: same owners, same names in the same order
    (Object.getOwnPropertyNames = propertyOrder), same value kinds, lengths, links and attributes -/
theorem ents_eq_model : Spec.stripUser user dump.ents = Model.table := shape.ents

theorem owns_eq_model :
    ∀ of ∈ Model.ownerFacts, ∀ ft ∈ of.2, (of.1 = Owner.global ∧ ft.1 = "forin") ∨ Spec.lookup dump.owns of.1 ft.1 = some ft.2 :=
  shape.owns

/-- for-in over the global object shows the user globals, nothing else -/
theorem global_forin : Spec.lookup dump.owns .global "forin" = some (if user.isEmpty then "-" else ",".intercalate user) :=
  shape.globalForin

theorem forin_eq_model : ∀ kv ∈ Model.forIn, Spec.assoc kv.1 dump.forIn = some kv.2 := shape.forIn

theorem links_eq_spec : ∀ kv ∈ Spec.links, Spec.assoc kv.1 dump.links = some kv.2 := shape.links

/-- hook facts: propertyOrder lists exactly the keys of property on every reachable object; rt.eval is global.eval -/
theorem order_consistent : dump.order = "consistent" := rfl
theorem eval_link : dump.evalLink = "ok" := rfl

/-- hook facts: every §15 object has the class field, internal-method table and value type of the model -/
theorem self_kinds_eq_model : ∀ o ∈ Owner.all, Spec.lookup dump.kinds o "@self" = some (Model.selfKind o) := shape.selfKinds

/-- arrays, String objects and arguments objects the language creates behave as ES5 15.4.5 / 15.5.5 / 10.6 say -/
theorem behaviours_eq_model : ∀ kv ∈ Model.behaviours, Spec.assoc kv.1 dump.behaviours = some kv.2 := shape.behaviours

/-- every constructor, driven through [[Call]] and [[Construct]] by every route, creates what ES5 prescribes -/
theorem routes_eq_spec : ∀ kv ∈ Spec.routes, Spec.assoc kv.1 dump.routes = some kv.2 := shape.routes

/-- every (owner, property) of ES5 §15 outside the deviation regions has exactly the specified shape -/
theorem matches_spec :
    ∀ e ∈ Spec.entries, Model.devEntry e.1 e.2.1 = "-" → Spec.lookup (Spec.stripUser user dump.ents) e.1 e.2.1 = some e.2.2 :=
  shape.matches_spec

/-- no own property of any §15 object is enumerable (except the user's own globals) -/
theorem no_enumerable_builtin :
    ∀ e ∈ Spec.flatten (Spec.stripUser user dump.ents), e.2.2.attrs.e = false :=
  shape.no_enumerable_builtin

end OttoVerif.C14.Thm.Fresh2
