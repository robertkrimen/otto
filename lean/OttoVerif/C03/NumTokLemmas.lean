/-  C03/NumTokLemmas — proof that the scanner model (`Lit.NumTok.scanModel`) ends numeric literal tokens where ES5 7.8.3
    does (`scanSpec`): both are brought to the form `tailCheck (rest after the longest literal)`. -/
import OttoVerif.C03.Lit
namespace OttoVerif.C03.Lit.NumTok

theorem isE_idStart {e : Nat} (h : isE e = true) : isIdStart e = true := by
  simp [isE] at h; rcases h with h | h <;> subst h <;> decide

theorem tail_none_of_E {e : Nat} (h : isE e = true) (r : List Nat) : tailCheck (e :: r) = none := by
  simp [tailCheck, isE_idStart h]

/-- `exponent:` followed by the tail test = the tail test after the (complete) ExponentPart -/
theorem expo_eq (r : List Nat) : (exponentPart r).bind tailCheck = tailCheck (specExpo r) := by
  match r with
  | [] => rfl
  | e :: r1 =>
    by_cases he : isE e = true
    · simp only [exponentPart, specExpo, he, if_true]
      match r1 with
      | [] => simp [tail_none_of_E he]
      | [c] =>
        by_cases hs : c = 45 ∨ c = 43
        · have hd : isDec c = false := by rcases hs with h | h <;> subst h <;> decide
          simp [hs, hd, tail_none_of_E he]
        · by_cases hd : isDec c = true
          · simp [hs, hd]
          · simp [hs, hd, tail_none_of_E he]
      | c :: d :: r' =>
        by_cases hs : c = 45 ∨ c = 43
        · have hdc : isDec c = false := by rcases hs with h | h <;> subst h <;> decide
          by_cases hd : isDec d = true
          · simp [hs, hd]
          · simp [hs, hd, hdc, tail_none_of_E he]
        · by_cases hd : isDec c = true
          · simp [hs, hd]
          · simp [hs, hd, tail_none_of_E he]
    · simp [exponentPart, specExpo, he]

theorem float_eq (r : List Nat) : floatPart r = tailCheck (specFrac r) := by
  unfold floatPart specFrac
  split <;> exact expo_eq _

theorem specFrac_cons {x : Nat} (h : x ≠ 46) (r : List Nat) : specFrac (x :: r) = specExpo (x :: r) := by
  unfold specFrac
  split
  · rename_i heq; exact absurd (List.cons.inj heq).1 h
  · rfl

theorem isE_not_oct {x : Nat} (h : isE x = true) : isOct x = false := by
  simp [isE] at h; rcases h with h | h <;> subst h <;> decide

/-- the ILLEGAL test for `8` and `9` after the octal digits is part of the tail test: both are decimal digits -/
theorem octalTail_eq (r : List Nat) : octalTail r = tailCheck (r.dropWhile isOct) := by
  unfold octalTail
  cases r.dropWhile isOct with
  | nil => rfl
  | cons c t =>
    by_cases h89 : c = 56 ∨ c = 57
    · have : isDec c = true := by rcases h89 with rfl | rfl <;> rfl
      simp [h89, tailCheck, this]
    · simp [h89]

/-- one leading `0` and a next character `x` that is neither `x/X`, `.`, nor `e/E`: if `x` is no octal digit the literal
    is `0` -/
theorem zero_default (x : Nat) (r : List Nat) (hdot : x ≠ 46) (he : isE x = false) :
    octalTail (x :: r) = tailCheck (if isOct x then (x :: r).dropWhile isOct else specFrac (x :: r)) := by
  rw [octalTail_eq]
  by_cases ho : isOct x = true
  · rw [if_pos ho]
  · rw [if_neg ho, specFrac_cons hdot]
    simp [List.dropWhile, ho, specExpo, he]

/-- the specification after a leading `0`, with the hex test on the third character as one condition -/
theorem specLiteralEnd_zero (x : Nat) (r : List Nat) :
    specLiteralEnd (48 :: x :: r) =
      if (x = 120 ∨ x = 88) ∧ r.head?.any isHex = true then r.tail.dropWhile isHex
      else if isOct x then (x :: r).dropWhile isOct else specFrac (x :: r) := by
  cases r with
  | nil => simp [specLiteralEnd]
  | cons h t => simp only [specLiteralEnd, List.head?_cons, Option.any_some, List.tail_cons]; congr

/-- `0x` / `0X`: a HexIntegerLiteral if a hex digit follows; otherwise the literal is `0`, which `x` may not follow -/
theorem zero_x (x : Nat) (r : List Nat) (hx : x = 120 ∨ x = 88) : scanModel (48 :: x :: r) = scanSpec (48 :: x :: r) := by
  unfold scanSpec
  rw [specLiteralEnd_zero]
  have hnone : isOct x = false ∧ tailCheck (specFrac (x :: r)) = none := by
    rcases hx with rfl | rfl <;> exact ⟨rfl, rfl⟩
  match r with
  | [] => simp [scanModel, hx, hnone]
  | h :: r' =>
    by_cases hh : isHex h = true
    · simp [scanModel, hx, hh]
    · simp [scanModel, hx, hh, hnone]

theorem scanModel_eq_spec (s : List Nat) : scanModel s = scanSpec s := by
  match s with
  | [] => simpa [scanModel, scanSpec, specLiteralEnd] using float_eq []
  | c :: r =>
    by_cases h46 : c = 46
    · subst h46; simpa [scanModel, scanSpec, specLiteralEnd] using expo_eq (r.dropWhile isDec)
    by_cases h48 : c = 48
    · subst h48
      match r with
      | [] => simp [scanModel, scanSpec, specLiteralEnd, specFrac, specExpo]
      | x :: r =>
        by_cases hx : x = 120 ∨ x = 88
        · exact zero_x x r hx
        unfold scanSpec
        rw [specLiteralEnd_zero, if_neg (fun h => hx h.1)]
        by_cases hdot : x = 46
        · subst hdot; simpa [scanModel, isOct] using float_eq (46 :: r)
        by_cases he : isE x = true
        · simpa [scanModel, hx, hdot, he, isE_not_oct he, specFrac_cons hdot] using expo_eq (x :: r)
        · have he' : isE x = false := by simpa using he
          simpa [scanModel, hx, hdot, he'] using zero_default x r hdot he'
    · have hm : scanModel (c :: r) = floatPart ((c :: r).dropWhile isDec) := by
        unfold scanModel; split <;> simp_all
      have hs : specLiteralEnd (c :: r) = specFrac ((c :: r).dropWhile isDec) := by
        unfold specLiteralEnd; split <;> simp_all
      rw [hm, scanSpec, hs]; exact float_eq _
end OttoVerif.C03.Lit.NumTok
