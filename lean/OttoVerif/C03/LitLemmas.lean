/-
  Literal values.  parseStringLiteral against §7.8.4 SV: one lemma per escape form says how far specification and model
  read and what they emit (`EscStep`), `core` is the induction over the text.  Decimal integer literals against §7.8.3 MV.
-/
import OttoVerif.C03.LitModel
import OttoVerif.C03.LitSpec
import OttoVerif.Base.StrLemmas
import OttoVerif.Base.GoStdLemmas
namespace OttoVerif.C03.LitThm
open OttoVerif OttoVerif.Str OttoVerif.C03

/-- a code unit that is not a surrogate -/
def OKU (u : Nat) : Prop := u < 0xD800 ∨ (0xDFFF < u ∧ u < 0x10000)

theorem encodeRunes_single (v : Nat) : encodeRunes [v] = encodeRune v :=
  List.append_nil _

theorem hex2decimal_eq (c : Nat) : LitModel.hex2decimal c = LitSpec.hexVal c := by
  unfold LitModel.hex2decimal LitSpec.hexVal
  split
  · rfl
  · split
    · exact congrArg some (by omega)
    · split
      · exact congrArg some (by omega)
      · rfl

theorem foldl_hex_none (s : List Nat) :
    s.foldl (fun acc c => acc.bind fun v => (LitSpec.hexVal c).map fun d => v * 16 + d) none = none := by
  induction s with
  | nil => rfl
  | cons c s ih => exact ih

theorem hexN_eq (n : Nat) : ∀ (s : List Nat) (acc : Nat), LitModel.hexN n s acc =
    if s.length < n then none
    else (s.take n).foldl (fun acc c => acc.bind fun v => (LitSpec.hexVal c).map fun d => v * 16 + d) (some acc) := by
  induction n with
  | zero => intro s acc; rfl
  | succ n ih =>
    intro s acc
    match s with
    | [] => rfl
    | c :: r =>
      simp only [LitModel.hexN, hex2decimal_eq, List.length_cons, Nat.add_lt_add_iff_right, List.take_succ_cons, List.foldl_cons]
      cases LitSpec.hexVal c with
      | none => simp [foldl_hex_none]
      | some d => exact ih r _

theorem hexN_eq_hexU (n : Nat) (s : List Nat) : LitModel.hexN n s 0 = LitSpec.hexU n s := hexN_eq n s 0

theorem isOct_eq (c : Nat) : LitModel.isOct c = LitSpec.isOctD c := rfl

theorem encodeRune_oku {v : Nat} (h : OKU v) : encodeRunes [v] = encodeRune v := encodeRunes_single v

open LitModel LitSpec in
/-- One escape sequence `\e…` at the head of a text whose string value is `us`: the specification splits off the code
    units `pre` and goes on with a suffix `r'` of `r`; the model appends the UTF-8 of `pre` and goes on with `r'`. -/
def EscStep (fuel e : Nat) (r us : List Nat) : Prop :=
  ∃ pre r' us', sv fuel r' = some us' ∧ us = pre ++ us' ∧ r' <:+ r ∧
    ∀ buf, strLoop (fuel+1) (92 :: e :: r) buf = strLoop fuel r' (buf ++ encodeRunes pre)

section
open LitModel LitSpec
variable {fuel : Nat} {r us : List Nat}

theorem esc_cr (h : sv (fuel+1) (92 :: 13 :: r) = some us) : EscStep fuel 13 r us := by
  -- `\` CR LF is one line continuation: both sides drop a LF that follows
  refine ⟨[], (match (generalizing := false) r with | 10 :: s => s | _ => r), us, ?_, rfl, ?_,
    fun buf => (List.append_nil buf).symm ▸ rfl⟩
  · rw [← h]
    show _ = (match r with | 10 :: r'' => sv fuel r'' | _ => sv fuel r)
    split <;> rfl
  · split
    · exact List.suffix_cons _ _
    · exact List.suffix_refl _

theorem esc_x (h : sv (fuel+1) (92 :: 120 :: r) = some us) : EscStep fuel 120 r us := by
  obtain ⟨v, hv, h2⟩ := Option.bind_eq_some_iff.1 (show (hexU 2 r).bind (fun v => (sv fuel (r.drop 2)).map (v :: ·)) = some us from h)
  obtain ⟨us', h3, rfl⟩ := Option.map_eq_some_iff.1 h2
  refine ⟨[v], r.drop 2, us', h3, rfl, List.drop_suffix 2 r, fun buf => ?_⟩
  show (hexN 2 r 0).bind (fun v => strLoop fuel (r.drop 2) (buf ++ encodeRune v)) = _
  rw [hexN_eq_hexU, hv, encodeRunes_single]
  rfl

/-- `\uHHHH` with a value that is not a surrogate (an escaped surrogate pair is combined by the model: `pairLow`) -/
theorem esc_u (h : sv (fuel+1) (92 :: 117 :: r) = some us) (hoku : ∀ u ∈ us, OKU u) : EscStep fuel 117 r us := by
  obtain ⟨v, hv, h2⟩ := Option.bind_eq_some_iff.1 (show (hexU 4 r).bind (fun v => (sv fuel (r.drop 4)).map (v :: ·)) = some us from h)
  obtain ⟨us', h3, rfl⟩ := Option.map_eq_some_iff.1 h2
  refine ⟨[v], r.drop 4, us', h3, rfl, List.drop_suffix 4 r, fun buf => ?_⟩
  have hp : pairLow v (r.drop 4) = none := by
    have hv' : OKU v := hoku v (List.mem_cons_self ..)
    unfold OKU at hv'
    exact if_neg (by omega)
  show (hexN 4 r 0).bind (fun v => match pairLow v (r.drop 4) with
    | some (r, s') => strLoop fuel s' (buf ++ encodeRune r)
    | none => strLoop fuel (r.drop 4) (buf ++ encodeRune v)) = _
  rw [hexN_eq_hexU, hv, encodeRunes_single, Option.bind_some, hp]

theorem octMore_suffix (two : Bool) (v : Nat) (s : List Nat) : (octMore two v s).2 <:+ s := by
  unfold octMore
  split
  · split
    · split
      · split
        · split
          · exact (List.suffix_cons _ _).trans (List.suffix_cons _ _)
          · exact List.suffix_cons _ _
        · exact List.suffix_cons _ _
      · exact List.suffix_cons _ _
    · exact List.suffix_refl _
  · exact List.suffix_refl _

theorem octMore_two (two : Bool) (v a : Nat) (r1 : List Nat) (hoa : isOct a = true)
    (h : two = true → ∀ b r2, r1 = b :: r2 → isOct b = false) :
    octMore two v (a :: r1) = (v * 8 + (a - 48), r1) := by
  cases two
  · simp [octMore, hoa]
  · match r1, h rfl with
    | [], _ => simp [octMore, hoa]
    | b :: r2, hnb => simp [octMore, hoa, hnb b r2 rfl]

theorem strLoop_nil (f : Nat) (buf : List Nat) : strLoop (f+1) [] buf = some buf := rfl

/-- the model's octal-escape arm (parseStringLiteral, cases '0' … '7'); `\0` not followed by an octal digit is the case where `octMore`
    reads nothing -/
theorem model_oct (f e : Nat) (r buf : List Nat) (h1 : 48 ≤ e) (h2 : e ≤ 55) :
    strLoop (f+1) (92 :: e :: r) buf =
      strLoop f (octMore (decide (e < 52)) (e - 48) r).2 (buf ++ encodeRune (octMore (decide (e < 52)) (e - 48) r).1) := by
  show (if e ≥ 0x80 then _ else if e = 98 then _ else if e = 102 then _ else if e = 110 then _ else if e = 114 then _
    else if e = 116 then _ else if e = 118 then _ else if e = 120 then _ else if e = 117 then _
    else if e = 48 ∧ !(match r with | a :: _ => isOct a | [] => false) then strLoop f r (buf ++ [0])
    else if 48 ≤ e ∧ e ≤ 55 then _ else _) = _
  rw [if_neg (by omega), if_neg (by omega), if_neg (by omega), if_neg (by omega), if_neg (by omega), if_neg (by omega),
    if_neg (by omega), if_neg (by omega), if_neg (by omega)]
  by_cases h0 : e = 48 ∧ (!(match r with | a :: _ => isOct a | [] => false)) = true
  · rw [if_pos h0]
    obtain ⟨rfl, hn⟩ := h0
    have : octMore (decide (48 < 52)) (48 - 48) r = (0, r) := by
      unfold octMore
      split
      · rw [if_neg (by simpa using hn)]
      · rfl
    rw [this]; rfl
  · rw [if_neg h0, if_pos ⟨h1, h2⟩]

/-- the specification's octal-escape arm (B.1.2), read through `octMore` -/
theorem spec_oct (e : Nat) (h1 : 48 ≤ e) (h2 : e ≤ 55) :
    sv (fuel+1) (92 :: e :: r) =
      match r with
      | [] => some [e - 48]
      | a :: _ =>
        if isDec a ∧ ¬ isOctD a then none
        else (sv fuel (octMore (decide (e < 52)) (e - 48) r).2).map ((octMore (decide (e < 52)) (e - 48) r).1 :: ·) := by
  show (if e = 13 then _ else if isLT e then _ else if e = 120 then _ else if e = 117 then _ else if isOctD e then _ else _) = _
  have hlt : ¬ isLT e = true := by simp [isLT]; omega
  have hoc : isOctD e = true := by simp [isOctD]; omega
  rw [if_neg (by omega), if_neg hlt, if_neg (by omega), if_neg (by omega), if_pos hoc]
  match r with
  | [] => rfl
  | a :: r1 =>
    simp only [octMore, isOct_eq]
    by_cases hoa : isOctD a = true
    · simp only [hoa, not_true_eq_false, and_false, if_false, if_true]
      by_cases he : e ≤ 51
      · have : e < 52 := by omega
        simp only [he, this, decide_true, if_true]
        match r1 with
        | [] => rfl
        | b :: r2 =>
          by_cases hob : isOctD b = true
          · simp only [hob, if_true]
            rw [show (e - 48) * 64 + (a - 48) * 8 + (b - 48) = ((e - 48) * 8 + (a - 48)) * 8 + (b - 48) by omega]
          · simp only [hob, Bool.false_eq_true, if_false]
      · have : ¬ e < 52 := by omega
        simp only [he, this, decide_false, if_false, Bool.false_eq_true]
    · simp only [hoa, if_false, not_false_eq_true, and_true, Bool.false_eq_true]

theorem esc_oct {e : Nat} (h1 : 48 ≤ e) (h2 : e ≤ 55) (hf : 0 < fuel) (h : sv (fuel+1) (92 :: e :: r) = some us) :
    EscStep fuel e r us := by
  rw [spec_oct e h1 h2] at h
  have hm := fun buf => model_oct fuel e r buf h1 h2
  match r with
  | [] =>
    obtain ⟨fuel', rfl⟩ : ∃ k, fuel = k + 1 := ⟨fuel - 1, by omega⟩
    exact ⟨[e - 48], [], [], rfl, (Option.some.inj h).symm, List.suffix_refl _, fun buf => by rw [hm, encodeRunes_single]; rfl⟩
  | a :: r1 =>
    change (if isDec a ∧ ¬ isOctD a then none else _) = some us at h
    split at h
    · exact absurd h nofun
    · obtain ⟨us', h3, rfl⟩ := Option.map_eq_some_iff.1 h
      exact ⟨[_], _, us', h3, rfl, octMore_suffix _ _ _, fun buf => by rw [hm, encodeRunes_single]⟩

/-- the value of a single-character escape (§7.8.4 CharacterEscapeSequence) -/
def single (e : Nat) : Nat :=
  if e = 98 then 8 else if e = 116 then 9 else if e = 110 then 10 else if e = 118 then 11
  else if e = 102 then 12 else if e = 114 then 13 else e

theorem model_single {e : Nat} (he : e < 128) (h13 : e ≠ 13) (h10 : e ≠ 10) (hx : e ≠ 120) (hu : e ≠ 117) (ho : ¬ (48 ≤ e ∧ e ≤ 55)) :
    single e < 128 ∧ ∀ buf, strLoop (fuel+1) (92 :: e :: r) buf = strLoop fuel r (buf ++ [single e]) := by
  by_cases e1 : e = 98
  · subst e1; exact ⟨by decide, fun _ => rfl⟩
  by_cases e2 : e = 102
  · subst e2; exact ⟨by decide, fun _ => rfl⟩
  by_cases e3 : e = 110
  · subst e3; exact ⟨by decide, fun _ => rfl⟩
  by_cases e4 : e = 114
  · subst e4; exact ⟨by decide, fun _ => rfl⟩
  by_cases e5 : e = 116
  · subst e5; exact ⟨by decide, fun _ => rfl⟩
  by_cases e6 : e = 118
  · subst e6; exact ⟨by decide, fun _ => rfl⟩
  have hse : single e = e := by
    unfold single
    rw [if_neg e1, if_neg e5, if_neg e3, if_neg e6, if_neg e2, if_neg e4]
  rw [hse]
  refine ⟨he, fun buf => ?_⟩
  show (if e ≥ 0x80 then _ else if e = 98 then _ else if e = 102 then _ else if e = 110 then _ else if e = 114 then _
    else if e = 116 then _ else if e = 118 then _ else if e = 120 then _ else if e = 117 then _ else if e = 48 ∧ _ then _
    else if 48 ≤ e ∧ e ≤ 55 then _ else if e = 13 then _ else if e = 10 then _ else strLoop fuel r (buf ++ [e])) = _
  rw [if_neg (by omega), if_neg e1, if_neg e2, if_neg e3, if_neg e4, if_neg e5, if_neg e6, if_neg hx, if_neg hu,
    if_neg (by omega), if_neg ho, if_neg h13, if_neg h10]

theorem esc_single {e : Nat} (he : e < 128) (h13 : e ≠ 13) (h10 : e ≠ 10) (hx : e ≠ 120) (hu : e ≠ 117) (ho : ¬ (48 ≤ e ∧ e ≤ 55))
    (h : sv (fuel+1) (92 :: e :: r) = some us) : EscStep fuel e r us := by
  have hlt : ¬ isLT e = true := by simp [isLT]; omega
  have hoc : ¬ isOctD e = true := by simpa [isOctD] using ho
  obtain ⟨hs, hm⟩ := model_single (fuel := fuel) (r := r) he h13 h10 hx hu ho
  have h : (if e = 56 ∨ e = 57 then none else (sv fuel r).map (units (single e) ++ ·)) = some us := by
    rw [← h]
    show _ = (if e = 13 then _ else if isLT e then _ else if e = 120 then _ else if e = 117 then _ else if isOctD e then _ else _)
    rw [if_neg h13, if_neg hlt, if_neg hx, if_neg hu, if_neg hoc]
    rfl
  split at h
  · exact absurd h nofun
  · obtain ⟨us', h3, rfl⟩ := Option.map_eq_some_iff.1 h
    refine ⟨[single e], r, us', h3, ?_, List.suffix_refl r, fun buf => ?_⟩
    · rw [show units (single e) = [single e] from if_pos (by omega)]
    · rw [encodeRunes_single, encodeRune_ascii hs, hm]

/-- every escape sequence of an ASCII text is one of the forms above -/
theorem esc_step {e : Nat} (he : e < 128) (hf : 0 < fuel) (h : sv (fuel+1) (92 :: e :: r) = some us) (hoku : ∀ u ∈ us, OKU u) :
    EscStep fuel e r us := by
  by_cases h13 : e = 13
  · subst h13; exact esc_cr h
  by_cases h10 : e = 10
  · subst h10; exact ⟨[], r, us, h, rfl, List.suffix_refl r, fun buf => (List.append_nil buf).symm ▸ rfl⟩
  by_cases hx : e = 120
  · subst hx; exact esc_x h
  by_cases hu : e = 117
  · subst hu; exact esc_u h hoku
  by_cases ho : 48 ≤ e ∧ e ≤ 55
  · exact esc_oct ho.1 ho.2 hf h
  · exact esc_single he h13 h10 hx hu ho h

theorem sv_cons_plain {c : Nat} (hc : c ≠ 92) (rest : List Nat) :
    sv (fuel+1) (c :: rest) = if isLT c then none else (sv fuel rest).map (units c ++ ·) :=
  if_pos hc

theorem strLoop_cons_plain {c : Nat} (h : c < 128) (hc : c ≠ 92) (rest buf : List Nat) :
    strLoop (fuel+1) (c :: rest) buf = strLoop fuel rest (buf ++ [c]) := by
  show (if c ≥ 0x80 then _ else if c ≠ 92 then strLoop fuel rest (buf ++ [c]) else _) = _
  rw [if_neg (by omega), if_pos hc]

theorem units_ascii {c : Nat} (h : c < 128) : units c = [c] := if_pos (by omega)

theorem sv_plain : ∀ (fuel : Nat) (s us : List Nat), (∀ c ∈ s, c < 128 ∧ c ≠ 92) → s.length < fuel →
    (sv fuel s = some us ↔ us = s ∧ ∀ c ∈ s, isLT c = false) := by
  intro fuel
  induction fuel with
  | zero => intro s us _ h; exact absurd h (Nat.not_lt_zero _)
  | succ fuel ih =>
    intro s us hs hlen
    match s with
    | [] => exact ⟨fun h => ⟨(Option.some.inj h).symm, nofun⟩, fun h => by rw [h.1]; rfl⟩
    | c :: rest =>
      have hc := hs c (List.mem_cons_self ..)
      have ih := fun us' => ih rest us' (fun x hx => hs x (List.mem_cons_of_mem _ hx)) (Nat.lt_of_succ_lt_succ hlen)
      rw [sv_cons_plain hc.2, units_ascii hc.1]
      cases hlt : isLT c
      · simp only [Bool.false_eq_true, if_false, Option.map_eq_some_iff, ih, List.forall_mem_cons, hlt, true_and]
        constructor
        · rintro ⟨us', ⟨rfl, hr⟩, rfl⟩; exact ⟨rfl, hr⟩
        · rintro ⟨rfl, hr⟩; exact ⟨rest, ⟨rfl, hr⟩, rfl⟩
      · simp [hlt]

/-- induction on the text with the model's buffer generalised -/
theorem core : ∀ (fuel : Nat) (s us buf : List Nat), (∀ c ∈ s, c < 128) → s.length < fuel →
    sv fuel s = some us → (∀ u ∈ us, OKU u) → strLoop fuel s buf = some (buf ++ encodeRunes us) := by
  intro fuel
  induction fuel with
  | zero => intro s us buf _ h; exact absurd h (Nat.not_lt_zero _)
  | succ fuel ih =>
    intro s us buf hasc hlen hsv hoku
    match s with
    | [] =>
      obtain rfl : [] = us := Option.some.inj hsv
      exact congrArg some (List.append_nil buf).symm
    | c :: rest =>
      by_cases hbs : c = 92
      · subst hbs
        match rest, hasc, hlen, hsv with
        | [], _, _, hsv => exact nomatch (show none = some us from hsv)
        | e :: r, hasc, hlen, hsv =>
          have hlen : r.length + 1 < fuel := Nat.lt_of_succ_lt_succ hlen
          obtain ⟨pre, r', us', h3, rfl, hsuf, hm⟩ := esc_step (hasc e (by simp)) (Nat.zero_lt_of_lt hlen) hsv hoku
          rw [hm, ih r' us' _ (fun x hx => hasc x (by simp [hsuf.subset hx]))
            (Nat.lt_of_le_of_lt hsuf.length_le (Nat.lt_of_succ_lt hlen)) h3 fun u hu => hoku u (List.mem_append_right _ hu),
            List.append_assoc]
          exact congrArg (fun x => some (buf ++ x)) List.flatMap_append.symm
      · have hc : c < 128 := hasc c (List.mem_cons_self ..)
        rw [sv_cons_plain hbs, units_ascii hc] at hsv
        split at hsv
        · exact nomatch hsv
        · obtain ⟨us', h1, rfl⟩ := Option.map_eq_some_iff.1 hsv
          rw [strLoop_cons_plain hc hbs, ih rest us' _ (fun x hx => hasc x (List.mem_cons_of_mem _ hx)) (Nat.lt_of_succ_lt_succ hlen) h1
            fun u hu => hoku u (List.mem_cons_of_mem _ hu), List.append_assoc]
          exact congrArg (fun x => some (buf ++ x))
            (by rw [List.singleton_append, List.singleton_append, encodeRunes_cons, encodeRune_ascii hc]; rfl)

end

/-- the string theorem with the result as the UTF-8 of the code units read as code points.  No surrogate in the value: for
    a lone one parseStringLiteral writes U+FFFD, an escaped pair it combines into one four-byte character (`pairLow`). -/
theorem strlit_enc (lit us : List Nat) (hasc : ∀ c ∈ lit, c < 128)
    (hsv : LitSpec.sv (lit.length + 1) lit = some us) (hoku : ∀ u ∈ us, OKU u) :
    LitModel.parseStringLiteral lit = some (encodeRunes us) := by
  unfold LitModel.parseStringLiteral
  split
  · rename_i he
    obtain rfl : lit = [] := List.isEmpty_iff.1 he
    obtain rfl : [] = us := Option.some.inj hsv
    rfl
  · split
    · rename_i hb
      have hnb : ∀ c ∈ lit, c < 128 ∧ c ≠ 92 := fun c hc => ⟨hasc c hc, fun h92 => by simp [← h92, hc] at hb⟩
      rw [((sv_plain _ lit us hnb (Nat.lt_succ_self _)).1 hsv).1, encodeRunes_ascii lit hasc]
    · exact (core _ lit us [] hasc (Nat.lt_succ_self _) hsv hoku).trans (congrArg some (List.nil_append _))

theorem utf16Decode_oku : ∀ us : List Nat, (∀ u ∈ us, OKU u) → utf16Decode us = us
  | [], _ => rfl
  | u :: us, h => by
    have hu := h u List.mem_cons_self
    unfold OKU at hu
    rw [utf16Decode_cons_bmp u (by omega), utf16Decode_oku us fun x hx => h x (List.mem_cons_of_mem _ hx)]

/-- … which is the Go string of the value, `bytesOfUnits us`, the form the correspondence compares (`utf16Decode` is the
    identity on units without surrogates) -/
theorem strlit_value_ascii_units (lit us : List Nat) (hasc : ∀ c ∈ lit, c < 128)
    (hsv : LitSpec.sv (lit.length + 1) lit = some us) (hsur : ∀ u ∈ us, OKU u) :
    LitModel.parseStringLiteral lit = some (bytesOfUnits us) := by
  rw [strlit_enc lit us hasc hsv hsur, bytesOfUnits, utf16Decode_oku us hsur]

/-- NUMERIC LITERAL VALUE (decimal integers): for every DecimalIntegerLiteral without leading zero whose mathematical value
    (§7.8.3 MV) is below 2^63, parseNumberLiteral yields exactly that integer (as the int64 → float64 conversion of it),
    and MV is what `LitSpec.mv` assigns. -/
theorem numlit_decimal_int (ds : List Nat) (hne : ds ≠ []) (hd : ∀ c ∈ ds, LitSpec.isDec c = true)
    (h0 : ds.head? ≠ some 48) (hv : LitSpec.digitsVal 10 ds < 2^63) :
    LitModel.parseNumberLiteral ds = some (F64.ofInt (LitSpec.digitsVal 10 ds)) := by
  match ds, hne with
  | c :: r, _ =>
    have hc48 : c ≠ 48 := by intro h; subst h; simp at h0
    -- strconv.ParseInt with base 0: no prefix (no leading zero), no underscores, and the digit loop is `digitsVal 10`
    have hpi : GoStd.parseInt (c :: r) 0 = .ok (LitSpec.digitsVal 10 (c :: r)) :=
      (GoStd.parseInt_digits 10 0 (by decide) (fun c => (LitSpec.hexVal c).getD 0) (c :: r) (by simp)
        (fun x hx => by
          have hx : 48 ≤ x ∧ x ≤ 57 := by simpa [LitSpec.isDec] using hd x hx
          rw [show LitSpec.hexVal x = some (x - 48) by simp [LitSpec.hexVal, hx]]
          exact ⟨GoStd.digitVal_digit x hx, show x - 48 < 10 by omega⟩)
        (Or.inr ⟨rfl, rfl, h0⟩)).trans (if_neg (Nat.not_le.2 hv))
    unfold LitModel.parseNumberLiteral
    rw [hpi]

/-- … and that integer is the MV the specification assigns to the literal -/
theorem mv_decimal_int (ds : List Nat) (hne : ds ≠ []) (hd : ∀ c ∈ ds, LitSpec.isDec c = true)
    (h0 : ds.head? ≠ some 48) : LitSpec.mv ds = some (LitSpec.digitsVal 10 ds, 1) := by
  have htw : ∀ (l : List Nat), (∀ c ∈ l, LitSpec.isDec c = true) → l.takeWhile LitSpec.isDec = l := by
    intro l
    induction l with
    | nil => intro _; rfl
    | cons x xs ih => intro h; simp [List.takeWhile, h x (by simp), ih (fun y hy => h y (by simp [hy]))]
  have htw := htw ds hd
  match ds, hne with
  | c :: r, _ =>
    have hc48 : c ≠ 48 := by intro h; subst h; simp at h0
    have hmv : LitSpec.mv (c :: r) = LitSpec.mv.decimal (c :: r) := by
      unfold LitSpec.mv
      split
      · rename_i heq; simp at heq; exact absurd heq.1 hc48
      · rfl
    rw [hmv]
    unfold LitSpec.mv.decimal
    simp only [htw, List.drop_length]
    cases r with
    | nil => simp [LitSpec.digitsVal]
    | cons d r' => simp [hc48, LitSpec.digitsVal]

end OttoVerif.C03.LitThm
