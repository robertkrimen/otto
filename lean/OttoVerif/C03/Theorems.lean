/-
  C03/Theorems — the ledger for property C03 (every theorem here is audited).
-/
import OttoVerif.C03.Spec
import OttoVerif.C03.Lemmas
import OttoVerif.C03.LitModel
import OttoVerif.C03.LitSpec
import OttoVerif.C03.LitLemmas
import OttoVerif.C03.Asi
import OttoVerif.C03.NumTokLemmas
import OttoVerif.C03.Trivia
namespace OttoVerif.C03.Thm
open OttoVerif.C03 OttoVerif.C03.Spec OttoVerif.C03.Lem

/-- a binary-level loop stops without consuming anything at a token that is not one of its operators -/
theorem binLoop_stop (ops : Tk → Option BinOp) (next : List Tok → R) (n : Nat) (e : E) (ts : List Tok)
    (h : ops (hd ts) = none) : binLoop ops next (n+1) e ts = some (e, ts) := by
  simp [binLoop, h]

def eofTok : Tok := { k := .eof }

/-- ROUND TRIP (full ES5 §11 expression grammar): the transcription of parseExpression, run on the token string the grammar
    derives for a tree (`print e`, then EOF), returns that tree and stops at EOF, for every sufficiently large fuel — for
    every expression tree built from literals, identifiers, `this`, ALL binary (24), unary (9),
    postfix (2), conditional, assignment (13) and comma operators, member access (`.name`, `[e]`),
    calls with argument lists, and `new` with and without arguments in every chaining the grammar allows
    (MemberExpression / NewExpression / CallExpression, §11.2).  The only hypothesis: the tree is a well-formed expression tree.
    In particular the relational operators are left-associative: `a < b < c` round-trips as `(a < b) < c`. -/
theorem parse_print (e : E) (hw : wf e = true) (he : isExprHead e = true) :
    ∃ n0, ∀ n, n0 ≤ n → parseExpression n true (print e ++ [eofTok]) = some (e, [eofTok]) := by
  have rt := round_trip_ai hw he true 0 (by omega) (by omega) [eofTok] (stopA_of_stop (show stopB 0 .eof false = true by decide))
  rwa [pr_bare (Nat.zero_le 15) (Nat.zero_le _)] at rt

/-- … at every grammar position and in front of any admissible rest.  Position 2 is left out: no operand position of the
    grammar demands a ConditionalExpression, and there the statement fails for `c ? a : b` in front of `= d` (the last
    operand of `?:` is read by parseAssignmentExpression, and `stop 2` does not exclude an assignment operator). -/
theorem parse_print_at_full (e : E) (hw : wf e = true) (he : isExprHead e = true)
    (lvl : Nat) (h15 : lvl ≤ 15) (h2 : lvl ≠ 2) (rest : List Tok) (hs : stop lvl rest) :
    ∃ n0, ∀ n, n0 ≤ n → parseAt lvl n (pr lvl true e ++ rest) = some (e, rest) :=
  parseAtA_true lvl ▸ round_trip_ai hw he true lvl h15 h2 rest (stopA_of_stop hs)

/-- argument lists: `parseArgumentList`'s loop returns exactly the list the grammar derived and stops at `)` -/
theorem parse_print_args (a : E) (hw : wf a = true) (ha : isArgs a = true) (R : List Tok) :
    ∃ n0, ∀ n, n0 ≤ n → parseArgs n (bare a true ++ tk .rparen :: R) = some (a, tk .rparen :: R) :=
  (round_trip a hw).2 ha R

/-- NoIn (§11.8, §12.6.3-4): with allowIn = false the parser NEVER consumes a top-level `in`.  For every expression `e`
    that binds tighter than the relational operators (ShiftExpression and above — in particular every
    LeftHandSideExpression, the left side of `for (… in …)`), the NoIn derivation of `e` followed by `in …` parses to `e`
    and leaves the `in` (and everything after it) untouched. -/
theorem noin_keeps_top_level_in (e : E) (hw : wf e = true) (he : isExprHead e = true)
    (hp : 10 ≤ prec e) (rest : List Tok) :
    ∃ n0, ∀ n, n0 ≤ n → parseExpression n false (bare e false ++ tk .kIn :: rest) = some (e, tk .kIn :: rest) := by
  -- the round trip without In at position 0: with allowIn = false no level reacts to `in`, and `e` needs no parentheses
  have rt := round_trip_ai hw he false 0 (by omega) (by omega) (tk .kIn :: rest) (stopA_in rest)
  have hi : isIn e = false := by cases h : isIn e; rfl; exact absurd (isIn_prec h ▸ hp) (by decide)
  rwa [pr_bare_of (by rw [needParen_ai 0 (by omega), hi]; rfl)] at rt

/-- … whereas with allowIn = true the same text is the relational expression `e in r` (an instance of `parse_print`). -/
theorem in_consumed_with_allowIn (e r : E) (hwe : wf e = true) (hee : isExprHead e = true)
    (hwr : wf r = true) (her : isExprHead r = true) (hpe : 10 ≤ prec e) (hpr : 10 ≤ prec r) :
    ∃ n0, ∀ n, n0 ≤ n →
      parseExpression n true (bare e true ++ tk .kIn :: (bare r true ++ [eofTok])) = some (.bin .in_ e r, [eofTok]) := by
  have h := parse_print (.bin .in_ e r) (by simp [wf, hwe, hwr, hee, her]) rfl
  have hp : print (.bin .in_ e r) = bare e true ++ tk .kIn :: bare r true := by
    show pr 9 true e ++ tk .kIn :: pr 10 true r = _
    rw [pr_bare (by omega) (by omega), pr_bare (by omega) hpr]
  rw [hp] at h
  simpa using h

/-- ASI, restricted production PostfixExpression (§7.9.1, §11.3 "no LineTerminator here"): when a line terminator stands
    between a LeftHandSideExpression and `++`/`--`, the operator is NOT taken as a postfix operator — the parser returns
    the operand and leaves the operator token for the next statement (where it is a prefix operator). -/
theorem asi_postfix_restricted (e : E) (hw : wf e = true) (he : isExprHead e = true)
    (hp : 15 ≤ prec e) (inc : Bool) (rest : List Tok) :
    ∃ n0, ∀ n, n0 ≤ n →
      parsePostfix n (bare e true ++ { k := .p (if inc then .inc else .dec), nl := true } :: rest)
        = some (e, { k := .p (if inc then .inc else .dec), nl := true } :: rest) := by
  -- the round trip at the postfix level: after a line terminator `++` is not a token that level reacts to
  have rt := parse_print_at_full e hw he 14 (by omega) (by omega) ({ k := .p (if inc then .inc else .dec), nl := true } :: rest)
    (by cases inc <;> (show stopB 14 (.p _) true = true) <;> decide)
  rwa [pr_bare (by omega) (by omega)] at rt

/-- … whereas without the line terminator the same tokens are the postfix expression (instance of `parse_print_at_full`). -/
theorem postfix_without_newline (e : E) (hw : wf e = true) (he : isExprHead e = true)
    (ht : simpleTarget e = true) (inc : Bool) :
    ∃ n0, ∀ n, n0 ≤ n → parseExpression n true (print (.post inc e) ++ [eofTok]) = some (.post inc e, [eofTok]) :=
  parse_print (.post inc e) (by simp [wf, hw, he, ht]) rfl

/-- ASI FLAG: for every token sequence made of "settled" tokens (all token kinds except `throw`, `/`, `/=`, the keywords
    that leave the scanner's field untouched, and reserved-word tokens) and every placement of line terminators, the flags
    the scanner model reports are exactly "line terminator (or end of input) before the token ∧ the previous token can end
    a statement" — in particular after EVERY literal form, identifier, `)`, `]`, `}`, `++`, `--`, this/true/false/null,
    break/continue/return/debugger. -/
theorem asi_flags_eq : ∀ (ts : List (Tk × Bool)) (st : Bool), (∀ p ∈ ts, Asi.settled p.1 = true) →
    Asi.modelFlags st ts = Asi.specFlags st ts
  | [], _, _ => rfl
  | (t, nl) :: r, st, h => by
    have hs : Asi.scanSets t = some (Asi.canEnd t) := by simpa [Asi.settled] using h (t, nl) (by simp)
    simp only [Asi.modelFlags, Asi.specFlags, hs, Option.getD_some]
    rw [asi_flags_eq r (Asi.canEnd t) (fun p hp => h p (by simp [hp]))]

/-- every literal kind, identifier and closing token is settled and can end a statement (non-vacuity of `asi_flags_eq`) -/
example : ∀ s, Asi.settled (.num s) = true ∧ Asi.canEnd (.num s) = true ∧ Asi.settled (.id s) = true ∧ Asi.settled (.str s) = true :=
  fun _ => ⟨rfl, rfl, rfl, rfl⟩
/-- a regular expression literal (the parser's token after re-scanning `/` or `/=`) is settled and can end a statement -/
example : ∀ s, Asi.settled (.regex s) = true ∧ Asi.canEnd (.regex s) = true := fun _ => ⟨rfl, rfl⟩
example : (Asi.settled (.p .rparen) && Asi.settled (.p .rbrace) && Asi.settled (.p .inc) && Asi.settled (.p .kReturn)
    && Asi.settled (.p .plus) && !Asi.settled (.p .kThrow) && !Asi.settled (.p .slash) && !Asi.settled (.p .kIn)) = true := by decide

/-- non-vacuity: member/call/new chains mixed with operators -/
example : let e : E := .asg .assign (.dot (.call (.new_ (.dot (.id "a") "b") (.acons (.num "1") (.acons (.bin .add (.id "x") (.id "y")) .anil))) .anil) "c")
                          (.bin .mul (.new_ (.new_ (.id "F") .noargs) .noargs) (.idx (.call (.id "f") (.acons (.bin .comma (.id "p") (.id "q")) .anil)) (.bin .in_ (.str "'k'") (.id "o"))))
    wf e = true ∧ isExprHead e = true := by decide

/-- `a < b < c` parses as `(a < b) < c` -/
example : parseExpression 40 true (print (.bin .lt (.bin .lt (.id "a") (.id "b")) (.id "c")))
    = some (.bin .lt (.bin .lt (.id "a") (.id "b")) (.id "c"), []) := by decide +kernel

-- model = specification on: a hex literal above 2^63 (rounded once), a 23-digit legacy octal literal, the escaped surrogate
-- pair `\uD83D\uDE00`, `\477` (the escape is `\47`, then `7`), and `\` + U+2028 (a line continuation)

example : (LitModel.parseNumberLiteral (Str.ofString "0x8000000000000401")).map F64.encode
        = (LitSpec.numberValue (Str.ofString "0x8000000000000401")).map F64.encode := by decide +kernel
example : (LitModel.parseNumberLiteral (Str.ofString "01000000000000000000000")).map F64.encode
        = (LitSpec.numberValue (Str.ofString "01000000000000000000000")).map F64.encode := by decide +kernel
example : LitModel.parseStringLiteral [92,117,68,56,51,68,92,117,68,69,48,48] = some [0xF0,0x9F,0x98,0x80]
        ∧ (LitSpec.sv 20 [92,117,68,56,51,68,92,117,68,69,48,48]).map Str.bytesOfUnits = some [0xF0,0x9F,0x98,0x80] := by decide +kernel
example : LitModel.parseStringLiteral [92,52,55,55] = some [39,55] ∧ LitSpec.sv 10 [92,52,55,55] = some [39,55] := by decide +kernel
example : LitModel.parseStringLiteral [97,92,0xE2,0x80,0xA8,98] = some [97,98] ∧ LitSpec.sv 10 [97,92,0x2028,98] = some [97,98] := by decide +kernel

/-- witness of the region `surrogate_pair_split`: \\uD83D \\<LF> \\uDE00 -/
example : LitModel.parseStringLiteral [92,117,68,56,51,68,92,10,92,117,68,69,48,48] = some [0xEF,0xBF,0xBD,0xEF,0xBF,0xBD]
        ∧ (LitSpec.sv 20 [92,117,68,56,51,68,92,10,92,117,68,69,48,48]).map Str.bytesOfUnits = some [0xF0,0x9F,0x98,0x80] := by decide +kernel

/-- strings without a backslash are returned unchanged (the fast path of parseStringLiteral, lexer.go) — and that is their SV when they are
    ASCII without line terminators -/
theorem strlit_plain_ascii (lit : List Nat) (h : ∀ c ∈ lit, c < 128 ∧ c ≠ 92 ∧ c ≠ 10 ∧ c ≠ 13) :
    LitModel.parseStringLiteral lit = some lit ∧ LitSpec.sv (lit.length + 1) lit = some lit := by
  constructor
  · unfold LitModel.parseStringLiteral
    split
    · rename_i he; rw [List.isEmpty_iff.1 he]
    · rw [if_pos]
      simpa using fun hm => (h 92 hm).2.1 rfl
  · exact (LitThm.sv_plain _ lit lit (fun c hc => ⟨(h c hc).1, (h c hc).2.1⟩) (Nat.lt_succ_self _)).2
      ⟨rfl, fun c hc => by have := h c hc; simp [LitSpec.isLT]; omega⟩

/-- NUMERIC TOKEN END: for EVERY text, the transcription of otto's `scan` / `scanNumericLiteral` ends the numeric literal token
    — or reports ILLEGAL — exactly where ES5 7.8.3 (+ B.1.1) does: the longest NumericLiteral, which must not be followed by
    an IdentifierStart or a DecimalDigit.  (`.5.toFixed(1)`: the token is `.5`; `3in`, `0x1g`, `1e`, `08`: ILLEGAL.)
    Every character ≥ 128 counts as an IdentifierStart on both sides (`Lit.NumTok.isIdStart`): the texts of the `numadj`
    stream are ASCII. -/
theorem numeric_token_end (s : List Nat) : Lit.NumTok.scanModel s = Lit.NumTok.scanSpec s :=
  Lit.NumTok.scanModel_eq_spec s

example : Lit.NumTok.scanSpec (Str.ofString ".5.toFixed(1)") = some (Str.ofString ".toFixed(1)")
    ∧ Lit.NumTok.scanSpec (Str.ofString "3in x") = none ∧ Lit.NumTok.scanSpec (Str.ofString "5..x") = some (Str.ofString ".x") := by decide +kernel

/-- NUMERIC LITERAL VALUE (decimal integers): for every DecimalIntegerLiteral without a leading zero whose MV (§7.8.3)
    is below 2^63, parseNumberLiteral returns exactly the integer MV (the runtime's int64 → float64 conversion of it), and
    that integer is what the specification `LitSpec.mv` assigns.  Hex, legacy octal, fractions and exponents are covered by
    the correspondence only (they go through the trusted strconv stubs). -/
theorem numlit_decimal_int (ds : List Nat) (hne : ds ≠ []) (hd : ∀ c ∈ ds, LitSpec.isDec c = true)
    (h0 : ds.head? ≠ some 48) (hv : LitSpec.digitsVal 10 ds < 2^63) :
    LitModel.parseNumberLiteral ds = some (F64.ofInt (LitSpec.digitsVal 10 ds)) ∧
      LitSpec.mv ds = some (LitSpec.digitsVal 10 ds, 1) :=
  ⟨LitThm.numlit_decimal_int ds hne hd h0 hv, LitThm.mv_decimal_int ds hne hd h0⟩

/-- STRING LITERAL VALUE: for every ASCII literal body to which ES5 §7.8.4 / B.1.2 assigns a string value `us` without
    surrogate code units (all escape forms incl. every legacy octal form, and the line continuations, any length),
    parseStringLiteral returns the Go string of exactly that value.  Proof: `LitThm.core`, induction on the text with the
    model's buffer generalised.  (Escaped surrogate PAIRS are combined by the code and agree with the specification on every
    generated input, but are outside this theorem.) -/
theorem strlit_value_ascii_units (lit us : List Nat) (hasc : ∀ c ∈ lit, c < 128)
    (hsv : LitSpec.sv (lit.length + 1) lit = some us) (hsur : ∀ u ∈ us, LitThm.OKU u) :
    LitModel.parseStringLiteral lit = some (Str.bytesOfUnits us) :=
  LitThm.strlit_value_ascii_units lit us hasc hsv hsur

/-- non-vacuity: `a\n\x41\u00e9\101\0\<LF>\q` satisfies the hypotheses -/
example : let lit := Str.ofString "a\\n\\x41\\u00e9\\101\\0\\\nz\\q"
    (lit.all (· < 128)) = true ∧ (LitSpec.sv (lit.length + 1) lit).isSome = true := by decide +kernel

/-- generalised: with any starting state (insertSemicolon, implicitSemicolon) the scan loop over trivia ends with
    implicitSemicolon = imp ∨ (ins ∧ the trivia counts as a LineTerminator per 7.4) — in particular a block comment that
    contains a line terminator is one, in every parser mode (the StoreComments branch reads the same characters) -/
theorem trivia_go (n : Nat) : ∀ (ins imp : Bool) (cs : List Nat),
    Trivia.modelGo n ins imp cs = (Trivia.specGo n cs).map fun b => imp || (ins && b) := by
  induction n with
  | zero => intro ins imp cs; rfl
  | succ n ih =>
    intro ins imp cs
    match cs with
    | [] => simp [Trivia.modelGo, Trivia.specGo]
    | c :: r =>
      -- model and specification branch on the same tests, so each `split` decides both sides
      simp only [Trivia.modelGo, Trivia.specGo]
      split
      · exact ih ins imp r
      · split
        · cases ins <;> simp [ih, Option.map_map, Function.comp_def]
        · split
          · split
            · exact ih ins imp _
            · split
              · rename_i seen r'' _
                cases ins <;> cases seen <;> simp [ih, Option.map_map, Function.comp_def]
              · rfl
            · rfl
          · rfl

/-- the scan from the scanner's start state: implicitSemicolon = insertSemicolon ∧ (the trivia counts as a LineTerminator) -/
theorem trivia_nl (ins : Bool) (cs : List Nat) :
    Trivia.modelNL ins cs = (Trivia.specNL cs).map fun b => ins && b :=
  trivia_go (cs.length + 1) ins false cs

/-- LINE TERMINATORS IN TRIVIA (ES5 7.4): after a token that may end a statement (insertSemicolon set) the scanner reports
    implicitSemicolon for the next token exactly when the white space and comments between them contain a LineTerminator or
    a MultiLineComment that contains one. -/
theorem trivia_nl_eq (cs : List Nat) : Trivia.modelNL true cs = Trivia.specNL cs :=
  (trivia_nl true cs).trans Option.map_id'

/-- … and never when the previous token cannot end a statement -/
theorem trivia_nl_no_insert (cs : List Nat) : Trivia.modelNL false cs = (Trivia.specNL cs).map fun _ => false :=
  trivia_nl false cs

/-- `/* a⏎b */` counts, `/* c */ // d` does not, `/* c` is not trivia -/
example : Trivia.specNL (Str.ofString " /* a\nb */ ") = some true ∧ Trivia.specNL (Str.ofString " /* c */ // d") = some false ∧
    Trivia.specNL (Str.ofString "/* c") = none ∧ Trivia.modelNL true (Str.ofString "/*\r*/") = some true := by decide +kernel

end OttoVerif.C03.Thm
