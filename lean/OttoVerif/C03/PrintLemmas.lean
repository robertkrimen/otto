/-
  Facts about the unparser of C03/Spec alone: when a position parenthesises (`pr`, `needParen`), what `wf` gives for the
  sub-trees, the first token of a text (`FT`), and that the NoIn derivation differs from the ordinary one only below the
  shift level.
-/
import OttoVerif.C03.Spec
namespace OttoVerif.C03.Lem
open OttoVerif.C03 OttoVerif.C03.Spec

theorem binPrec_le (o : BinOp) : binPrec o ≤ 12 ∧ binPrec o ≠ 1 ∧ binPrec o ≠ 2 := by
  cases o <;> decide

def notPrefix (t : Tk) : Prop := unaryOps t = none ∧ t ≠ .p .inc ∧ t ≠ .p .dec

theorem notPrefix_lparen (r : List Tok) : notPrefix (hd (tk .lparen :: r)) := ⟨rfl, nofun, nofun⟩

theorem prec_le (e : E) : prec e ≤ 15 := by
  cases e <;> simp only [prec, Nat.le_refl, Nat.reduceLeDiff]
  exact Nat.le_trans (binPrec_le _).1 (by decide)

theorem prec_bin (o : BinOp) (l r : E) : prec (.bin o l r) = binPrec o := rfl

/-- below LeftHandSideExpression a position parenthesises what binds weaker, and without In an `in` expression -/
theorem needParen_ai (lvl : Nat) (h : lvl ≤ 15) (ai : Bool) (e : E) :
    needParen lvl ai e = (decide (prec e < lvl) || (isIn e && !ai)) := by
  unfold needParen
  rw [if_neg (by omega), if_neg (by omega), if_neg (by omega)]

theorem needParen_low (lvl : Nat) (h : lvl ≤ 15) (e : E) : needParen lvl true e = decide (prec e < lvl) := by
  rw [needParen_ai lvl h, Bool.not_true, Bool.and_false, Bool.or_false]

theorem pr_bare_of {lvl : Nat} {ai : Bool} {e : E} (h : needParen lvl ai e = false) : pr lvl ai e = bare e ai := by
  simp [pr, wrap, h]

/-- inside parentheses In is allowed again -/
theorem pr_paren_of {lvl : Nat} {ai : Bool} {e : E} (h : needParen lvl ai e = true) (R : List Tok) :
    pr lvl ai e ++ R = tk .lparen :: (bare e true ++ tk .rparen :: R) := by
  simp [pr, wrap, h]

theorem pr_bare {lvl : Nat} {e : E} (h : lvl ≤ 15) (hp : lvl ≤ prec e) : pr lvl true e = bare e true :=
  pr_bare_of ((needParen_low lvl h e).trans (decide_eq_false (by omega)))

theorem pr_paren {lvl : Nat} {e : E} (h : lvl ≤ 15) (hp : prec e < lvl) (R : List Tok) :
    pr lvl true e ++ R = tk .lparen :: (bare e true ++ tk .rparen :: R) :=
  pr_paren_of ((needParen_low lvl h e).trans (decide_eq_true hp)) R

/-- a tree that is not of level `k`, or is parenthesised anyway, stands at position `k` as at position `k+1` -/
theorem pr_succ {k : Nat} {ai : Bool} {e : E} (h : k + 1 ≤ 15) (hp : prec e ≠ k ∨ (isIn e = true ∧ ai = false)) :
    pr k ai e = pr (k+1) ai e := by
  have : needParen k ai e = needParen (k+1) ai e := by
    rw [needParen_ai k (by omega), needParen_ai (k+1) h]
    rcases hp with hp | ⟨hi, ha⟩
    · rw [show decide (prec e < k) = decide (prec e < k + 1) from decide_eq_decide.2 (by omega)]
    · rw [hi, ha]; simp
  unfold pr
  rw [this]

theorem bare_bin (o : BinOp) (l r : E) (ai : Bool) :
    bare (.bin o l r) ai = pr (binPrec o) ai l ++ tk (binTok o) :: pr (binPrec o + 1) ai r := rfl

/-- a binary tree needs no parentheses at its own level, unless it is an `in` expression and In is not allowed -/
theorem np_own {ai : Bool} {o : BinOp} {l r : E} (hin : isIn (.bin o l r) = true → ai = true) :
    needParen (binPrec o) ai (.bin o l r) = false := by
  rw [needParen_ai _ (by have := binPrec_le o; omega), prec_bin, decide_eq_false (Nat.lt_irrefl _), Bool.false_or]
  cases hi : isIn (.bin o l r)
  · rfl
  · rw [hin hi]; rfl

theorem cat_prec {e : E} (h : cat e ≠ .X) : prec e = 15 := by
  cases e <;> first | rfl | exact absurd rfl h

/-- what the `( )` test of the three positions inside a LeftHandSideExpression lets through is a LeftHandSideExpression -/
theorem np_cat {lvl : Nat} {e : E} (hl : lvl = 16 ∨ lvl = 17 ∨ lvl = 18) (hn : needParen lvl true e = false) : prec e = 15 := by
  apply cat_prec
  intro hx
  rcases hl with h|h|h <;> subst h <;> simp [needParen, hx] at hn

theorem np15 {e : E} (hn : needParen 15 true e = false) : 14 ≤ prec e := by
  rw [needParen_low 15 (Nat.le_refl _)] at hn
  have := of_decide_eq_false hn
  omega

theorem np16 {e : E} (hn : needParen 16 true e = false) : 14 ≤ prec e := by
  rw [np_cat (.inl rfl) hn]; decide

/-- the first token of an expression is not `)`, and it is not a prefix operator if the expression is a PostfixExpression -/
def FT (e : E) : Prop := ∀ rest,
  hd (bare e true ++ rest) ≠ .p .rparen ∧ (14 ≤ prec e → notPrefix (hd (bare e true ++ rest)))

theorem first_pr {lvl : Nat} {e : E} (ft : FT e) (rest : List Tok) :
    hd (pr lvl true e ++ rest) ≠ .p .rparen ∧
      ((needParen lvl true e = false → 14 ≤ prec e) → notPrefix (hd (pr lvl true e ++ rest))) := by
  cases hn : needParen lvl true e
  · rw [pr_bare_of hn]; exact ⟨(ft rest).1, fun h => (ft rest).2 (h rfl)⟩
  · rw [pr_paren_of hn]; exact ⟨nofun, fun _ => notPrefix_lparen _⟩

theorem ft_left {e l : E} {lvl : Nat} {X : List Tok} (hb : bare e true = pr lvl true l ++ X) (ft : FT l)
    (hp : 14 ≤ prec e → needParen lvl true l = false → 14 ≤ prec l) : FT e := by
  intro rest
  rw [hb, List.append_assoc]
  exact ⟨(first_pr ft _).1, fun h => (first_pr ft _).2 (hp h)⟩

theorem ft_tok {e : E} {t : Tk} {X : List Tok} (hb : bare e true = { k := t } :: X) (h1 : t ≠ .p .rparen) (h2 : 14 ≤ prec e → notPrefix t) :
    FT e := by
  intro rest
  rw [hb]
  exact ⟨h1, h2⟩

/-- a well-formed tree that is an expression, not an argument list -/
def WFX (e : E) : Prop := wf e = true ∧ isExprHead e = true

theorem wf_bin {o : BinOp} {l r : E} (h : wf (.bin o l r) = true) : WFX l ∧ WFX r := by
  simp only [wf, Bool.and_eq_true] at h
  exact ⟨⟨h.1.2, h.1.1.1⟩, h.2, h.1.1.2⟩

theorem wf_un {o : UnOp} {e : E} (h : wf (.un o e) = true) : WFX e ∧ (o = .preinc ∨ o = .predec → simpleTarget e = true) := by
  simp only [wf, Bool.and_eq_true] at h
  exact ⟨⟨h.1.2, h.1.1⟩, fun ho => by simpa [ho] using h.2⟩

theorem wf_post {i : Bool} {e : E} (h : wf (.post i e) = true) : WFX e ∧ simpleTarget e = true := by
  simp only [wf, Bool.and_eq_true] at h
  exact ⟨⟨h.1.2, h.1.1⟩, h.2⟩

theorem wf_cond {c a b : E} (h : wf (.cond c a b) = true) : WFX c ∧ WFX a ∧ WFX b := by
  simp only [wf, Bool.and_eq_true] at h
  exact ⟨⟨h.1.1.2, h.1.1.1.1.1⟩, ⟨h.1.2, h.1.1.1.1.2⟩, h.2, h.1.1.1.2⟩

theorem wf_asg {o : AsgOp} {l r : E} (h : wf (.asg o l r) = true) : WFX l ∧ WFX r ∧ simpleTarget l = true := by
  simp only [wf, Bool.and_eq_true] at h
  exact ⟨⟨h.1.1.2, h.1.1.1.1⟩, ⟨h.1.2, h.1.1.1.2⟩, h.2⟩

theorem wf_dot {e : E} {s : String} (h : wf (.dot e s) = true) : WFX e := by
  simp only [wf, Bool.and_eq_true] at h
  exact ⟨h.2, h.1⟩

theorem wf_idx {e i : E} (h : wf (.idx e i) = true) : WFX e ∧ WFX i := by
  simp only [wf, Bool.and_eq_true] at h
  exact ⟨⟨h.1.2, h.1.1.1⟩, h.2, h.1.1.2⟩

theorem wf_call {f a : E} (h : wf (.call f a) = true) : WFX f ∧ wf a = true ∧ isArgs a = true := by
  simp only [wf, Bool.and_eq_true] at h
  exact ⟨⟨h.1.2, h.1.1.1⟩, h.2, h.1.1.2⟩

theorem wf_new {f a : E} (h : wf (.new_ f a) = true) : WFX f ∧ wf a = true ∧ (isArgs a = true ∨ a = .noargs) := by
  simp only [wf, Bool.and_eq_true, Bool.or_eq_true, decide_eq_true_eq] at h
  exact ⟨⟨h.1.2, h.1.1.1⟩, h.2, h.1.1.2⟩

theorem wf_acons {x tl : E} (h : wf (.acons x tl) = true) : WFX x ∧ wf tl = true ∧ isArgs tl = true := by
  simp only [wf, Bool.and_eq_true] at h
  exact ⟨⟨h.1.2, h.1.1.1⟩, h.2, h.1.1.2⟩

theorem first_tok : ∀ e : E, WFX e → FT e := by
  intro e
  induction e with
  | id s | num s | str s | bool s | null | this_ => intro _; exact ft_tok rfl nofun fun _ => ⟨rfl, nofun, nofun⟩
  | bin o l r ihl _ =>
    intro h
    exact ft_left (bare_bin o l r true) (ihl (wf_bin h.1).1) fun hp => absurd hp (by have := (binPrec_le o).1; rw [prec_bin]; omega)
  | un o e _ => intro _; exact ft_tok (t := .p (unTok o)) rfl (by cases o <;> nofun) fun hp => absurd hp (show ¬ 14 ≤ 13 by decide)
  | post i e ih =>
    intro h; exact ft_left rfl (ih (wf_post h.1).1) fun _ => np15
  | cond c a b ihc _ _ => intro h; exact ft_left rfl (ihc (wf_cond h.1).1) fun hp => absurd hp (show ¬ 14 ≤ 2 by decide)
  | asg o l r ihl _ => intro h; exact ft_left rfl (ihl (wf_asg h.1).1) fun hp => absurd hp (show ¬ 14 ≤ 1 by decide)
  | dot e s ih => intro h; exact ft_left rfl (ih (wf_dot h.1)) fun _ => np16
  | idx e i ih _ => intro h; exact ft_left rfl (ih (wf_idx h.1).1) fun _ => np16
  | call f a ih _ => intro h; exact ft_left rfl (ih (wf_call h.1).1) fun _ => np16
  | new_ f a _ _ =>
    intro _
    obtain ⟨X, hX⟩ : ∃ X, bare (.new_ f a) true = tk .kNew :: X := by cases a <;> exact ⟨_, rfl⟩
    exact ft_tok hX nofun fun _ => ⟨rfl, nofun, nofun⟩
  | anil | acons _ _ _ _ | noargs => intro h; exact absurd h.2 nofun

theorem bare_dot (e : E) (s : String) : bare (.dot e s) true = pr 16 true e ++ [tk .dot, { k := .id s }] := rfl
theorem bare_idx (e i : E) : bare (.idx e i) true = pr 16 true e ++ tk .lbrack :: (pr 0 true i ++ [tk .rbrack]) := rfl
theorem bare_call (f a : E) : bare (.call f a) true = pr 16 true f ++ tk .lparen :: (bare a true ++ [tk .rparen]) := rfl
theorem bare_newx (f : E) : bare (.new_ f .noargs) true = tk .kNew :: pr 17 true f := rfl

theorem np16_dot (e : E) (s : String) : needParen 16 true (.dot e s) = false := by
  simp [needParen, cat]
theorem np16_idx (e i : E) : needParen 16 true (.idx e i) = false := by
  simp [needParen, cat]
theorem np16_call (f a : E) : needParen 16 true (.call f a) = false := by simp [needParen, cat]

theorem cat_member_ne (e : E) : (if cat e = .C then Cat.C else Cat.M) ≠ .N := by
  split <;> nofun

theorem isIn_prec {e : E} (h : isIn e = true) : prec e = 9 := by
  unfold isIn at h
  split at h
  · rfl
  · exact absurd h nofun

theorem needParen_noin {lvl : Nat} (h : 10 ≤ lvl) (e : E) : needParen lvl false e = needParen lvl true e := by
  unfold needParen
  cases hi : isIn e
  · rw [Bool.false_and, Bool.false_and]
  · have := isIn_prec hi
    rw [decide_eq_true (show prec e < lvl by omega), Bool.true_or, Bool.true_or]

/-- what stands without parentheses at a position above the relational level is itself above it -/
theorem np_prec {lvl : Nat} {e : E} (h : 10 ≤ lvl) (hn : needParen lvl true e = false) : 10 ≤ prec e := by
  by_cases hl : lvl = 16 ∨ lvl = 17 ∨ lvl = 18
  · rw [np_cat hl hn]; decide
  · unfold needParen at hn
    rw [if_neg (by omega), if_neg (by omega), if_neg (by omega), Bool.not_true, Bool.and_false, Bool.or_false] at hn
    have := of_decide_eq_false hn
    omega

theorem pr_noin {lvl : Nat} {e : E} (h : 10 ≤ lvl) (ih : 10 ≤ prec e → bare e false = bare e true) :
    pr lvl false e = pr lvl true e := by
  unfold pr
  rw [needParen_noin h]
  cases hn : needParen lvl true e
  · exact ih (np_prec h hn)
  · rfl

/-- above the relational level the NoIn derivation and the ordinary one coincide (ES5: only the productions from
    RelationalExpression down to Expression have a NoIn variant) -/
theorem bare_noin : ∀ e : E, 10 ≤ prec e → bare e false = bare e true := by
  intro e
  induction e with
  | bin o l r ihl ihr =>
    intro hp
    have hp : 10 ≤ binPrec o := hp
    show pr (binPrec o) false l ++ tk (binTok o) :: pr (binPrec o + 1) false r = _
    rw [pr_noin hp ihl, pr_noin (by omega) ihr]; rfl
  | un o e ih => intro _; show tk (unTok o) :: pr 13 false e = _; rw [pr_noin (by decide) ih]; rfl
  | post i e ih => intro _; show pr 15 false e ++ _ = _; rw [pr_noin (by decide) ih]; rfl
  | cond c a b _ _ _ => intro hp; exact absurd hp (show ¬ 10 ≤ 2 by decide)
  | asg o l r _ _ => intro hp; exact absurd hp (show ¬ 10 ≤ 1 by decide)
  | dot e s ih => intro _; show pr 16 false e ++ _ = _; rw [pr_noin (by decide) ih]; rfl
  | idx e i ih _ => intro _; show pr 16 false e ++ _ = _; rw [pr_noin (by decide) ih]; rfl
  | call f a ih _ => intro _; show pr 16 false f ++ _ = _; rw [pr_noin (by decide) ih]; rfl
  | new_ f a ih _ =>
    intro _
    cases a with
    | noargs => show tk .kNew :: pr 17 false f = _; rw [pr_noin (by decide) ih]; rfl
    | _ => show tk .kNew :: (pr 18 false f ++ _) = _; rw [pr_noin (by decide) ih]; rfl
  | _ => intro _; rfl

/-- at a position above the relational level the flag makes no difference -/
theorem pr_high {lvl : Nat} (h : 10 ≤ lvl) (ai : Bool) (e : E) : pr lvl ai e = pr lvl true e := by
  cases ai
  · exact pr_noin h (bare_noin e)
  · rfl

end OttoVerif.C03.Lem
