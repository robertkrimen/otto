/-
  The round trip "derive the text, then parse it" for the expression parser.  The functions of parser/expression.go are read
  as one ladder `parseAtA ai lvl` (0 = Expression … 15 = LeftHandSideExpression; `parseAt` is its instance allowIn = true);
  `RT ai e` says that the text of `e` with or without In parses back at every level under the same flag.  Left-recursive
  spines go through a continuation form of the loop that builds them: `LC` for the eleven binary levels (which are the
  levels `binPrec o` of the operators; `Loops` is what their loop returns), `MC` for the member/call loop.  The flag is read
  at the levels 0–9 only: the productions above are proved with In and carried over (`rt_false`).  What concerns the
  unparser alone is in PrintLemmas.
-/
import OttoVerif.C03.PrintLemmas
namespace OttoVerif.C03.Lem
open OttoVerif.C03 OttoVerif.C03.Spec

def Ev (f : Nat → R) (v : E × List Tok) : Prop := ∃ n0, ∀ n, n0 ≤ n → f n = some v

theorem Ev.mono_shift {f : Nat → R} {v} (h : Ev f v) : Ev (fun n => f (n+1)) v := by
  obtain ⟨n0, h⟩ := h; exact ⟨n0, fun n hn => h (n+1) (by omega)⟩

/-- How a parser function that calls three others is entered: with two more units of fuel than the callees need, one for
    the call and one so that a loop running on the caller's fuel can take its stopping turn. -/
theorem Ev.step₃ {f₁ f₂ f₃ g : Nat → R} {v₁ v₂ v₃ w} (h₁ : Ev f₁ v₁) (h₂ : Ev f₂ v₂) (h₃ : Ev f₃ v₃)
    (hg : ∀ n, f₁ (n+1) = some v₁ → f₂ (n+1) = some v₂ → f₃ (n+1) = some v₃ → g (n+2) = some w) : Ev g w := by
  obtain ⟨n₁, h₁⟩ := h₁
  obtain ⟨n₂, h₂⟩ := h₂
  obtain ⟨n₃, h₃⟩ := h₃
  refine ⟨n₁ + n₂ + n₃ + 2, fun n hn => ?_⟩
  obtain ⟨m, rfl⟩ : ∃ m, n = m+2 := ⟨n-2, by omega⟩
  exact hg m (h₁ _ (by omega)) (h₂ _ (by omega)) (h₃ _ (by omega))

theorem Ev.step₂ {f₁ f₂ g : Nat → R} {v₁ v₂ w} (h₁ : Ev f₁ v₁) (h₂ : Ev f₂ v₂)
    (hg : ∀ n, f₁ (n+1) = some v₁ → f₂ (n+1) = some v₂ → g (n+2) = some w) : Ev g w :=
  h₁.step₃ h₂ h₂ fun n a b _ => hg n a b

theorem Ev.step {f g : Nat → R} {v w} (h : Ev f v) (hg : ∀ n, f (n+1) = some v → g (n+2) = some w) : Ev g w :=
  h.step₂ h fun n a _ => hg n a

theorem Ev.of_succ {f g : Nat → R} {v} (hg : ∀ n, g (n+1) = f n) (h : Ev f v) : Ev g v :=
  h.step fun n hn => by rw [hg, hn]

theorem Ev.of_const {f : Nat → R} {v} (h : ∀ n, f (n+1) = some v) : Ev f v :=
  ⟨1, fun n hn => by obtain ⟨m, rfl⟩ : ∃ m, n = m+1 := ⟨n-1, by omega⟩; exact h m⟩

def parseAt : Nat → Nat → List Tok → R
  | 0 => fun n => parseExpression n true | 1 => fun n => parseAssign n true | 2 => fun n => parseCond n true
  | 3 => fun n => parseLor n true | 4 => fun n => parseLand n true | 5 => fun n => parseBor n true
  | 6 => fun n => parseBxor n true | 7 => fun n => parseBand n true | 8 => fun n => parseEq n true
  | 9 => fun n => parseRel n true | 10 => parseShift | 11 => parseAdd | 12 => parseMul | 13 => parseUnary
  | 14 => parsePostfix | _ => parseLHSCall

theorem parseAt_0 (n : Nat) (ts : List Tok) : parseAt 0 n ts = parseExpression n true ts := rfl
theorem parseAt_1 (n : Nat) (ts : List Tok) : parseAt 1 n ts = parseAssign n true ts := rfl
theorem parseAt_2 (n : Nat) (ts : List Tok) : parseAt 2 n ts = parseCond n true ts := rfl
theorem parseAt_3 (n : Nat) (ts : List Tok) : parseAt 3 n ts = parseLor n true ts := rfl
theorem parseAt_9 (n : Nat) (ts : List Tok) : parseAt 9 n ts = parseRel n true ts := rfl
theorem parseAt_10 (n : Nat) (ts : List Tok) : parseAt 10 n ts = parseShift n ts := rfl
theorem parseAt_13 (n : Nat) (ts : List Tok) : parseAt 13 n ts = parseUnary n ts := rfl
theorem parseAt_14 (n : Nat) (ts : List Tok) : parseAt 14 n ts = parsePostfix n ts := rfl
theorem parseAt_15 (n : Nat) (ts : List Tok) : parseAt 15 n ts = parseLHSCall n ts := rfl

def isRelTk : Tk → Bool
  | .p .lt | .p .le | .p .gt | .p .ge | .p .kInstanceof | .p .kIn => true
  | _ => false

/-- does the loop / trailing test of level `j` react to the token? -/
def fires : Nat → Tk → Bool → Bool
  | 0, t, _ => (commaOps t).isSome | 1, t, _ => (asgOps t).isSome | 2, t, _ => t = .p .quest
  | 3, t, _ => (lorOps t).isSome | 4, t, _ => (landOps t).isSome | 5, t, _ => (borOps t).isSome
  | 6, t, _ => (bxorOps t).isSome | 7, t, _ => (bandOps t).isSome | 8, t, _ => (eqOps t).isSome
  | 9, t, _ => (relOps true t).isSome | 10, t, _ => (shiftOps t).isSome | 11, t, _ => (addOps t).isSome | 12, t, _ => (mulOps t).isSome
  | 13, _, _ => false
  | 14, t, nl => (t = .p .inc || t = .p .dec) && !nl
  | 15, t, _ => t = .p .dot || t = .p .lbrack || t = .p .lparen
  | _, _, _ => false

/-- no level in `[lvl, 15]` reacts to the token -/
def stopB (lvl : Nat) (t : Tk) (nl : Bool) : Bool := (List.range 16).all fun j => decide (j < lvl) || !fires j t nl

def stop (lvl : Nat) (ts : List Tok) : Prop := stopB lvl (hd ts) (hdNl ts) = true

theorem fires_ge16 (j : Nat) (t : Tk) (nl : Bool) (h : 16 ≤ j) : fires j t nl = false := by
  obtain ⟨i, rfl⟩ : ∃ i, j = i + 16 := ⟨j - 16, by omega⟩
  rfl

theorem stop_iff {lvl : Nat} {ts : List Tok} : stop lvl ts ↔ ∀ j, lvl ≤ j → fires j (hd ts) (hdNl ts) = false := by
  unfold stop stopB
  rw [List.all_eq_true]
  constructor
  · intro s j hj
    by_cases h16 : 16 ≤ j
    · exact fires_ge16 j _ _ h16
    · have := s j (List.mem_range.mpr (by omega))
      rw [Bool.or_eq_true, decide_eq_true_eq, Bool.not_eq_true'] at this
      exact this.resolve_left (by omega)
  · intro s j _
    by_cases h : j < lvl
    · simp [h]
    · simp [s j (by omega)]

theorem stop_mono {a b : Nat} {ts} (h : a ≤ b) (s : stop a ts) : stop b ts :=
  stop_iff.2 fun j hj => stop_iff.1 s j (Nat.le_trans h hj)

def nextLevel (k : Nat) : Nat := k + 1

/-- levels 0–9 with the allowIn flag as a parameter; level 10 and above do not read it -/
def parseAtA (ai : Bool) : Nat → Nat → List Tok → R
  | 0 => fun n => parseExpression n ai | 1 => fun n => parseAssign n ai | 2 => fun n => parseCond n ai
  | 3 => fun n => parseLor n ai | 4 => fun n => parseLand n ai | 5 => fun n => parseBor n ai
  | 6 => fun n => parseBxor n ai | 7 => fun n => parseBand n ai | 8 => fun n => parseEq n ai
  | 9 => fun n => parseRel n ai | k => parseAt k

theorem parseAtA_true : ∀ k, parseAtA true k = parseAt k
  | 0 => rfl | 1 => rfl | 2 => rfl | 3 => rfl | 4 => rfl | 5 => rfl | 6 => rfl | 7 => rfl | 8 => rfl | 9 => rfl
  | _+10 => rfl

def opsAt (ai : Bool) : Nat → Tk → Option BinOp
  | 0 => commaOps | 3 => lorOps | 4 => landOps | 5 => borOps | 6 => bxorOps | 7 => bandOps | 8 => eqOps
  | 9 => relOps ai | 10 => shiftOps | 11 => addOps | 12 => mulOps | _ => fun _ => none

/-- with allowIn = false the relational level does not react to `in` -/
def firesA (ai : Bool) (j : Nat) (t : Tk) (nl : Bool) : Bool :=
  if j = 9 then (relOps ai t).isSome else fires j t nl

def stopA (ai : Bool) (lvl : Nat) (ts : List Tok) : Prop := ∀ j, lvl ≤ j → firesA ai j (hd ts) (hdNl ts) = false

/-- without In the relational level reacts to less -/
theorem relOps_noin {ai : Bool} {t : Tk} (h : (relOps true t).isSome = false) : (relOps ai t).isSome = false := by
  cases ai
  · revert h; unfold relOps; split <;> simp
  · exact h

theorem stopA_of_stop {ai : Bool} {lvl : Nat} {ts : List Tok} (s : stop lvl ts) : stopA ai lvl ts := by
  intro j hj
  unfold firesA
  split
  · subst j; exact relOps_noin (stop_iff.1 s 9 hj)
  · exact stop_iff.1 s j hj

theorem stopA_mono {ai : Bool} {a b : Nat} {ts : List Tok} (h : a ≤ b) (s : stopA ai a ts) : stopA ai b ts :=
  fun j hj => s j (Nat.le_trans h hj)

/-- from the shift level up the flag is not read: not by the stop condition, not by the parser -/
theorem stopA_high {ai ai' : Bool} {lvl : Nat} {ts : List Tok} (h : 10 ≤ lvl) (s : stopA ai lvl ts) : stopA ai' lvl ts := by
  intro j hj
  have := s j hj
  rwa [firesA, if_neg (by omega)] at this ⊢

theorem parseAtA_high (ai : Bool) {k : Nat} (h : 10 ≤ k) : parseAtA ai k = parseAt k := by
  obtain ⟨i, rfl⟩ : ∃ i, k = i + 10 := ⟨k - 10, by omega⟩
  rfl

/-- the level of a binary operator is one of the eleven copies of the loop (parseMultiplicativeExpression …
    parseLogicalOrExpression, parseExpression) -/
theorem parseAtA_loop (ai : Bool) (o : BinOp) (n : Nat) (ts : List Tok) :
    parseAtA ai (binPrec o) (n+1) ts = (parseAtA ai (binPrec o + 1) n ts).bind fun p =>
      binLoop (opsAt ai (binPrec o)) (parseAtA ai (binPrec o + 1) n) n p.1 p.2 := by
  cases o <;> rfl

theorem firesA_loop (ai : Bool) (o : BinOp) (t : Tk) (nl : Bool) :
    firesA ai (binPrec o) t nl = (opsAt ai (binPrec o) t).isSome := by
  cases o <;> rfl

/-- without In `in` is no operator of the relational level -/
theorem opsAt_binTok {ai : Bool} {o : BinOp} {l r : E} (hin : isIn (.bin o l r) = true → ai = true) :
    opsAt ai (binPrec o) (.p (binTok o)) = some o := by
  cases o <;> first | rfl | (rw [hin rfl]; rfl)

theorem opsAt_none {ai : Bool} {o : BinOp} {t : Tk} {nl : Bool} (h : firesA ai (binPrec o) t nl = false) :
    opsAt ai (binPrec o) t = none := by
  rwa [firesA_loop, Option.isSome_eq_false_iff, Option.isNone_iff_eq_none] at h

/-- `binLoop ops next` entered with `e` in front of `ts` returns `w`.  The fuel of the operand parser and that of the loop
    are two indices: an iteration uses up one unit of the loop's only. -/
def Loops (ops : Tk → Option BinOp) (next : Nat → List Tok → R) (e : E) (ts : List Tok) (w : E × List Tok) : Prop :=
  ∃ n0, ∀ m j, n0 ≤ m → n0 ≤ j → binLoop ops (next m) j e ts = some w

theorem Loops.stop {ops : Tk → Option BinOp} {next : Nat → List Tok → R} {e : E} {ts : List Tok}
    (hs : ops (hd ts) = none) : Loops ops next e ts (e, ts) :=
  ⟨1, fun m j _ hj => by obtain ⟨j', rfl⟩ : ∃ j', j = j'+1 := ⟨j-1, by omega⟩; rw [binLoop, hs]⟩

theorem Loops.iter {ops : Tk → Option BinOp} {next : Nat → List Tok → R} {e r : E} {ts ts' : List Tok} {w : E × List Tok}
    {o : BinOp} (ho : ops (hd ts) = some o) (hn : Ev (fun n => next n ts.tail) (r, ts'))
    (h : Loops ops next (.bin o e r) ts' w) : Loops ops next e ts w := by
  obtain ⟨n1, h1⟩ := hn
  obtain ⟨n2, h2⟩ := h
  refine ⟨max n1 n2 + 1, fun m j hm hj => ?_⟩
  obtain ⟨j', rfl⟩ : ∃ j', j = j'+1 := ⟨j-1, by omega⟩
  rw [binLoop, ho, show next m _ = _ from h1 m (by omega)]
  exact h2 m j' (by omega) (by omega)

/-- a loop level: an operand, then the loop -/
theorem Loops.level (ai : Bool) (o : BinOp) {ts ts1 : List Tok} {p : E} {w : E × List Tok}
    (h : Ev (fun n => parseAtA ai (binPrec o + 1) n ts) (p, ts1))
    (hl : Loops (opsAt ai (binPrec o)) (parseAtA ai (binPrec o + 1)) p ts1 w) :
    Ev (fun n => parseAtA ai (binPrec o) n ts) w := by
  obtain ⟨n1, h1⟩ := h
  obtain ⟨n2, h2⟩ := hl
  refine ⟨max n1 n2 + 1, fun n hn => ?_⟩
  obtain ⟨m, rfl⟩ : ∃ m, n = m+1 := ⟨n-1, by omega⟩
  show parseAtA ai (binPrec o) (m+1) ts = some w
  rw [parseAtA_loop, show parseAtA ai _ m ts = _ from h1 m (by omega)]
  exact h2 m m (by omega) (by omega)

theorem descend_loop (ai : Bool) (o : BinOp) {ts : List Tok} {e : E} {rest : List Tok}
    (h : Ev (fun n => parseAtA ai (binPrec o + 1) n ts) (e, rest)) (hs : firesA ai (binPrec o) (hd rest) (hdNl rest) = false) :
    Ev (fun n => parseAtA ai (binPrec o) n ts) (e, rest) :=
  Loops.level ai o h (.stop (opsAt_none hs))

theorem descend_assign (ai : Bool) {ts : List Tok} {e : E} {rest : List Tok}
    (h : Ev (fun n => parseAtA ai 2 n ts) (e, rest)) (hs : firesA ai 1 (hd rest) (hdNl rest) = false) :
    Ev (fun n => parseAtA ai 1 n ts) (e, rest) :=
  h.step fun n hn => by
    have hs : asgOps (hd rest) = none := Option.isNone_iff_eq_none.1 (Option.isSome_eq_false_iff.1 hs)
    show parseAssign (n+2) ai ts = _
    rw [parseAssign, show parseCond (n+1) ai ts = _ from hn, Option.bind_some]
    simp only [hs]

theorem descend_cond (ai : Bool) {ts : List Tok} {e : E} {rest : List Tok}
    (h : Ev (fun n => parseAtA ai 3 n ts) (e, rest)) (hs : firesA ai 2 (hd rest) (hdNl rest) = false) :
    Ev (fun n => parseAtA ai 2 n ts) (e, rest) :=
  h.step fun n hn => by
    have hs : hd rest ≠ .p .quest := of_decide_eq_false hs
    show parseCond (n+2) ai ts = _
    rw [parseCond, show parseLor (n+1) ai ts = _ from hn, Option.bind_some, if_neg hs]

theorem descend_unary {ts : List Tok} {e : E} {rest : List Tok}
    (h : Ev (fun n => parsePostfix n ts) (e, rest)) (hf : notPrefix (hd ts)) :
    Ev (fun n => parseUnary n ts) (e, rest) :=
  h.step fun n hn => by
    show parseUnary (n+2) ts = _
    rw [parseUnary, hf.1]
    exact (if_neg (not_or.2 ⟨hf.2.1, hf.2.2⟩)).trans hn

theorem descend_postfix {ts : List Tok} {e : E} {rest : List Tok}
    (h : Ev (fun n => parseLHSCall n ts) (e, rest)) (hs : fires 14 (hd rest) (hdNl rest) = false) :
    Ev (fun n => parsePostfix n ts) (e, rest) :=
  h.step fun n hn => by
    show parsePostfix (n+2) ts = _
    rw [parsePostfix, show parseLHSCall (n+1) ts = _ from hn, Option.bind_some, if_neg]
    intro hc
    have hop : hd rest = .p .inc ∨ hd rest = .p .dec := hc.1
    have hnl : hdNl rest = false := hc.2
    simp [fires, hnl] at hs
    exact hop.elim hs.1 hs.2

/-- the levels below LeftHandSideExpression: the eleven loop levels and four others -/
theorem level_cases : ∀ j, j ≤ 14 → (∃ o, binPrec o = j) ∨ j = 1 ∨ j = 2 ∨ j = 13 ∨ j = 14
  | 0, _ => .inl ⟨.comma, rfl⟩ | 1, _ => .inr (.inl rfl) | 2, _ => .inr (.inr (.inl rfl)) | 3, _ => .inl ⟨.lor, rfl⟩
  | 4, _ => .inl ⟨.land, rfl⟩ | 5, _ => .inl ⟨.bor, rfl⟩ | 6, _ => .inl ⟨.bxor, rfl⟩ | 7, _ => .inl ⟨.band, rfl⟩
  | 8, _ => .inl ⟨.eq, rfl⟩ | 9, _ => .inl ⟨.lt, rfl⟩ | 10, _ => .inl ⟨.shl, rfl⟩ | 11, _ => .inl ⟨.add, rfl⟩
  | 12, _ => .inl ⟨.mul, rfl⟩ | 13, _ => .inr (.inr (.inr (.inl rfl))) | 14, _ => .inr (.inr (.inr (.inr rfl)))
  | _+15, h => absurd h (by omega)

theorem descend1 (ai : Bool) (j : Nat) (hj : j ≤ 14) {ts : List Tok} {e : E} {rest : List Tok}
    (h : Ev (fun n => parseAtA ai (j+1) n ts) (e, rest)) (hs : firesA ai j (hd rest) (hdNl rest) = false)
    (hf : j = 13 → notPrefix (hd ts)) : Ev (fun n => parseAtA ai j n ts) (e, rest) := by
  rcases level_cases j hj with ⟨o, rfl⟩ | rfl | rfl | rfl | rfl
  · exact descend_loop ai o h hs
  · exact descend_assign ai h hs
  · exact descend_cond ai h hs
  · exact descend_unary h (hf rfl)
  · exact descend_postfix h hs

theorem descendA (ai : Bool) {lvl k : Nat} (hle : lvl ≤ k) (hk : k ≤ 15) {ts : List Tok} {e : E} {rest : List Tok}
    (h : Ev (fun n => parseAtA ai k n ts) (e, rest)) (hs : stopA ai lvl rest) (hf : lvl ≤ 13 → 13 < k → notPrefix (hd ts)) :
    Ev (fun n => parseAtA ai lvl n ts) (e, rest) := by
  induction hle with
  | refl => exact h
  | @step m hle ih =>
    have hle : lvl ≤ m := hle
    exact ih (by omega) (descend1 ai m (by omega) h (hs m hle) fun h13 => hf (by omega) (by omega))
      fun h1 h2 => hf h1 (by omega)

/-- `in` ends a NoIn expression: with allowIn = false no level reacts to it -/
theorem stopA_in (rest : List Tok) : stopA false 0 (tk .kIn :: rest) := by
  intro j _
  by_cases h16 : j < 16
  · exact (by decide : ∀ j < 16, firesA false j (.p .kIn) false = false) j h16
  · exact (if_neg (by omega)).trans (fires_ge16 j _ _ (by omega))

theorem stop_rparen {ai : Bool} (k : Nat) (r : List Tok) : stopA ai k (tk .rparen :: r) :=
  stopA_of_stop (stop_mono (Nat.zero_le k) (show stopB 0 (.p .rparen) false = true by decide))

theorem stop_binTok (o : BinOp) (r : List Tok) : stop (binPrec o + 1) (tk (binTok o) :: r) := by
  cases o <;> (show stopB _ (.p _) false = true) <;> decide +kernel

theorem memberLoop_stop (n : Nat) (c : Bool) (e : E) {ai : Bool} {ts : List Tok} (hs : stopA ai 15 ts) :
    memberLoop (n+1) c e ts = some (e, ts) := by
  have h : fires 15 (hd ts) (hdNl ts) = false := hs 15 (Nat.le_refl _)
  rw [memberLoop]
  simp only [fires] at h
  split <;> simp_all

theorem memberLoop_lparen_false (n : Nat) (e : E) (ts : List Tok) (h : hd ts = .p .lparen) :
    memberLoop (n+1) false e ts = some (e, ts) := by
  rw [memberLoop]; simp [h]

theorem hd_append_cons (t : Tok) (a b : List Tok) : hd ((t :: a) ++ b) = t.k := rfl

/-- the text of `e` at position `lvl`, with or without In, followed by anything no level ≥ lvl reacts to, parses back to
    `e` under the same flag.  Position 2 is left out: no operand position of the grammar is a ConditionalExpression, and
    there the statement fails (the last operand of `?:` is read by parseAssignmentExpression, which takes a following `=`). -/
def RT (ai : Bool) (e : E) : Prop := ∀ lvl, lvl ≤ 15 → lvl ≠ 2 → ∀ rest, stopA ai lvl rest →
  Ev (fun n => parseAtA ai lvl n (pr lvl ai e ++ rest)) (e, rest)

/-- continuation form for the loop of level `k`: whatever the loop makes of `e` and the rest is what the level makes of
    the text of `e` followed by the rest -/
def LC (ai : Bool) (k : Nat) (e : E) : Prop := ∀ (R : List Tok) (w : E × List Tok), stopA ai (k+1) R →
  Loops (opsAt ai k) (parseAtA ai (k+1)) e R w → Ev (fun n => parseAtA ai k n (pr k ai e ++ R)) w

/-- a conditional expression ends in an AssignmentExpression: what follows it must not be an assignment operator either -/
def ownStop (e : E) : Nat := if prec e = 2 then 1 else prec e

/-- the bare text of `e` parses back at the level of its own production (not so for an `in` expression without In: its
    bare text is no NoIn derivation) -/
def OWN (ai : Bool) (e : E) : Prop := ∀ rest, stopA ai (ownStop e) rest →
  Ev (fun n => parseAtA ai (prec e) n (bare e ai ++ rest)) (e, rest)

/-- the first step of parseLeftHandSideExpression(AllowCall): a `new` expression or a primary expression -/
def atomP (n : Nat) (ts : List Tok) : R := if hd ts = .p .kNew then parseNew n ts.tail else parsePrimary n ts

/-- parseLeftHandSideExpressionAllowCall (`c = true`, level 15) and parseLeftHandSideExpression (`c = false`, the operand
    of `new`): an atom, then the member loop with or without calls -/
def parseLHSc (c : Bool) : Nat → List Tok → R := if c then parseLHSCall else parseLHS

/-- continuation form for the member/call loop: whatever the loop makes of `e` and the rest is what
    parseLeftHandSideExpression(AllowCall) makes of the text of `e` (as the base of an access: position 16) followed by
    the rest -/
def MC (c : Bool) (e : E) : Prop := ∀ (R : List Tok) (w : E × List Tok),
  Ev (fun j => memberLoop j c e R) w → Ev (fun n => parseLHSc c n (pr 16 true e ++ R)) w

/-- `e` as the operand of `new` without arguments (position 17, in front of what the member loop does not react to), of `new`
    with arguments (position 18, in front of their `(`); an argument list in front of its `)` -/
def P17 (e : E) : Prop := ∀ rest, stopA true 15 rest → Ev (fun n => parseLHS n (pr 17 true e ++ rest)) (e, rest)
def P18 (e : E) : Prop := ∀ rest, hd rest = .p .lparen → Ev (fun n => parseLHS n (pr 18 true e ++ rest)) (e, rest)
def ARGS (a : E) : Prop := ∀ R, Ev (fun n => parseArgs n (bare a true ++ tk .rparen :: R)) (a, tk .rparen :: R)

/-- what the induction of `round_trip` carries for an expression: the round trip, the continuation form for every loop
    level and for the member loop (the loop without calls only if `e` is no CallExpression: parseLeftHandSideExpression,
    which reads the operand of `new`, takes no call), and the operand position of `new` without arguments (`P18`, the one
    with arguments, follows from `RT` and `MC`: `p18_generic`) -/
def EX (e : E) : Prop :=
  (∀ ai, RT ai e) ∧ (∀ ai o, LC ai (binPrec o) e) ∧ (∀ c : Bool, (c = false → cat e ≠ .C) → MC c e) ∧ P17 e

theorem parseLHSc_succ (c : Bool) (n : Nat) (ts : List Tok) :
    parseLHSc c (n+1) ts = (atomP n ts).bind fun p => memberLoop n c p.1 p.2 := by
  cases c <;> rfl

theorem atomP_new (n : Nat) (ts : List Tok) : atomP n (tk .kNew :: ts) = parseNew n ts := rfl

theorem atomP_tok {t : Tk} (h : t ≠ .p .kNew) (n : Nat) (ts : List Tok) :
    atomP n ({ k := t } :: ts) = parsePrimary n ({ k := t } :: ts) := if_neg h

theorem parsePrimary_paren (n : Nat) (ts : List Tok) :
    parsePrimary (n+1) (tk .lparen :: ts) = (parseExpression n true ts).bind fun p => (expectP .rparen p.2).map fun r' => (p.1, r') :=
  rfl

/-- a parenthesised text is a primary expression (parsePrimaryExpression, case LEFT_PARENTHESIS) -/
theorem atom_paren {inner : List Tok} {e : E} {R : List Tok}
    (h : Ev (fun n => parseAtA true 0 n (inner ++ tk .rparen :: R)) (e, tk .rparen :: R)) :
    Ev (fun n => atomP n (tk .lparen :: (inner ++ tk .rparen :: R))) (e, R) :=
  h.step fun n hn => by
    show atomP (n+2) ({ k := .p .lparen } :: _) = _
    rw [atomP_tok (t := .p .lparen) nofun]
    show parsePrimary (n+2) (tk .lparen :: _) = _
    rw [parsePrimary_paren, show parseExpression (n+1) true _ = _ from hn]
    rfl

/-- … and, in front of something the member loop does not react to, a left-hand-side expression -/
theorem lhs_paren {inner : List Tok} {e : E} {R : List Tok} (c : Bool)
    (h : Ev (fun n => parseAtA true 0 n (inner ++ tk .rparen :: R)) (e, tk .rparen :: R))
    (hml : ∀ n, memberLoop (n+1) c e R = some (e, R)) :
    Ev (fun n => parseLHSc c n (tk .lparen :: (inner ++ tk .rparen :: R))) (e, R) :=
  (atom_paren h).step fun n hn => by
    rw [parseLHSc_succ, hn]
    exact hml n

theorem rt_of_own {e : E} (own : OWN true e) (ft : FT e) : RT true e := by
  intro lvl h15 h2 rest hs
  by_cases hp : lvl ≤ prec e
  · rw [pr_bare h15 hp]
    have hs' : stopA true (ownStop e) rest := by
      unfold ownStop; split
      · exact stopA_mono (by omega) hs
      · exact stopA_mono hp hs
    exact descendA true hp (prec_le e) (own rest hs') hs fun _ h => (ft rest).2 (by omega)
  · rw [pr_paren h15 (by omega)]
    have h0 := descendA true (Nat.zero_le _) (prec_le e) (own _ (stop_rparen _ rest)) (stop_rparen 0 rest) fun _ h => (ft _).2 (by omega)
    exact descendA true h15 (Nat.le_refl _) (lhs_paren true h0 fun _ => memberLoop_stop _ _ _ (stopA_mono h15 hs)) hs
      fun _ _ => notPrefix_lparen _

/-- the round trip without In, from the one with In: a tree above the relational level has the same text and is read by
    the same functions; a parenthesised text is the one that stands at position 15 with In; what is left is a tree of
    level ≤ 9 that is no `in` expression, at its own level -/
theorem rt_false {e : E} (rt : RT true e) (own : prec e ≤ 9 → isIn e = false → OWN false e) : RT false e := by
  intro lvl h15 h2 rest hs
  cases hn : needParen lvl false e
  · have hn' := hn
    rw [needParen_ai lvl h15, Bool.or_eq_false_iff, decide_eq_false_iff_not, Bool.not_false, Bool.and_true] at hn'
    rw [pr_bare_of hn]
    by_cases hp : 10 ≤ prec e
    · have hL : max lvl 10 ≤ prec e := Nat.max_le.2 ⟨by omega, hp⟩
      have := rt (max lvl 10) (by have := prec_le e; omega) (by omega) rest
        (stopA_high (Nat.le_max_right _ _) (stopA_mono (Nat.le_max_left _ _) hs))
      rw [pr_bare (by have := prec_le e; omega) hL, ← bare_noin e hp, parseAtA_high true (Nat.le_max_right _ _),
        ← parseAtA_high false (Nat.le_max_right _ _)] at this
      exact descendA false (Nat.le_max_left _ _) (by have := prec_le e; omega) this hs fun h1 h2 => absurd h2 (by omega)
    · have hs' : stopA false (ownStop e) rest := by
        unfold ownStop; split
        · exact stopA_mono (by omega) hs
        · exact stopA_mono (by omega) hs
      exact descendA false (by omega) (prec_le e) (own (by omega) hn'.2 rest hs') hs fun _ h => absurd h (by omega)
  · have hlt : prec e < 15 := by
      rw [needParen_ai lvl h15, Bool.or_eq_true, decide_eq_true_eq, Bool.not_false, Bool.and_true] at hn
      rcases hn with h | h
      · omega
      · rw [isIn_prec h]; decide
    have := rt 15 (Nat.le_refl _) (by omega) rest (stopA_high (by omega) (stopA_mono h15 hs))
    rw [pr_paren (Nat.le_refl _) hlt, parseAtA_high true (by omega), ← parseAtA_high false (by omega)] at this
    rw [pr_paren_of hn]
    exact descendA false h15 (Nat.le_refl _) this hs fun _ _ => notPrefix_lparen _

theorem rt_all {e : E} (rt : RT true e) (own : prec e ≤ 9 → isIn e = false → OWN false e) : ∀ ai, RT ai e
  | true => rt
  | false => rt_false rt own

theorem lc_of_rt {ai : Bool} {e : E} (rt : RT ai e) (o : BinOp) (hp : prec e ≠ binPrec o ∨ (isIn e = true ∧ ai = false)) :
    LC ai (binPrec o) e := by
  intro R w hs H
  have hb := binPrec_le o
  rw [pr_succ (by omega) hp]
  exact Loops.level ai o (rt _ (by omega) (by omega) R hs) H

/-- the trees of the other productions: their level is not a loop level -/
theorem lc_all {e : E} (rt : ∀ ai, RT ai e) (hp : 12 < prec e ∨ prec e = 1 ∨ prec e = 2) (ai : Bool) (o : BinOp) :
    LC ai (binPrec o) e :=
  lc_of_rt (rt ai) o (.inl (by have := binPrec_le o; omega))

theorem lc_bin {ai : Bool} {o : BinOp} {l r : E} (hin : isIn (.bin o l r) = true → ai = true) (lcl : LC ai (binPrec o) l) (rtr : RT ai r) :
    LC ai (binPrec o) (.bin o l r) := by
  intro R w hs H
  have hb := binPrec_le o
  rw [pr_bare_of (np_own hin), bare_bin, List.append_assoc, List.cons_append]
  -- one iteration: the loop entered with `l` in front of `o r` goes on as the loop entered with `l o r`
  exact lcl _ _ (stopA_of_stop (stop_binTok o _)) (.iter (opsAt_binTok hin) (rtr _ (by omega) (by omega) R hs) H)

/-- a binary tree at its own level, from its continuation form: in front of a rest the level does not react to, the
    loop stops at once -/
theorem own_of_lc {ai : Bool} {o : BinOp} {l r : E} (hin : isIn (.bin o l r) = true → ai = true) (lc : LC ai (binPrec o) (.bin o l r)) :
    OWN ai (.bin o l r) := by
  intro rest hs
  have hb := binPrec_le o
  have hs : stopA ai (binPrec o) rest := by rwa [show ownStop (.bin o l r) = binPrec o from if_neg hb.2.2] at hs
  have := lc rest _ (stopA_mono (Nat.le_succ _) hs) (.stop (opsAt_none (hs _ (Nat.le_refl _))))
  rwa [pr_bare_of (np_own hin)] at this

theorem own_un {o : UnOp} {e : E} (rte : RT true e) (ht : (o = .preinc ∨ o = .predec) → simpleTarget e = true) :
    OWN true (.un o e) := by
  intro rest hs
  refine (rte 13 (by omega) (by omega) rest hs).step fun n hn => ?_
  have hn : parseUnary (n+1) (pr 13 true e ++ rest) = some (e, rest) := hn
  show parseUnary (n+2) (tk (unTok o) :: (pr 13 true e ++ rest)) = _
  rw [parseUnary]
  cases o <;> simp [unTok, tk, hd, unaryOps, hn] <;> (apply ht; simp)

theorem own_post {i : Bool} {e : E} (rte : RT true e) (ht : simpleTarget e = true) : OWN true (.post i e) := by
  intro rest hs
  have hs1 : stop 15 (tk (if i then P.inc else P.dec) :: rest) := by
    cases i <;> (show stopB 15 (.p _) false = true) <;> decide
  refine (rte 15 (by omega) (by omega) _ (stopA_of_stop hs1)).step fun n hn => ?_
  show parsePostfix (n+2) ((pr 15 true e ++ [tk (if i then P.inc else P.dec)]) ++ rest) = _
  rw [parsePostfix, List.append_assoc, List.singleton_append, show parseLHSCall (n+1) _ = _ from hn]
  cases i <;> simp [tk, hd, hdNl, ht]

theorem own_cond {ai : Bool} {c a b : E} (rtc : RT ai c) (rta : RT true a) (rtb : RT ai b) : OWN ai (.cond c a b) := by
  intro rest hs
  have hsq : ∀ r, stop 3 (tk .quest :: r) := fun r => (show stopB 3 (.p .quest) false = true by decide)
  have hsc : ∀ r, stop 1 (tk .colon :: r) := fun r => (show stopB 1 (.p .colon) false = true by decide)
  refine (rtc 3 (by omega) (by omega) _ (stopA_of_stop (hsq (pr 1 true a ++ tk .colon :: (pr 1 ai b ++ rest))))).step₃
    (rta 1 (by omega) (by omega) _ (stopA_of_stop (hsc (pr 1 ai b ++ rest)))) (rtb 1 (by omega) (by omega) rest hs)
    fun n h1 h2 h3 => ?_
  have h2 : parseAssign (n+1) true (pr 1 true a ++ tk .colon :: (pr 1 ai b ++ rest)) = some (a, tk .colon :: (pr 1 ai b ++ rest)) := h2
  have h3 : parseAssign (n+1) ai (pr 1 ai b ++ rest) = some (b, rest) := h3
  show parseCond (n+2) ai ((pr 3 ai c ++ tk .quest :: (pr 1 true a ++ tk .colon :: pr 1 ai b)) ++ rest) = _
  simp only [List.append_assoc, List.cons_append]
  rw [parseCond, show parseLor (n+1) ai _ = _ from h1]
  simp [hd, tk, expectP] at h2 h3 ⊢
  simp [h2, h3]

theorem asgOps_asgTok (o : AsgOp) : asgOps (.p (asgTok o)) = some o := by cases o <;> rfl

theorem own_asg {ai : Bool} {o : AsgOp} {l r : E} (rtl : RT true l) (rtr : RT ai r) (ht : simpleTarget l = true)
    (ftl : FT l) : OWN ai (.asg o l r) := by
  intro rest hs
  have hs2 : ∀ r', stop 2 (tk (asgTok o) :: r') := fun r' => by
    cases o <;> (show stopB 2 (.p _) false = true) <;> decide +kernel
  -- the left side stands at position 15, where the flag makes no difference, and is read from there down to level 2
  have h15 := rtl 15 (by omega) (by omega) (tk (asgTok o) :: (pr 1 ai r ++ rest)) (stopA_of_stop (stop_mono (by omega) (hs2 _)))
  rw [parseAtA_high true (by omega), ← parseAtA_high ai (by omega)] at h15
  have hl2 := descendA ai (show 2 ≤ 15 by omega) (Nat.le_refl _) h15 (stopA_of_stop (hs2 _)) (fun _ _ => (first_pr ftl _).2 np15)
  refine hl2.step₂ (rtr 1 (by omega) (by omega) rest hs) fun n h1 h2 => ?_
  have h2 : parseAssign (n+1) ai (pr 1 ai r ++ rest) = some (r, rest) := h2
  show parseAssign (n+2) ai ((pr 15 ai l ++ tk (asgTok o) :: pr 1 ai r) ++ rest) = _
  rw [pr_high (by omega) ai l]
  simp only [List.append_assoc, List.cons_append]
  rw [parseAssign, show parseCond (n+1) ai _ = _ from h1]
  simp [hd, tk, asgOps_asgTok, ht, h2]

theorem rt_zero {e : E} (rt : RT true e) (R : List Tok) :
    Ev (fun n => parseAtA true 0 n (bare e true ++ tk .rparen :: R)) (e, tk .rparen :: R) := by
  have := rt 0 (Nat.zero_le _) (by omega) (tk .rparen :: R) (stop_rparen _ _)
  rwa [pr_bare (Nat.zero_le _) (Nat.zero_le _)] at this

theorem mc_paren {c : Bool} {e : E} (rt : RT true e) (h : needParen 16 true e = true) : MC c e := by
  intro R w H
  rw [pr_paren_of h]
  exact (atom_paren (rt_zero rt R)).step₂ H fun n h1 h2 => by rw [parseLHSc_succ, h1]; exact h2

theorem mc_dot {c : Bool} {e : E} {s : String} (mce : MC c e) : MC c (.dot e s) := by
  intro R w H
  rw [pr_bare_of (np16_dot e s), bare_dot, List.append_assoc]
  refine mce _ _ (Ev.of_succ (fun j => ?_) H)
  rw [memberLoop]
  simp [hd, tk, dotName]

theorem mc_idx {c : Bool} {e i : E} (mce : MC c e) (rti : RT true i) : MC c (.idx e i) := by
  intro R w H
  rw [pr_bare_of (np16_idx e i), bare_idx, List.append_assoc]
  refine mce _ _ (H.step₂ (rti 0 (by omega) (by omega) (tk .rbrack :: R)
    (stopA_of_stop (show stopB 0 (.p .rbrack) false = true by decide)))
    fun j hj h2 => ?_)
  have h2 : parseExpression (j+1) true (pr 0 true i ++ tk .rbrack :: R) = some (i, tk .rbrack :: R) := h2
  rw [memberLoop]
  simp only [tk, List.cons_append, List.append_assoc, List.nil_append] at h2 ⊢
  simp [hd, h2, expectP]
  exact hj

theorem mc_call {f a : E} (mcf : MC true f) (ha : ARGS a) : MC true (.call f a) := by
  intro R w H
  rw [pr_bare_of (np16_call f a), bare_call, List.append_assoc]
  refine mcf _ _ (H.step₂ (ha R) fun j hj h2 => ?_)
  have h2 : parseArgs (j+1) (bare a true ++ tk .rparen :: R) = some (a, tk .rparen :: R) := h2
  rw [memberLoop]
  simp only [tk, List.cons_append, List.append_assoc, List.nil_append] at h2 ⊢
  simp [hd, h2, expectP]
  exact hj

theorem parseNew_noargs {g : E} (pg : P17 g) (rest : List Tok) (hs : stopA true 15 rest) :
    Ev (fun n => parseNew n (pr 17 true g ++ rest)) (.new_ g .noargs, rest) :=
  (pg rest hs).step fun n hn => by
    have hf : fires 15 (hd rest) (hdNl rest) = false := hs 15 (Nat.le_refl _)
    simp only [fires] at hf
    have : hd rest ≠ .p .lparen := by intro hx; simp [hx] at hf
    rw [parseNew, hn]
    simp [this]

theorem parseNew_args {f a : E} (pf : P18 f) (ha : ARGS a) (R : List Tok) :
    Ev (fun n => parseNew n (pr 18 true f ++ tk .lparen :: (bare a true ++ tk .rparen :: R))) (.new_ f a, R) :=
  (pf (tk .lparen :: (bare a true ++ tk .rparen :: R)) rfl).step₂ (ha R) fun n h h1 => by
    rw [parseNew, h]
    simp [hd, tk, expectP] at h1 ⊢
    simp [h1]

theorem mc_new {c : Bool} {f a : E} (pf : P18 f) (ha : ARGS a) (hia : isArgs a = true) : MC c (.new_ f a) := by
  intro R w H
  have hnp : needParen 16 true (.new_ f a) = false := by cases a <;> simp_all [needParen, cat, isArgs]
  have hb : bare (.new_ f a) true = tk .kNew :: (pr 18 true f ++ tk .lparen :: (bare a true ++ [tk .rparen])) := by
    cases a <;> first | rfl | exact absurd hia nofun
  rw [pr_bare_of hnp, hb]
  simp only [List.cons_append, List.append_assoc, List.nil_append]
  exact (parseNew_args pf ha R).step₂ H fun n h0 h1 => by rw [parseLHSc_succ, atomP_new, h0]; exact h1

theorem lhs_newx {g : E} (pg : P17 g) (c : Bool) (rest : List Tok) (hs : stopA true 15 rest) :
    Ev (fun n => parseLHSc c n (tk .kNew :: (pr 17 true g ++ rest))) (.new_ g .noargs, rest) :=
  (parseNew_noargs pg rest hs).step fun n hn => by
    rw [parseLHSc_succ, atomP_new, hn]
    exact memberLoop_stop _ _ _ hs

theorem own_of_mc {e : E} (mc : MC true e) (h16 : needParen 16 true e = false) (hp : prec e = 15) : OWN true e := by
  intro rest hs
  have hs : stopA true 15 rest := by
    have : ownStop e = 15 := by simp [ownStop, hp]
    rwa [this] at hs
  have := mc rest (e, rest) (Ev.of_const fun _ => memberLoop_stop _ _ _ hs)
  rw [pr_bare_of h16] at this
  rw [hp]
  exact this

/-- the two `new` operand positions, from the pieces: an operand that needs no parentheses there is a MemberExpression -/
theorem p_generic {lvl : Nat} {e : E} (rt : RT true e) (mc : cat e ≠ .C → MC false e) (hM : needParen lvl true e = false → cat e = .M)
    (rest : List Tok) (hml : ∀ n, memberLoop (n+1) false e rest = some (e, rest)) :
    Ev (fun n => parseLHS n (pr lvl true e ++ rest)) (e, rest) := by
  cases hn : needParen lvl true e
  · have hc := hM hn
    have := mc (by simp [hc]) rest (e, rest) (Ev.of_const hml)
    rwa [pr_bare_of (by simp [needParen, hc]), ← pr_bare_of hn] at this
  · rw [pr_paren_of hn]
    exact lhs_paren false (rt_zero rt rest) hml

theorem p17_generic {e : E} (rt : RT true e) (mc : cat e ≠ .C → MC false e) (hN : cat e ≠ .N) : P17 e :=
  fun rest hs => p_generic rt mc (fun hn => by cases hc : cat e <;> simp_all [needParen]) rest
    fun _ => memberLoop_stop _ _ _ hs

theorem p18_generic {e : E} (rt : RT true e) (mc : cat e ≠ .C → MC false e) : P18 e :=
  fun rest hs => p_generic rt mc (fun hn => by simpa [needParen] using hn) rest fun _ => memberLoop_lparen_false _ _ _ hs

theorem args_last {x : E} (rt : RT true x) (ft : FT x) : ARGS (.acons x .anil) := fun R =>
  (rt 1 (by omega) (by omega) (tk .rparen :: R) (stop_rparen _ _)).step fun n hn => by
    show parseArgs (n+2) (pr 1 true x ++ tk .rparen :: R) = _
    rw [parseArgs, if_neg (first_pr ft _).1, show parseAssign (n+1) true _ = _ from hn]
    rfl

theorem args_more {x x2 t2 : E} (rt : RT true x) (ft : FT x) (atl : ARGS (.acons x2 t2)) : ARGS (.acons x (.acons x2 t2)) := fun R =>
  (rt 1 (by omega) (by omega) (tk .comma :: (bare (.acons x2 t2) true ++ tk .rparen :: R))
    (stopA_of_stop (show stopB 1 (.p .comma) false = true by decide))).step₂ (atl R) fun n h0 h1 => by
    show parseArgs (n+2) ((pr 1 true x ++ tk .comma :: bare (.acons x2 t2) true) ++ tk .rparen :: R) = _
    simp only [List.append_assoc, List.cons_append]
    rw [parseArgs, if_neg (first_pr ft _).1, show parseAssign (n+1) true _ = _ from h0]
    simp [hd, tk] at h1 ⊢
    simp [h1]

theorem ex_mk {e : E} (rt : ∀ ai, RT ai e) (lc : ∀ ai o, LC ai (binPrec o) e)
    (mc : ∀ c : Bool, (c = false → cat e ≠ .C) → MC c e) (hN : cat e ≠ .N) : EX e :=
  ⟨rt, lc, mc, p17_generic (rt true) (fun h => mc false (fun _ => h)) hN⟩

/-- a tree that is not a LeftHandSideExpression, from its own production (without In only if the flag is read there) -/
theorem ex_X {e : E} (own : OWN true e) (ownf : prec e ≤ 9 → OWN false e) (ft : FT e)
    (hp : 12 < prec e ∨ prec e = 1 ∨ prec e = 2) (hX : cat e = .X) : EX e :=
  have rt := rt_all (rt_of_own own ft) fun h _ => ownf h
  ex_mk rt (lc_all rt hp) (fun _ _ => mc_paren (rt true) (by simp [needParen, hX])) (by simp [hX])

/-- a member expression or call, from its continuation form -/
theorem ex_member {e : E} (mc : ∀ c : Bool, (c = false → cat e ≠ .C) → MC c e) (ft : FT e) (h16 : needParen 16 true e = false)
    (hp : prec e = 15) (hN : cat e ≠ .N) : EX e :=
  have rt := rt_all (rt_of_own (own_of_mc (mc true nofun) h16 hp) ft) fun h _ => absurd h (by rw [hp]; decide)
  ex_mk rt (lc_all rt (.inl (by rw [hp]; decide))) mc hN

/-- a tree whose whole text is one token that parsePrimaryExpression turns into it -/
theorem ex_leaf {e : E} {t : Tk} (hb : bare e true = [{ k := t }]) (hprim : ∀ n r, parsePrimary (n+1) ({ k := t } :: r) = some (e, r))
    (hp : prec e = 15) (hc : cat e = .M) (hnew : t ≠ .p .kNew) (ft : FT e) : EX e := by
  have h16 : needParen 16 true e = false := by simp [needParen, hc]
  refine ex_member (fun c _ R w H => ?_) ft h16 hp (by simp [hc])
  rw [pr_bare_of h16, hb]
  exact H.step fun n hn => by
    rw [parseLHSc_succ, List.singleton_append, atomP_tok hnew, hprim]
    exact hn

/-- every well-formed tree round-trips: an expression in all four forms, an argument list through `parseArgs` -/
theorem round_trip : ∀ e : E, wf e = true →
    (isExprHead e = true → EX e) ∧ (isArgs e = true → ARGS e) := by
  intro e
  induction e with
  | id s | num s | str s | bool s | null | this_ =>
    exact fun hw => ⟨fun he => ex_leaf rfl (fun _ _ => rfl) rfl rfl nofun (first_tok _ ⟨hw, he⟩), nofun⟩
  | bin o l r ihl ihr =>
    refine fun hw => ⟨fun he => ?_, nofun⟩
    obtain ⟨hl, hr⟩ := wf_bin hw
    obtain ⟨_, lcl, _⟩ := (ihl hl.1).1 hl.2
    obtain ⟨rtr, _⟩ := (ihr hr.1).1 hr.2
    have lc : ∀ ai, (isIn (.bin o l r) = true → ai = true) → LC ai (binPrec o) (.bin o l r) :=
      fun ai hin => lc_bin hin (lcl ai o) (rtr ai)
    have rt := rt_all (rt_of_own (own_of_lc (fun _ => rfl) (lc true fun _ => rfl)) (first_tok _ ⟨hw, he⟩))
      fun _ hi => own_of_lc (fun h => absurd (h.symm.trans hi) nofun) (lc false fun h => absurd (h.symm.trans hi) nofun)
    refine ex_mk rt (fun ai o' => ?_) (fun _ _ => mc_paren (rt true) rfl) nofun
    by_cases hkk : binPrec o' = binPrec o
    · by_cases hin : isIn (.bin o l r) = true → ai = true
      · rw [hkk]; exact lc ai hin
      · -- an `in` expression without In stands in parentheses wherever it stands
        have hin := Classical.not_imp.1 hin
        exact lc_of_rt (rt ai) o' (.inr ⟨hin.1, Bool.eq_false_iff.2 hin.2⟩)
    · exact lc_of_rt (rt ai) o' (.inl fun h => hkk h.symm)
  | un o e ih =>
    refine fun hw => ⟨fun he => ?_, nofun⟩
    obtain ⟨h, ht⟩ := wf_un hw
    exact ex_X (own_un (((ih h.1).1 h.2).1 true) ht) (fun h9 => absurd h9 (show ¬ 13 ≤ 9 by decide)) (first_tok _ ⟨hw, he⟩)
      (.inl (show 12 < 13 by decide)) rfl
  | post i e ih =>
    refine fun hw => ⟨fun he => ?_, nofun⟩
    obtain ⟨h, ht⟩ := wf_post hw
    exact ex_X (own_post (((ih h.1).1 h.2).1 true) ht) (fun h9 => absurd h9 (show ¬ 14 ≤ 9 by decide)) (first_tok _ ⟨hw, he⟩)
      (.inl (show 12 < 14 by decide)) rfl
  | cond c a b ihc iha ihb =>
    refine fun hw => ⟨fun he => ?_, nofun⟩
    obtain ⟨hc, ha, hb⟩ := wf_cond hw
    have own : ∀ ai, OWN ai (.cond c a b) := fun ai =>
      own_cond (((ihc hc.1).1 hc.2).1 ai) (((iha ha.1).1 ha.2).1 true) (((ihb hb.1).1 hb.2).1 ai)
    exact ex_X (own true) (fun _ => own false) (first_tok _ ⟨hw, he⟩) (.inr (.inr rfl)) rfl
  | asg o l r ihl ihr =>
    refine fun hw => ⟨fun he => ?_, nofun⟩
    obtain ⟨hl, hr, ht⟩ := wf_asg hw
    have own : ∀ ai, OWN ai (.asg o l r) := fun ai =>
      own_asg (((ihl hl.1).1 hl.2).1 true) (((ihr hr.1).1 hr.2).1 ai) ht (first_tok l hl)
    exact ex_X (own true) (fun _ => own false) (first_tok _ ⟨hw, he⟩) (.inr (.inl rfl)) rfl
  | dot e s ih =>
    refine fun hw => ⟨fun he => ?_, nofun⟩
    obtain ⟨_, _, mce, _⟩ := (ih (wf_dot hw).1).1 (wf_dot hw).2
    exact ex_member (fun c hc => mc_dot (mce c fun h hC => hc h (if_pos hC))) (first_tok _ ⟨hw, he⟩) (np16_dot e s) rfl
      (cat_member_ne e)
  | idx e i ihe ihi =>
    refine fun hw => ⟨fun he => ?_, nofun⟩
    obtain ⟨h, hi⟩ := wf_idx hw
    obtain ⟨_, _, mce, _⟩ := (ihe h.1).1 h.2
    exact ex_member (fun c hc => mc_idx (mce c fun h hC => hc h (if_pos hC)) (((ihi hi.1).1 hi.2).1 true)) (first_tok _ ⟨hw, he⟩)
      (np16_idx e i) rfl (cat_member_ne e)
  | call f a ihf iha =>
    refine fun hw => ⟨fun he => ?_, nofun⟩
    obtain ⟨hf, hwa, hia⟩ := wf_call hw
    obtain ⟨_, _, mcf, _⟩ := (ihf hf.1).1 hf.2
    refine ex_member (fun c hc => ?_) (first_tok _ ⟨hw, he⟩) (np16_call f a) rfl nofun
    cases c
    · exact absurd rfl (hc rfl)
    · exact mc_call (mcf true nofun) ((iha hwa).2 hia)
  | new_ f a ihf iha =>
    refine fun hw => ⟨fun he => ?_, nofun⟩
    obtain ⟨hf, hwa, hargs⟩ := wf_new hw
    obtain ⟨rtf, _, mcf, p17f⟩ := (ihf hf.1).1 hf.2
    rcases hargs with hia | rfl
    · have p18f : P18 f := p18_generic (rtf true) fun h => mcf false fun _ => h
      have hcat : cat (.new_ f a) = .M := by cases a <;> first | rfl | exact absurd hia nofun
      exact ex_member (fun c _ => mc_new p18f ((iha hwa).2 hia) hia) (first_tok _ ⟨hw, he⟩) (by simp [needParen, hcat]) rfl
        (by simp [hcat])
    · have rt := rt_all (e := .new_ f .noargs) (rt_of_own (lhs_newx p17f true) (first_tok _ ⟨hw, he⟩))
        fun h9 _ => absurd h9 (show ¬ 15 ≤ 9 by decide)
      -- as the operand of another `new` the same text is read by parseLeftHandSideExpression
      have p17 : P17 (.new_ f .noargs) := fun rest hs => by
        rw [pr_bare_of (by simp [needParen, cat])]
        exact lhs_newx p17f false rest hs
      exact ⟨rt, lc_all rt (.inl (show 12 < 15 by decide)), fun _ _ => mc_paren (rt true) rfl, p17⟩
  | anil => exact fun _ => ⟨nofun, fun _ _ => Ev.of_const fun _ => rfl⟩
  | acons x tl ihx iht =>
    refine fun hw => ⟨nofun, fun _ => ?_⟩
    obtain ⟨hx, hwt, hat⟩ := wf_acons hw
    have rtx := ((ihx hx.1).1 hx.2).1 true
    cases tl with
    | anil => exact args_last rtx (first_tok _ hx)
    | acons x2 t2 => exact args_more rtx (first_tok _ hx) ((iht hwt).2 hat)
    | _ => exact absurd hat nofun
  | noargs => exact fun _ => ⟨nofun, nofun⟩

/-- the round trip at every position, with and without In -/
theorem round_trip_ai {e : E} (hw : wf e = true) (he : isExprHead e = true) (ai : Bool) : RT ai e :=
  ((round_trip e hw).1 he).1 ai

end OttoVerif.C03.Lem
