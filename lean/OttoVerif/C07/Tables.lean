/-
  C07/Tables — the finite request kinds, model against ES5 by cases: descriptor maps whose members have side effects, the
  Object.* functions on non-objects, the read order of ToPropertyDescriptor, properties created by built-ins, and the
  observers of prototype links.
-/
import OttoVerif.C07.Spec
import OttoVerif.C07.Driver

namespace OttoVerif.C07.Thm

open OttoVerif.C07 OttoVerif.C07.Spec OttoVerif.C07.Driver

/-- **descriptor maps with side-effecting members**: names first, then every member read and converted (15.2.3.7 steps 3-5) -/
theorem mapWalk_refines (ents : List (Name × MAct)) : ∀ (fuel : Nat) (dels : List Bool) (acc : List Name) (i : Nat),
    mapWalk ents fuel dels acc i = Spec.mapWalk ents fuel dels acc i := by
  intro fuel
  induction fuel with
  | zero => intro _ _ _; rfl
  | succ f ih =>
    intro dels acc i
    simp only [mapWalk, Spec.mapWalk]
    cases ents[i]? with
    | none => rfl
    | some e =>
      obtain ⟨n, act⟩ := e
      simp only []
      split
      · rfl
      · cases act <;> simp only [ih]

theorem defineMap_refines (ents : List (Name × MAct)) : defineMap ents = Spec.defineMap ents := by
  simp only [defineMap, Spec.defineMap, mapWalk_refines]
  cases Spec.mapWalk ents (ents.length + 1) (ents.map fun _ => false) [] 0 <;> rfl

/-- every Object.* function of §15.2.3 except getOwnPropertyNames rejects a non-object first argument
    exactly as ES5 says (create accepts null) -/
theorem objFnPrim_refines (f : ObjFn) (a : PrimArg) (h : devPrim f = false) : objFnPrim f a = Spec.objFnPrim f a := by
  cases f <;> cases a <;> first | rfl | (exact absurd h (by decide))

/-- `Object.getOwnPropertyNames(1)` is [] (ES5: TypeError) -/
example : objFnPrim .getOwnPropertyNames .number ≠ Spec.objFnPrim .getOwnPropertyNames .number := by decide

/-- **the fields of a descriptor object are read in the order of §8.10.5** and the conflict TypeError comes last -/
theorem readOrder_refines (d : Desc) : readOrder d = Spec.readOrder d := by
  unfold readOrder Spec.readOrder
  cases d.g.isBad
  · cases d.s.isBad
    · -- the two texts differ in how they spell step 9 only
      cases (d.g.isPresent || d.s.isPresent) <;> cases d.w.isSome <;> cases d.v.isSome <;> rfl
    · rfl
  · rfl

theorem builtinCreates_refines (b : Builtin) : builtinCreates b = Spec.builtinCreates b := by
  cases b <;> rfl

/-- isPrototypeOf (§15.2.4.6: a non-object argument gives false before the receiver is looked at),
    getPrototypeOf (§15.2.3.2) and instanceof (§15.3.5.3) agree with ES5 for every receiver and argument,
    except that an undefined receiver handed over by Function.prototype.call arrives as the global object -/
theorem protoLink_refines (r : PRecv) (a : PArg) (h : devCallUndefined r a = false) :
    isPrototypeOf r a = Spec.isPrototypeOf r a ∧ getPrototypeOf a = Spec.getPrototypeOf a ∧
    instanceOf r a = Spec.instanceOf r a := by
  cases r with
  | proto p => exact ⟨rfl, rfl, rfl⟩
  | null => exact ⟨rfl, rfl, rfl⟩
  | undefined => cases a <;> first | exact ⟨rfl, rfl, rfl⟩ | (exact absurd h (by decide))

/-- `Object.prototype.isPrototypeOf.call(undefined, {})` is false (ES5: TypeError) – region `call_undefined_this` -/
example : isPrototypeOf .undefined .plain ≠ Spec.isPrototypeOf .undefined .plain := by decide

/-- a primitive argument gives false even with a null receiver, and Number.prototype is not a prototype of 5 (seed M05) -/
example : isPrototypeOf .null .number = .f ∧ isPrototypeOf (.proto .numberP) .number = .f := by decide

end OttoVerif.C07.Thm
