/-
  C07/Lemmas — property lists (`alookup`, `aupsert`, `aerase`, `akeys`), the octal mode arithmetic read as three
  trits, the abstraction from otto's property representation to ES5 attributes and how it commutes with the
  property lists, and [[DefineOwnProperty]] on one property: the branches of otto's `switch` and the attribute
  merge, one attribute at a time, against §8.12.9 steps 7–12.
-/
import OttoVerif.C07.Spec
namespace OttoVerif.C07.Thm
open OttoVerif.C07

theorem alookup_mem {α} {n : Name} {x : α} {l : List (Name × α)} (h : alookup n l = some x) : (n, x) ∈ l := by
  induction l with
  | nil => simp [alookup] at h
  | cons kp t ih =>
    obtain ⟨k, q⟩ := kp
    simp only [alookup] at h
    split at h
    · rename_i hk; cases h; subst hk; exact List.mem_cons_self
    · exact List.mem_cons_of_mem _ (ih h)

theorem mem_aupsert {α} {n : Name} {x : α} {l : List (Name × α)} {kp : Name × α} (h : kp ∈ aupsert n x l) :
    kp = (n, x) ∨ kp ∈ l := by
  induction l with
  | nil => simp [aupsert] at h; exact Or.inl h
  | cons kq t ih =>
    obtain ⟨k, q⟩ := kq
    simp only [aupsert] at h
    split at h
    · rename_i hk
      rcases List.mem_cons.1 h with h | h
      · subst hk; exact Or.inl h
      · exact Or.inr (List.mem_cons_of_mem _ h)
    · rcases List.mem_cons.1 h with h | h
      · exact Or.inr (h ▸ List.mem_cons_self)
      · rcases ih h with h | h
        · exact Or.inl h
        · exact Or.inr (List.mem_cons_of_mem _ h)

theorem mem_aerase {α} {n : Name} {l : List (Name × α)} {kp : Name × α} (h : kp ∈ aerase n l) : kp ∈ l := by
  induction l with
  | nil => simp [aerase] at h
  | cons kq t ih =>
    obtain ⟨k, q⟩ := kq
    simp only [aerase] at h
    split at h
    · exact List.mem_cons_of_mem _ h
    · rcases List.mem_cons.1 h with h | h
      · exact h ▸ List.mem_cons_self
      · exact List.mem_cons_of_mem _ (ih h)

theorem alookup_aupsert {α} (m n : Name) (x : α) (l : List (Name × α)) :
    alookup m (aupsert n x l) = if n = m then some x else alookup m l := by
  induction l with
  | nil => simp [aupsert, alookup]
  | cons kp t ih =>
    obtain ⟨k, q⟩ := kp
    simp only [aupsert]
    by_cases hk : k = n
    · subst hk
      simp only [if_true, alookup]
      by_cases hm : k = m <;> simp [hm]
    · simp only [hk, if_false, alookup, ih]
      by_cases hm : k = m
      · subst hm
        have : ¬ n = k := fun e => hk e.symm
        simp [this]
      · simp [hm]

theorem aupsert_aupsert {α} (n : Name) (x y : α) (l : List (Name × α)) : aupsert n y (aupsert n x l) = aupsert n y l := by
  induction l with
  | nil => simp [aupsert]
  | cons kp t ih =>
    obtain ⟨k, q⟩ := kp
    by_cases hk : k = n
    · subst hk; simp [aupsert]
    · simp [aupsert, hk, ih]

theorem aupsert_self {α} (n : Name) (x : α) (l : List (Name × α)) (h : alookup n l = some x) :
    aupsert n x l = l := by
  induction l with
  | nil => simp [alookup] at h
  | cons kp t ih =>
    obtain ⟨k, q⟩ := kp
    simp only [alookup] at h
    simp only [aupsert]
    split
    · rename_i hk; simp [hk] at h; simp [h]
    · rename_i hk; simp [hk] at h; simp [ih h]

theorem alookup_aerase {α} (m n : Name) (l : List (Name × α)) (hm : m ≠ n) :
    alookup m (aerase n l) = alookup m l := by
  induction l with
  | nil => rfl
  | cons kp t ih =>
    obtain ⟨k, q⟩ := kp
    simp only [aerase]
    by_cases hk : k = n
    · subst hk; simp [alookup, Ne.symm hm]
    · simp only [hk, if_false, alookup, ih]

theorem akeys_aupsert {α} (n : Name) (x : α) (l : List (Name × α)) :
    akeys (aupsert n x l) = if (alookup n l).isSome then akeys l else akeys l ++ [n] := by
  induction l with
  | nil => rfl
  | cons kp t ih =>
    obtain ⟨k, q⟩ := kp
    simp only [aupsert, alookup]
    by_cases hk : k = n
    · simp [hk, akeys]
    · simp only [hk, if_false]
      simp only [akeys, List.map_cons] at ih ⊢
      rw [ih]
      split <;> rfl

theorem akeys_aerase {α} (n : Name) (l : List (Name × α)) : akeys (aerase n l) = (akeys l).erase n := by
  induction l with
  | nil => rfl
  | cons kp t ih =>
    obtain ⟨k, q⟩ := kp
    simp only [aerase, akeys, List.map] at ih ⊢
    by_cases hk : k = n
    · subst hk; simp
    · have : (k == n) = false := by simp [hk]
      simp [hk, this, ih]

theorem isSome_alookup_contains {α} (n : Name) (l : List (Name × α)) :
    (alookup n l).isSome = (akeys l).contains n := by
  induction l with
  | nil => rfl
  | cons kp t ih =>
    obtain ⟨k, q⟩ := kp
    simp only [alookup, akeys, List.map, List.contains_cons] at ih ⊢
    by_cases hk : k = n
    · subst hk; simp
    · have : (n == k) = false := by simp [Ne.symm hk]
      simp [hk, this, ih]

theorem not_mem_akeys_of_alookup_none {α} (n : Name) (l : List (Name × α)) (h : alookup n l = none) : n ∉ akeys l := by
  have := isSome_alookup_contains n l
  rw [h] at this
  intro hm
  have : (akeys l).contains n = true := by simpa using hm
  simp_all

theorem mem_akeys_of_alookup {α} {n : Name} {x : α} {l : List (Name × α)} (h : alookup n l = some x) : n ∈ akeys l := by
  have := alookup_mem h
  simp only [akeys, List.mem_map]
  exact ⟨(n, x), this, rfl⟩

theorem alookup_of_mem_nodup {α} : ∀ (l : List (Name × α)), (akeys l).Nodup → ∀ kp, kp ∈ l → alookup kp.1 l = some kp.2 := by
  intro l
  induction l with
  | nil => intro _ kp h; cases h
  | cons kq t ih =>
    intro hnd kp hkp
    obtain ⟨k, q⟩ := kq
    simp only [akeys, List.map, List.nodup_cons] at hnd
    rcases List.mem_cons.1 hkp with h | h
    · subst h; simp [alookup]
    · have hne : k ≠ kp.1 := by
        intro e
        apply hnd.1
        simp only [List.mem_map]
        exact ⟨kp, h, e.symm⟩
      simp only [alookup, hne, if_false]
      exact ih hnd.2 kp h

end OttoVerif.C07.Thm

namespace OttoVerif.C07.Lem
open OttoVerif.C07 OttoVerif.C07.Spec

/-- how a stored trit is read by `writable()/enumerable()/configurable()`: 1 = true, 0 and 2 = false -/
def tb : Trit → Bool
  | .on => true
  | _ => false

/-- a descriptor trit as an optional attribute -/
def topt : Trit → Option Bool
  | .on => some true
  | .off => some false
  | .unset => none

/-- "the attribute is present in the descriptor" (digit 0 or 1) -/
def tset : Trit → Bool
  | .unset => false
  | _ => true

def onbit : Trit → Trit
  | .on => .on
  | _ => .off

-- The predicates of property.go are Go bit formulas on the mode; each equation below is checked by
-- evaluating both sides on all 27 modes.

def allModes (p : Mode → Bool) : Bool :=
  [Trit.off, .on, .unset].all fun w => [Trit.off, .on, .unset].all fun e => [Trit.off, .on, .unset].all fun c => p ⟨w, e, c⟩

theorem of_allModes {p : Mode → Bool} (h : allModes p = true) (m : Mode) : p m = true := by
  have all : ∀ t : Trit, t ∈ [Trit.off, .on, .unset] := by intro t; cases t <;> simp
  obtain ⟨w, e, c⟩ := m
  exact List.all_eq_true.1 (List.all_eq_true.1 (List.all_eq_true.1 h w (all w)) e (all e)) c (all c)

@[simp] theorem writable_eq (p : MProp) : p.writable = tb p.mode.w :=
  eq_of_beq (of_allModes (p := fun m => (MProp.mk .nil m).writable == tb m.w) (by decide +kernel) p.mode)
@[simp] theorem writeSet_eq (p : MProp) : p.writeSet = tset p.mode.w :=
  eq_of_beq (of_allModes (p := fun m => (MProp.mk .nil m).writeSet == tset m.w) (by decide +kernel) p.mode)
@[simp] theorem enumerable_eq (p : MProp) : p.enumerable = tb p.mode.e :=
  eq_of_beq (of_allModes (p := fun m => (MProp.mk .nil m).enumerable == tb m.e) (by decide +kernel) p.mode)
@[simp] theorem enumerateSet_eq (p : MProp) : p.enumerateSet = tset p.mode.e :=
  eq_of_beq (of_allModes (p := fun m => (MProp.mk .nil m).enumerateSet == tset m.e) (by decide +kernel) p.mode)
@[simp] theorem configurable_eq (p : MProp) : p.configurable = tb p.mode.c :=
  eq_of_beq (of_allModes (p := fun m => (MProp.mk .nil m).configurable == tb m.c) (by decide +kernel) p.mode)
@[simp] theorem writeOff_eq (p : MProp) : p.writeOff = ⟨p.value, ⟨.off, p.mode.e, p.mode.c⟩⟩ :=
  congrArg (MProp.mk p.value) (of_decide_eq_true (of_allModes
    (p := fun m => decide ((MProp.mk .nil m).writeOff.mode = ⟨.off, m.e, m.c⟩)) (by decide +kernel) p.mode))
@[simp] theorem configureOff_eq (p : MProp) : p.configureOff = ⟨p.value, ⟨p.mode.w, p.mode.e, .off⟩⟩ :=
  congrArg (MProp.mk p.value) (of_decide_eq_true (of_allModes
    (p := fun m => decide ((MProp.mk .nil m).configureOff.mode = ⟨m.w, m.e, .off⟩)) (by decide +kernel) p.mode))
@[simp] theorem mode222_eq (m : Mode) : (m.toNat == 0o222) = (!tset m.w && !tset m.e && !tset m.c) :=
  eq_of_beq (of_allModes (p := fun m => (m.toNat == 0o222) == (!tset m.w && !tset m.e && !tset m.c))
    (by decide +kernel) m)

/-- the "preserve attributes of the original property" section of objectDefineOwnProperty, on trits -/
def tritMerge (m1 m0 : Mode) (descIsData : Bool) : Mode :=
  ⟨ if tset m1.w then m1.w else (if descIsData then onbit m0.w else .unset),
    if tset m1.e then m1.e else onbit m0.e,
    if tset m1.c then m1.c else onbit m0.c ⟩

theorem mergeMode_eq (m1 m0 : Mode) (b : Bool) :
    Mode.ofNat (mergeMode m1.toNat m0.toNat b) = tritMerge m1 m0 b :=
  of_decide_eq_true (of_allModes (of_allModes
    (p := fun m1 => allModes fun m0 =>
      decide (∀ b, Mode.ofNat (mergeMode m1.toNat m0.toNat b) = tritMerge m1 m0 b))
    (by decide +kernel) m1) m0) b

/-- a stored property read as ES5 attributes: trit 1 = true, trits 0 and 2 = false (DESIGN §C07) -/
def absProp (p : MProp) : SProp :=
  match p.value with
  | .val v => .data v (tb p.mode.w) (tb p.mode.e) (tb p.mode.c)
  | .gs g s => .acc (slotFn g) (slotFn s) (tb p.mode.e) (tb p.mode.c)
  | .nil => .data 0 (tb p.mode.w) (tb p.mode.e) (tb p.mode.c)

def absProps (l : List (Name × MProp)) : List (Name × SProp) := l.map (fun kp => (kp.1, absProp kp.2))

def absObj (o : MObj) : SObj := ⟨o.proto, o.ext, absProps o.props⟩

def absHeap (h : MHeap) : SHeap := h.map absObj

/-- a descriptor slot: nil = field absent, &nilGetSetObject = present and undefined -/
def slotField : Slot → Option (Option Fn)
  | .nil => none
  | .nilObj => some none
  | .fn k => some (some k)

/-- otto's `property`-as-descriptor read as an ES5 Property Descriptor -/
def absDesc (d : MProp) : PD :=
  { value := match d.value with | .val v => some v | _ => none
    writable := topt d.mode.w
    get := match d.value with | .gs g _ => slotField g | _ => none
    set := match d.value with | .gs _ s => slotField s | _ => none
    enumerable := topt d.mode.e
    configurable := topt d.mode.c }

/-- the `exists` branch of objectDefineOwnProperty on one property:
    none = reject, some none = return true without writing, some (some p) = writeProperty p -/
def defineProp (prop d : MProp) : Option (Option MProp) :=
  if d.isEmpty then some none else
  let configurable := prop.configurable
  if !configurable && d.configurable then none
  else if !configurable && (d.enumerateSet && d.enumerable != prop.enumerable) then none
  else
    match defineSwitch prop d configurable with
    | none => none
    | some dvalue =>
      let value1 : PV := match dvalue with
        | .nil => prop.value
        | .gs g s => .gs (normSlot g) (normSlot s)
        | v => v
      let staysData := match value1 with | .val _ => true | _ => false
      let mode1 := Mode.ofNat (mergeMode d.mode.toNat prop.mode.toNat staysData)
      some (some ⟨value1, mode1⟩)

/-- the new property written when the name does not exist yet (the `!exists` branch of objectDefineOwnProperty) -/
def createProp (d : MProp) : MProp :=
  ⟨match d.value with
    | .gs g s => .gs (normSlot g) (normSlot s)
    | .nil => .val 0
    | v => v, d.mode⟩

/-- §8.12.9 step 4 -/
def sCreateProp (d : PD) : SProp :=
  if Spec.isGenericDescriptor d || Spec.isDataDescriptor d then
    .data (d.value.getD 0) (d.writable.getD false) (d.enumerable.getD false) (d.configurable.getD false)
  else
    .acc (d.get.getD none) (d.set.getD none) (d.enumerable.getD false) (d.configurable.getD false)

theorem defineOwn_eq (o : MObj) (n : Name) (d : MProp) :
    defineOwn o n d =
      match alookup n o.props with
      | none => if !o.ext then none else some { o with props := aupsert n (createProp d) o.props }
      | some prop => (defineProp prop d).map (fun r => match r with
          | none => o
          | some p => { o with props := aupsert n p o.props }) := by
  unfold defineOwn defineProp createProp
  cases alookup n o.props with
  | none => rfl
  | some prop =>
    simp only []
    split
    · rfl
    · split
      · rfl
      · split
        · rfl
        · cases defineSwitch prop d prop.configurable <;> rfl

theorem defineOwn_inv {o o' : MObj} {n : Name} {d : MProp} (h : defineOwn o n d = some o') :
    (alookup n o.props = none ∧ o.ext = true ∧ o' = { o with props := aupsert n (createProp d) o.props }) ∨
    ∃ prop, alookup n o.props = some prop ∧
      ((defineProp prop d = some none ∧ o' = o) ∨
       ∃ p, defineProp prop d = some (some p) ∧ o' = { o with props := aupsert n p o.props }) := by
  rw [defineOwn_eq] at h
  cases hl : alookup n o.props with
  | none =>
    rw [hl] at h
    cases he : o.ext with
    | false => simp [he] at h
    | true => simp only [he, Bool.not_true, Bool.false_eq_true, if_false, Option.some.injEq] at h; exact Or.inl ⟨rfl, rfl, h.symm⟩
  | some prop =>
    rw [hl] at h
    simp only at h
    refine Or.inr ⟨prop, rfl, ?_⟩
    cases hm : defineProp prop d with
    | none => rw [hm] at h; cases h
    | some r =>
      rw [hm] at h
      cases r with
      | none => exact Or.inl ⟨rfl, (Option.some.inj h).symm⟩
      | some p => exact Or.inr ⟨p, rfl, (Option.some.inj h).symm⟩

/-- well-formed stored property: a value or a normalised getter/setter pair whose write trit is unset -/
def WFProp (p : MProp) : Prop :=
  match p.value with
  | .nil => False
  | .val _ => True
  | .gs g s => g ≠ .nilObj ∧ s ≠ .nilObj ∧ p.mode.w = .unset

/-- well-formed descriptor (everything toPropertyDescriptor can return) -/
def WFDesc (d : MProp) : Prop :=
  match d.value with
  | .gs g s => d.mode.w = .unset ∧ (g ≠ .nil ∨ s ≠ .nil)
  | _ => True

theorem topt_isSome (x : Trit) : (topt x).isSome = tset x := by cases x <;> rfl
theorem topt_setTrit (o : Option Bool) : topt (setTrit o) = o := by rcases o with _ | _ | _ <;> rfl
theorem tset_setTrit (o : Option Bool) : tset (setTrit o) = o.isSome := by rcases o with _ | _ | _ <;> rfl
theorem topt_beq_true (x : Trit) : (topt x == some true) = tb x := by cases x <;> rfl
/-- the digit `tritMerge` leaves reads as ES5's "the field if present, else the current attribute" -/
theorem tb_merge (x y : Trit) : tb (if tset x = true then x else onbit y) = (topt x).getD (tb y) := by
  cases x <;> cases y <;> rfl
theorem topt_getD_false (x : Trit) : (topt x).getD false = tb x := by cases x <;> rfl
theorem tset_false {x : Trit} (h : tset x = false) : x = .unset := by cases x <;> first | rfl | cases h

theorem slotFn_normSlot (g : Slot) : slotFn (normSlot g) = (slotField g).getD none := by cases g <;> rfl
theorem normSlot_ne (g : Slot) : normSlot g ≠ .nilObj := by cases g <;> exact Slot.noConfusion

theorem isData_val (v : Val) (m : Mode) : (MProp.mk (.val v) m).isDataDescriptor = true := by
  simp only [MProp.isDataDescriptor, ite_self]
theorem isData_nil (m : Mode) : (MProp.mk .nil m).isDataDescriptor = tset m.w := by
  simp only [MProp.isDataDescriptor, writeSet_eq]; cases tset m.w <;> rfl
theorem isData_gs (g s : Slot) (m : Mode) : (MProp.mk (.gs g s) m).isDataDescriptor = tset m.w := by
  simp only [MProp.isDataDescriptor, writeSet_eq]; cases tset m.w <;> rfl

theorem generic_of_data {d : MProp} (h : d.isDataDescriptor = true) : d.isGenericDescriptor = false := by
  simp only [MProp.isGenericDescriptor, h, Bool.true_or, Bool.not_true]

theorem absDesc_isData (d : MProp) : Spec.isDataDescriptor (absDesc d) = d.isDataDescriptor := by
  obtain ⟨v, m⟩ := d
  cases v <;> simp only [Spec.isDataDescriptor, absDesc, topt_isSome, isData_nil, isData_val, isData_gs] <;> rfl

theorem absDesc_isAccessor (d : MProp) : Spec.isAccessorDescriptor (absDesc d) = d.isAccessorDescriptor := by
  obtain ⟨v, m⟩ := d
  cases v with
  | gs g s => cases g <;> cases s <;> rfl
  | _ => rfl

theorem absDesc_isGeneric (d : MProp) : Spec.isGenericDescriptor (absDesc d) = d.isGenericDescriptor := by
  simp only [Spec.isGenericDescriptor, MProp.isGenericDescriptor, absDesc_isData, absDesc_isAccessor]
  cases d.isAccessorDescriptor <;> cases d.isDataDescriptor <;> rfl

theorem defineSwitch_generic (prop d : MProp) (c : Bool) (h : d.isGenericDescriptor = true) :
    defineSwitch prop d c = some d.value := by
  simp only [defineSwitch, h, if_true]

/-- data descriptor on a data property (§8.12.9 step 10) -/
theorem defineSwitch_data_data (pv : Val) (pm : Mode) (d : MProp) (c : Bool) (hd : d.isDataDescriptor = true) :
    defineSwitch ⟨.val pv, pm⟩ d c =
      if !c && !tb pm.w && (tb d.mode.w || match d.value with | .val dv => dv != pv | _ => false) then none
      else some d.value := by
  simp only [defineSwitch, generic_of_data hd, hd, writable_eq]
  cases c <;> cases tb pm.w <;> cases tb d.mode.w <;> simp
  cases d.value <;> simp

/-- accessor descriptor on a data property (step 9.b) -/
theorem defineSwitch_data_acc (pv : Val) (pm : Mode) (d : MProp) (c : Bool) (hg : d.isGenericDescriptor = false)
    (hd : d.isDataDescriptor = false) :
    defineSwitch ⟨.val pv, pm⟩ d c = if !c then none else some d.value := by
  simp only [defineSwitch, hg, hd]
  simp

/-- data descriptor on an accessor property (step 9.c) -/
theorem defineSwitch_acc_data (g s : Slot) (pm : Mode) (d : MProp) (c : Bool) (hd : d.isDataDescriptor = true) :
    defineSwitch ⟨.gs g s, pm⟩ d c =
      if !c then none else some (match d.value with | .nil => .val 0 | v => v) := by
  simp only [defineSwitch, generic_of_data hd, hd]
  cases d.value <;> simp

/-- one slot of an accessor redefinition: the slot the switch leaves, and whether the descriptor names it -/
def slotSel (cur new : Slot) : Slot × Bool :=
  if new = .nilObj then (.nil, true) else if new = .nil then (cur, false) else (new, true)

/-- accessor descriptor on an accessor property (step 11) -/
theorem defineSwitch_acc_acc (g s dg ds : Slot) (pm dm : Mode) (c : Bool)
    (hg : (MProp.mk (.gs dg ds) dm).isGenericDescriptor = false) (hd : tset dm.w = false) :
    defineSwitch ⟨.gs g s, pm⟩ ⟨.gs dg ds, dm⟩ c =
      if !c && (((slotSel g dg).2 && g != (slotSel g dg).1) || ((slotSel s ds).2 && s != (slotSel s ds).1)) then none
      else some (.gs (slotSel g dg).1 (slotSel s ds).1) := by
  simp only [defineSwitch, hg, isData_gs, hd, slotSel]
  simp

/-- "the descriptor has the field and it is not the current attribute" (§8.12.9 steps 7.b, 10.a.ii, 11.a) -/
def fieldDiffers {α} [BEq α] (d : Option α) (cur : α) : Bool :=
  match d with
  | some x => x != cur
  | none => false

theorem topt_differs (x : Trit) (b : Bool) : fieldDiffers (topt x) b = (tset x && tb x != b) := by
  cases x <;> cases b <;> rfl

/-- `slotSel` is §8.12.9 step 11.a / 12 for one of [[Get]], [[Set]] -/
theorem slotSel_differs {g : Slot} (hg : g ≠ .nilObj) (dg : Slot) :
    ((slotSel g dg).2 && g != (slotSel g dg).1) = fieldDiffers (slotField dg) (slotFn g) := by
  cases dg with
  | nil => rfl
  | nilObj => cases g <;> first | rfl | exact absurd rfl hg
  | fn k =>
    cases g with
    | nil => rfl
    | nilObj => exact absurd rfl hg
    | fn k' =>
      by_cases h : k' = k
      · subst h; simp [slotSel, slotField, slotFn, fieldDiffers]
      · have h1 : (Slot.fn k' != Slot.fn k) = true := by simp [h]
        have h2 : (some k != some k') = true := by simp [Ne.symm h]
        simp only [slotSel, slotField, slotFn, fieldDiffers, reduceCtorEq, if_false, Bool.true_and, h1, h2]

theorem slotSel_result {g : Slot} (hg : g ≠ .nilObj) (dg : Slot) :
    slotFn (normSlot (slotSel g dg).1) = (slotField dg).getD (slotFn g) := by
  cases dg <;> cases g <;> first | rfl | exact absurd rfl hg

theorem slotSel_keeps {g : Slot} (hg : g ≠ .nilObj) (dg : Slot)
    (h : ((slotSel g dg).2 && g != (slotSel g dg).1) = false) : normSlot (slotSel g dg).1 = g := by
  cases dg with
  | nil => cases g <;> first | rfl | exact absurd rfl hg
  | nilObj => cases g <;> first | rfl | exact absurd rfl hg | cases h
  | fn k =>
    have : g = .fn k := by simpa [slotSel] using h
    subst this; rfl

end OttoVerif.C07.Lem

namespace OttoVerif.C07.Thm
open OttoVerif.C07 OttoVerif.C07.Spec OttoVerif.C07.Lem

theorem alookup_absProps (n : Name) (l : List (Name × MProp)) :
    alookup n (absProps l) = (alookup n l).map absProp := by
  induction l with
  | nil => rfl
  | cons kp t ih =>
    obtain ⟨k, p⟩ := kp
    simp only [absProps, List.map, alookup] at ih ⊢
    split <;> simp_all

theorem absProps_aupsert (n : Name) (p : MProp) (l : List (Name × MProp)) :
    absProps (aupsert n p l) = aupsert n (absProp p) (absProps l) := by
  induction l with
  | nil => rfl
  | cons kp t ih =>
    obtain ⟨k, q⟩ := kp
    simp only [absProps, List.map, aupsert] at ih ⊢
    split <;> simp_all

theorem absProps_aerase (n : Name) (l : List (Name × MProp)) :
    absProps (aerase n l) = aerase n (absProps l) := by
  induction l with
  | nil => rfl
  | cons kp t ih =>
    obtain ⟨k, q⟩ := kp
    simp only [absProps, List.map, aerase] at ih ⊢
    split <;> simp_all

theorem alookup_absObj (n : Name) (o : MObj) : alookup n (absObj o).props = (alookup n o.props).map absProp :=
  alookup_absProps n o.props

theorem akeys_absObj (o : MObj) : akeys (absObj o).props = akeys o.props := by
  simp [akeys, absObj, absProps, List.map_map, Function.comp_def]

/-- the part of `WFDesc` that well-formedness preservation needs (also met by a stored property
    used as a descriptor, as freeze / seal / put do) -/
def WFDescW (d : MProp) : Prop :=
  match d.value with
  | .gs _ _ => d.mode.w = .unset
  | _ => True

theorem WFDesc.weak {d : MProp} (h : WFDesc d) : WFDescW d := by
  obtain ⟨v, m⟩ := d
  cases v with
  | gs g s => exact h.1
  | nil => trivial
  | val v => trivial

theorem data_value {d : MProp} (hd : WFDescW d) (h : d.isDataDescriptor = true) :
    (∃ v, d.value = .val v) ∨ d.value = .nil := by
  obtain ⟨dval, dm⟩ := d
  cases dval with
  | nil => exact Or.inr rfl
  | val v => exact Or.inl ⟨v, rfl⟩
  | gs g s => rw [isData_gs, show dm.w = .unset from hd] at h; cases h

theorem accessor_value {d : MProp} (hg : d.isGenericDescriptor = false) (h : d.isDataDescriptor = false) :
    ∃ g s, d.value = .gs g s := by
  obtain ⟨dval, dm⟩ := d
  cases dval with
  | nil => simp [MProp.isGenericDescriptor, h, MProp.isAccessorDescriptor] at hg
  | val v => rw [isData_val] at h; cases h
  | gs g s => exact ⟨g, s, rfl⟩

theorem of_reject_eq_some {α} {r : Bool} {o : Option α} {y : α} (h : (if r = true then none else o) = some y) :
    r = false ∧ o = some y := by
  cases r
  · exact ⟨rfl, h⟩
  · cases h

def isVal : PV → Bool
  | .val _ => true
  | _ => false

/-- `value1` of objectDefineOwnProperty, given the `descriptor.value` the switch leaves -/
def keptValue (prop : MProp) : PV → PV
  | .nil => prop.value
  | .gs g s => .gs (normSlot g) (normSlot s)
  | v => v

def written (prop d : MProp) (dv : PV) : MProp :=
  ⟨keptValue prop dv, tritMerge d.mode prop.mode (isVal (keptValue prop dv))⟩

theorem defineProp_eq (prop d : MProp) :
    defineProp prop d =
      if d.isEmpty then some none
      else if !tb prop.mode.c && tb d.mode.c then none
      else if !tb prop.mode.c && (tset d.mode.e && tb d.mode.e != tb prop.mode.e) then none
      else (defineSwitch prop d (tb prop.mode.c)).map (fun dv => some (written prop d dv)) := by
  simp only [defineProp, configurable_eq, enumerable_eq, enumerateSet_eq, mergeMode_eq]
  cases defineSwitch prop d (tb prop.mode.c) <;> rfl

theorem defineProp_some {prop d p : MProp} (h : defineProp prop d = some (some p)) :
    (!tb prop.mode.c && tb d.mode.c) = false ∧
    (!tb prop.mode.c && (tset d.mode.e && tb d.mode.e != tb prop.mode.e)) = false ∧
    ∃ dv, defineSwitch prop d (tb prop.mode.c) = some dv ∧ written prop d dv = p := by
  rw [defineProp_eq] at h
  split at h
  · cases h
  · obtain ⟨h1, h⟩ := of_reject_eq_some h
    obtain ⟨h2, h⟩ := of_reject_eq_some h
    cases hs : defineSwitch prop d (tb prop.mode.c) with
    | none => rw [hs] at h; cases h
    | some dv => rw [hs] at h; exact ⟨h1, h2, dv, rfl, Option.some.inj (Option.some.inj h)⟩

/-- §8.12.9 steps 7–12; steps 5 and 6 are shortcuts (`sDefineCore_of_subsumed`, `sDefineOwn_eq`) -/
def sDefineCore (cur : SProp) (d : PD) : Option SProp :=
  if !cur.configurable && d.configurable == some true then none
  else if !cur.configurable && fieldDiffers d.enumerable cur.enumerable then none
  else (validate cur d).map (applyFields · d)

theorem fieldSame_none {α} [DecidableEq α] (c : Option α) : fieldSame none c = true := rfl

theorem fieldSame_iff {α} [DecidableEq α] (x c : Option α) : fieldSame x c = true ↔ x = none ∨ x = c := by
  cases x with
  | none => simp [fieldSame]
  | some a =>
    simp only [fieldSame, beq_iff_eq, reduceCtorEq, false_or]
    exact eq_comm

theorem subsumed_of_allAbsent (d : PD) (cur : SProp) (h : allAbsent d = true) : subsumed d cur = true := by
  obtain ⟨v, w, g, s, e, c⟩ := d
  simp only [allAbsent, Bool.and_eq_true, Option.isNone_iff_eq_none] at h
  obtain ⟨⟨⟨⟨⟨rfl, rfl⟩, rfl⟩, rfl⟩, rfl⟩, rfl⟩ := h
  rfl

/-- a descriptor whose every field is absent or equal to the current attribute passes steps 7–11
    and step 12 writes nothing new -/
theorem sDefineCore_of_subsumed (d : PD) (cur : SProp) (h : subsumed d cur = true) : sDefineCore cur d = some cur := by
  obtain ⟨v, w, g, s, e, c⟩ := d
  cases cur with
  | data cv cw ce cc =>
    simp only [subsumed, ofProp, Bool.and_eq_true, fieldSame_iff] at h
    obtain ⟨⟨⟨⟨⟨hv, hw⟩, hg⟩, hs⟩, he⟩, hc⟩ := h
    simp only [or_self] at hg hs
    subst hg hs
    rcases hv with rfl | rfl <;> rcases hw with rfl | rfl <;> rcases he with rfl | rfl <;> rcases hc with rfl | rfl <;>
      simp [sDefineCore, fieldDiffers, validate, applyFields, Spec.isGenericDescriptor, Spec.isDataDescriptor,
        Spec.isAccessorDescriptor, SProp.configurable, SProp.enumerable, SProp.isData]
  | acc cg cs ce cc =>
    simp only [subsumed, ofProp, Bool.and_eq_true, fieldSame_iff] at h
    obtain ⟨⟨⟨⟨⟨hv, hw⟩, hg⟩, hs⟩, he⟩, hc⟩ := h
    simp only [or_self] at hv hw
    subst hv hw
    rcases hg with rfl | rfl <;> rcases hs with rfl | rfl <;> rcases he with rfl | rfl <;> rcases hc with rfl | rfl <;>
      simp [sDefineCore, fieldDiffers, validate, applyFields, Spec.isGenericDescriptor, Spec.isDataDescriptor,
        Spec.isAccessorDescriptor, SProp.configurable, SProp.enumerable, SProp.isData]

/-- §8.12.9 on an object: steps 3–4 for a new name, steps 7–13 for an existing one (steps 5 and 6 write what is there) -/
theorem sDefineOwn_eq (o : SObj) (n : Name) (d : PD) :
    Spec.defineOwn o n d =
      match alookup n o.props with
      | none => if !o.ext then none else some { o with props := aupsert n (sCreateProp d) o.props }
      | some cur => (sDefineCore cur d).map (fun p => { o with props := aupsert n p o.props }) := by
  unfold Spec.defineOwn sCreateProp
  cases hl : alookup n o.props with
  | none => rfl
  | some cur =>
    simp only []
    cases h6 : subsumed d cur with
    | true =>
      rw [sDefineCore_of_subsumed d cur h6]
      simp only [if_true, ite_self, Option.map_some, aupsert_self n cur o.props hl]
    | false =>
      have h5 : allAbsent d = false := by
        cases h : allAbsent d with
        | false => rfl
        | true => rw [subsumed_of_allAbsent d cur h] at h6; cases h6
      simp only [h5, Bool.false_eq_true, if_false, sDefineCore]
      generalize (!cur.configurable && d.configurable == some true) = r7a
      generalize validate cur d = vr
      rcases d.enumerable with _ | e <;> simp only [fieldDiffers]
      · cases r7a <;> cases cur.configurable <;> cases vr <;> rfl
      · cases r7a <;> cases cur.configurable <;> cases e <;> cases cur.enumerable <;> cases vr <;> rfl

@[simp] theorem absProp_val (v : Val) (m : Mode) : absProp ⟨.val v, m⟩ = .data v (tb m.w) (tb m.e) (tb m.c) := rfl
@[simp] theorem absProp_gs (g s : Slot) (m : Mode) :
    absProp ⟨.gs g s, m⟩ = .acc (slotFn g) (slotFn s) (tb m.e) (tb m.c) := rfl

theorem absProp_written_val (prop d : MProp) (v : Val) :
    absProp (written prop d (.val v)) = .data v ((topt d.mode.w).getD (tb prop.mode.w))
      ((topt d.mode.e).getD (tb prop.mode.e)) ((topt d.mode.c).getD (tb prop.mode.c)) := by
  simp only [absProp, written, keptValue, isVal, tritMerge, if_true, tb_merge]

theorem absProp_written_gs (prop d : MProp) (g s : Slot) :
    absProp (written prop d (.gs g s)) = .acc (slotFn (normSlot g)) (slotFn (normSlot s))
      ((topt d.mode.e).getD (tb prop.mode.e)) ((topt d.mode.c).getD (tb prop.mode.c)) := by
  simp only [absProp, written, keptValue, tritMerge, tb_merge]

theorem absProp_written_nil_val (pv : Val) (pm : Mode) (d : MProp) :
    absProp (written ⟨.val pv, pm⟩ d .nil) = .data pv ((topt d.mode.w).getD (tb pm.w))
      ((topt d.mode.e).getD (tb pm.e)) ((topt d.mode.c).getD (tb pm.c)) := by
  simp only [absProp, written, keptValue, isVal, tritMerge, if_true, tb_merge]

theorem absProp_written_nil_gs (g s : Slot) (pm : Mode) (d : MProp) :
    absProp (written ⟨.gs g s, pm⟩ d .nil) = .acc (slotFn g) (slotFn s)
      ((topt d.mode.e).getD (tb pm.e)) ((topt d.mode.c).getD (tb pm.c)) := by
  simp only [absProp, written, keptValue, tritMerge, tb_merge]

/-- accessor descriptor on an accessor property (§8.12.9 step 11), in the model's order -/
theorem validate_acc_acc (g s : Option Fn) (e c : Bool) (d : PD) (hgen : Spec.isGenericDescriptor d = false)
    (hdat : Spec.isDataDescriptor d = false) :
    validate (.acc g s e c) d =
      if !c && (fieldDiffers d.get g || fieldDiffers d.set s) then none else some (.acc g s e c) := by
  obtain ⟨dv, dw, dg, ds, de, dc⟩ := d
  simp only [validate, hgen, hdat, SProp.isData, bne_self_eq_false, Bool.false_eq_true, if_false]
  cases c <;> cases dg <;> cases ds <;> simp [fieldDiffers]
  rename_i x y
  by_cases hx : x = g <;> by_cases hy : y = s <;> simp [hx, hy]

/-- The descriptors met are those `toPropertyDescriptor` returns and, in freeze, seal and put, a stored
    property's own value with other attributes. -/
theorem switch_refines (prop d : MProp) (hp : WFProp prop) (hd : WFDesc d ∨ (WFDescW d ∧ d.value = prop.value)) :
    (defineSwitch prop d (tb prop.mode.c)).map (fun dv => absProp (written prop d dv))
      = (validate (absProp prop) (absDesc d)).map (applyFields · (absDesc d)) := by
  have hdw : WFDescW d := hd.elim WFDesc.weak And.left
  obtain ⟨pval, pm⟩ := prop
  obtain ⟨dval, dm⟩ := d
  cases hgen : (MProp.mk dval dm).isGenericDescriptor with
  | true =>
    rw [defineSwitch_generic _ _ _ hgen]
    simp only [validate, absDesc_isGeneric, hgen, if_true, Option.map_some]
    cases dval with
    | nil =>
      cases pval with
      | nil => exact hp.elim
      | val pv => rw [absProp_written_nil_val]; rfl
      | gs pg ps => rw [absProp_written_nil_gs]; rfl
    | val dv => simp [MProp.isGenericDescriptor, isData_val] at hgen
    | gs dg ds =>
      -- only a stored accessor without getter and setter reads as generic
      simp only [MProp.isGenericDescriptor, MProp.isAccessorDescriptor, Bool.not_eq_true', Bool.or_eq_false_iff,
        bne_eq_false_iff_eq] at hgen
      obtain ⟨_, rfl, rfl⟩ := hgen
      rcases hd with hd | ⟨_, hv⟩
      · exact (hd.2.elim (fun h => h rfl) (fun h => h rfl)).elim
      · cases hv
        rw [absProp_written_gs]; rfl
  | false =>
    cases hdat : (MProp.mk dval dm).isDataDescriptor with
    | true =>
      have hval : (∃ dv, dval = .val dv) ∨ dval = .nil := data_value hdw hdat
      cases pval with
      | nil => exact hp.elim
      | val pv =>
        rw [defineSwitch_data_data _ _ _ _ hdat]
        simp only [validate, absDesc_isGeneric, hgen, absDesc_isData, hdat, Bool.false_eq_true, if_false]
        rw [absProp_val]
        simp only [SProp.isData, bne_self_eq_false, Bool.false_eq_true, if_false]
        rcases hval with ⟨dv, rfl⟩ | rfl
        · simp only [absDesc, topt_beq_true]
          cases hc : tb pm.c <;> cases hw : tb pm.w <;> cases tb dm.w <;>
            simp [absProp_written_val, applyFields, hc, hw]
        · simp only [absDesc, topt_beq_true]
          cases hc : tb pm.c <;> cases hw : tb pm.w <;> cases tb dm.w <;>
            simp [absProp_written_nil_val, applyFields, hc, hw]
      | gs pg ps =>
        rw [defineSwitch_acc_data _ _ _ _ _ hdat]
        simp only [validate, absDesc_isGeneric, hgen, absDesc_isData, hdat, Bool.false_eq_true, if_false]
        rw [absProp_gs]
        simp only [SProp.isData, SProp.configurable, Bool.bne_true, Bool.not_false, if_true]
        have hpw : tb pm.w = false := by rw [hp.2.2]; rfl
        rcases hval with ⟨dv, rfl⟩ | rfl <;> cases hc : tb pm.c <;>
          simp [absProp_written_val, applyFields, absDesc, hc, hpw]
    | false =>
      obtain ⟨dg, ds, rfl⟩ : ∃ dg ds, dval = .gs dg ds := accessor_value hgen hdat
      cases pval with
      | nil => exact hp.elim
      | val pv =>
        rw [defineSwitch_data_acc _ _ _ _ hgen hdat]
        simp only [validate, absDesc_isGeneric, hgen, absDesc_isData, hdat, Bool.false_eq_true, if_false]
        rw [absProp_val]
        simp only [SProp.isData, SProp.configurable, Bool.bne_false, if_true]
        cases hc : tb pm.c <;> simp [absProp_written_gs, applyFields, absDesc, slotFn_normSlot, hc]
      | gs pg ps =>
        rw [isData_gs] at hdat
        obtain ⟨hg, hs, _⟩ := hp
        rw [defineSwitch_acc_acc _ _ _ _ _ _ _ hgen hdat]
        rw [absProp_gs]
        rw [validate_acc_acc _ _ _ _ _ (by rw [absDesc_isGeneric, hgen]) (by rw [absDesc_isData, isData_gs, hdat])]
        simp only [slotSel_differs hg, slotSel_differs hs]
        rw [show (absDesc ⟨.gs dg ds, dm⟩).get = slotField dg from rfl, show (absDesc ⟨.gs dg ds, dm⟩).set = slotField ds from rfl]
        split
        · rfl
        · simp [absProp_written_gs, applyFields, absDesc, slotSel_result hg, slotSel_result hs]

theorem allAbsent_of_isEmpty {d : MProp} (h : d.isEmpty = true) : allAbsent (absDesc d) = true := by
  obtain ⟨dval, dm⟩ := d
  simp only [MProp.isEmpty, mode222_eq, Bool.and_eq_true, Bool.not_eq_true'] at h
  obtain ⟨⟨⟨hw, he⟩, hc⟩, hgen⟩ := h
  have hgen' := absDesc_isGeneric ⟨dval, dm⟩
  rw [hgen] at hgen'
  simp only [Spec.isGenericDescriptor, Spec.isAccessorDescriptor, Spec.isDataDescriptor, Bool.and_eq_true,
    Bool.not_eq_true', Bool.or_eq_false_iff, Option.isSome_eq_false_iff, Option.isNone_iff_eq_none] at hgen'
  simp only [allAbsent, hgen'.1.1, hgen'.1.2, hgen'.2.1, hgen'.2.2]
  simp only [absDesc, tset_false hw, tset_false he, tset_false hc]
  rfl

theorem configurable_abs (p : MProp) : (absProp p).configurable = tb p.mode.c := by
  obtain ⟨v, m⟩ := p; cases v <;> rfl
theorem enumerable_abs (p : MProp) : (absProp p).enumerable = tb p.mode.e := by
  obtain ⟨v, m⟩ := p; cases v <;> rfl

/-- **[[DefineOwnProperty]] on an existing property** (the `exists` branch of objectDefineOwnProperty vs
    §8.12.9 steps 5-13): for EVERY well-formed stored property and EVERY descriptor `toPropertyDescriptor`
    can produce, otto rejects exactly when ES5 rejects (no region excluded) and the property written has
    exactly the ES5 attributes. -/
theorem defineProp_refines (prop d : MProp) (hp : WFProp prop)
    (hd : WFDesc d ∨ (WFDescW d ∧ d.value = prop.value)) :
    (defineProp prop d).map (fun r => absProp (r.getD prop)) = sDefineCore (absProp prop) (absDesc d) := by
  rw [defineProp_eq]
  cases he : d.isEmpty with
  | true =>
    rw [sDefineCore_of_subsumed _ _ (subsumed_of_allAbsent _ _ (allAbsent_of_isEmpty he))]
    rfl
  | false =>
    have h7a : (absDesc d).configurable = topt d.mode.c := rfl
    have h7b : (absDesc d).enumerable = topt d.mode.e := rfl
    simp only [sDefineCore, configurable_abs, enumerable_abs, h7a, h7b, topt_beq_true, topt_differs,
      ← switch_refines prop d hp hd, Bool.false_eq_true, if_false]
    split
    · rfl
    · split
      · rfl
      · simp only [Option.map_map]; rfl

/-- a descriptor with a `writable` field always leaves a data property -/
theorem switch_isVal {prop d : MProp} {c : Bool} {dv : PV} (hp : WFProp prop) (hd : WFDescW d)
    (hs : defineSwitch prop d c = some dv) (hw : tset d.mode.w = true) : isVal (keptValue prop dv) = true := by
  obtain ⟨pval, pm⟩ := prop
  obtain ⟨dval, dm⟩ := d
  have hdat : (MProp.mk dval dm).isDataDescriptor = true := by
    simp only [MProp.isDataDescriptor, writeSet_eq, hw, if_true]
  cases pval with
  | nil => exact hp.elim
  | val pv =>
    rw [defineSwitch_data_data _ _ _ _ hdat] at hs
    obtain ⟨_, hv⟩ := of_reject_eq_some hs
    cases hv
    rcases data_value hd hdat with ⟨v, rfl⟩ | rfl <;> rfl
  | gs pg ps =>
    rw [defineSwitch_acc_data _ _ _ _ _ hdat] at hs
    obtain ⟨_, hv⟩ := of_reject_eq_some hs
    cases hv
    rcases data_value hd hdat with ⟨v, rfl⟩ | rfl <;> rfl

theorem written_wf {prop d : MProp} {dv : PV} (hp : WFProp prop)
    (hw : isVal (keptValue prop dv) = false → tset d.mode.w = false) : WFProp (written prop d dv) := by
  obtain ⟨pval, pm⟩ := prop
  have hmode : ∀ v, isVal v = false → tset d.mode.w = false → (tritMerge d.mode pm (isVal v)).w = .unset := by
    intro v h1 h2
    simp only [tritMerge, h1, h2, Bool.false_eq_true, if_false]
  cases dv with
  | val v => trivial
  | gs g s => exact ⟨normSlot_ne g, normSlot_ne s, hmode _ rfl (hw rfl)⟩
  | nil =>
    cases pval with
    | nil => exact hp.elim
    | val v => trivial
    | gs g s => exact ⟨hp.1, hp.2.1, hmode _ rfl (hw rfl)⟩

/-- an accepted redefinition of a well-formed property by a well-formed descriptor writes a
    well-formed property -/
theorem defineProp_wf (prop d p : MProp) (hp : WFProp prop) (hd : WFDescW d)
    (h : defineProp prop d = some (some p)) : WFProp p := by
  obtain ⟨_, _, dv, hs, rfl⟩ := defineProp_some h
  refine written_wf hp (fun hv => ?_)
  cases hw : tset d.mode.w with
  | false => rfl
  | true => rw [switch_isVal hp hd hs hw] at hv; cases hv

theorem createProp_wf (d : MProp) (hd : WFDescW d) : WFProp (createProp d) := by
  obtain ⟨dval, dm⟩ := d
  cases dval with
  | nil => trivial
  | val v => trivial
  | gs g s => exact ⟨normSlot_ne g, normSlot_ne s, hd⟩

/-- what an accepted redefinition may do to a NON-configurable property `prop` (ES5 §8.12.9 steps 7-11):
    configurable stays false, enumerable and the kind are unchanged, and if it is not writable (every
    accessor, and every non-writable data property) the value / getter-setter pair is unchanged and it
    stays non-writable.  (writable → non-writable and a new value for a writable one are allowed.) -/
def PStable (prop p' : MProp) : Prop :=
  (tb p'.mode.c, tb p'.mode.e, isVal p'.value,
    (if tb prop.mode.w then prop.value else p'.value), (if tb prop.mode.w then false else tb p'.mode.w))
  = (false, tb prop.mode.e, isVal prop.value, prop.value, false)

theorem PStable_iff (prop p' : MProp) :
    PStable prop p' ↔ tb p'.mode.c = false ∧ tb p'.mode.e = tb prop.mode.e ∧ isVal p'.value = isVal prop.value ∧
      (tb prop.mode.w = false → p'.value = prop.value ∧ tb p'.mode.w = false) := by
  simp only [PStable, Prod.mk.injEq]
  cases tb prop.mode.w <;> simp

theorem PStable.refl (prop : MProp) (hc : tb prop.mode.c = false) : PStable prop prop := by
  rw [PStable_iff]; exact ⟨hc, rfl, rfl, fun h => ⟨rfl, h⟩⟩

theorem PStable.trans {p q r : MProp} (h1 : PStable p q) (h2 : PStable q r) : PStable p r := by
  rw [PStable_iff] at *
  obtain ⟨a1, a2, a3, a4⟩ := h1
  obtain ⟨b1, b2, b3, b4⟩ := h2
  refine ⟨b1, b2.trans a2, b3.trans a3, fun hw => ?_⟩
  obtain ⟨c1, c2⟩ := a4 hw
  obtain ⟨d1, d2⟩ := b4 c2
  exact ⟨d1.trans c1, d2⟩

theorem tb_onbit (x : Trit) : tb (onbit x) = tb x := by cases x <;> rfl

/-- the switch on a non-configurable property: the kind stays, and a property that is not writable keeps
    its value or getter/setter pair and stays non-writable -/
theorem switch_stable {prop d : MProp} {dv : PV} (hp : WFProp prop)
    (hd : WFDesc d ∨ (WFDescW d ∧ d.value = prop.value)) (hs : defineSwitch prop d false = some dv) :
    isVal (keptValue prop dv) = isVal prop.value ∧
    (tb prop.mode.w = false → keptValue prop dv = prop.value ∧ tb (written prop d dv).mode.w = false) := by
  have hdw : WFDescW d := hd.elim WFDesc.weak And.left
  obtain ⟨pval, pm⟩ := prop
  obtain ⟨dval, dm⟩ := d
  cases hgen : (MProp.mk dval dm).isGenericDescriptor with
  | true =>
    rw [defineSwitch_generic _ _ _ hgen] at hs
    cases hs
    have hnw : tset dm.w = false := by
      have h := hgen
      simp only [MProp.isGenericDescriptor, MProp.isDataDescriptor, writeSet_eq] at h
      cases ht : tset dm.w with
      | false => rfl
      | true => simp [ht] at h
    -- a generic descriptor has no value; a stored accessor without getter and setter reads as generic too
    have hkeep : keptValue ⟨pval, pm⟩ dval = pval := by
      cases dval with
      | nil => rfl
      | val v => rw [generic_of_data (isData_val v dm)] at hgen; cases hgen
      | gs dg ds =>
        have h := hgen
        simp only [MProp.isGenericDescriptor, MProp.isAccessorDescriptor, Bool.not_eq_true', Bool.or_eq_false_iff,
          bne_eq_false_iff_eq] at h
        obtain ⟨_, rfl, rfl⟩ := h
        rcases hd with hd | ⟨_, hv⟩
        · exact (hd.2.elim (fun h => h rfl) (fun h => h rfl)).elim
        · exact hv
    refine ⟨by rw [hkeep], fun hw => ⟨hkeep, ?_⟩⟩
    simp only [written, tritMerge, hnw, Bool.false_eq_true, if_false]
    cases isVal (keptValue ⟨pval, pm⟩ dval)
    · rfl
    · simp only [if_true, tb_onbit]; exact hw
  | false =>
    cases hdat : (MProp.mk dval dm).isDataDescriptor with
    | true =>
      cases pval with
      | nil => exact hp.elim
      | gs pg ps => rw [defineSwitch_acc_data _ _ _ _ _ hdat] at hs; cases hs
      | val pv =>
        rw [defineSwitch_data_data _ _ _ _ hdat] at hs
        obtain ⟨hr, hv⟩ := of_reject_eq_some hs
        cases hv
        have hval : (∃ v, dval = .val v) ∨ dval = .nil := data_value hdw hdat
        refine ⟨by rcases hval with ⟨v, rfl⟩ | rfl <;> rfl, fun hw => ?_⟩
        simp only [hw, Bool.not_false, Bool.true_and, Bool.or_eq_false_iff] at hr
        obtain ⟨hdwr, hsame⟩ := hr
        constructor
        · rcases hval with ⟨v, rfl⟩ | rfl
          · simp only [bne_eq_false_iff_eq] at hsame; rw [hsame]; rfl
          · rfl
        · have hv : isVal (keptValue ⟨.val pv, pm⟩ dval) = true := by rcases hval with ⟨v, rfl⟩ | rfl <;> rfl
          simp only [written, tritMerge, hv, if_true]
          cases ht : tset dm.w with
          | false => simp only [Bool.false_eq_true, if_false, tb_onbit]; exact hw
          | true => exact hdwr
    | false =>
      obtain ⟨dg, ds, rfl⟩ : ∃ dg ds, dval = .gs dg ds := accessor_value hgen hdat
      cases pval with
      | nil => exact hp.elim
      | val pv => rw [defineSwitch_data_acc _ _ _ _ hgen hdat] at hs; cases hs
      | gs pg ps =>
        rw [isData_gs] at hdat
        rw [defineSwitch_acc_acc _ _ _ _ _ _ _ hgen hdat] at hs
        obtain ⟨hr, hv⟩ := of_reject_eq_some hs
        cases hv
        simp only [Bool.not_false, Bool.true_and, Bool.or_eq_false_iff] at hr
        have hkeep : keptValue ⟨.gs pg ps, pm⟩ (.gs (slotSel pg dg).1 (slotSel ps ds).1) = .gs pg ps := by
          simp only [keptValue, slotSel_keeps hp.1 dg hr.1, slotSel_keeps hp.2.1 ds hr.2]
        refine ⟨by rw [hkeep], fun _ => ⟨hkeep, ?_⟩⟩
        simp only [written, hkeep, tritMerge, isVal, hdat, Bool.false_eq_true, if_false]
        rfl

/-- **a non-configurable property is never re-shaped by [[DefineOwnProperty]]** – for every
    well-formed stored property and every descriptor otto can build (no region excluded) -/
theorem defineProp_stable (prop d p' : MProp) (hp : WFProp prop)
    (hd : WFDesc d ∨ (WFDescW d ∧ d.value = prop.value)) (hc : tb prop.mode.c = false)
    (h : defineProp prop d = some (some p')) : PStable prop p' := by
  obtain ⟨h7a, h7b, dv, hs, rfl⟩ := defineProp_some h
  rw [hc] at h7a h7b hs
  obtain ⟨hkind, hval⟩ := switch_stable hp hd hs
  have hc' : tb (written prop d dv).mode.c = false := by
    simp only [written, tritMerge, tb_merge, hc]
    revert h7a; cases d.mode.c <;> simp [topt, tb]
  have he' : tb (written prop d dv).mode.e = tb prop.mode.e := by
    simp only [written, tritMerge, tb_merge]
    revert h7b; cases d.mode.e <;> cases tb prop.mode.e <;> simp [topt, tb, tset]
  unfold PStable
  rw [hc', he', show (written prop d dv).value = keptValue prop dv from rfl, hkind]
  cases hw : tb prop.mode.w with
  | true => rfl
  | false => obtain ⟨h1, h2⟩ := hval hw; simp only [Bool.false_eq_true, if_false, h1, h2]

theorem topt_getD_self (x : Trit) : (topt x).getD (tb x) = tb x := by cases x <;> rfl
theorem topt_differs_self (x : Trit) : fieldDiffers (topt x) (tb x) = false := by cases x <;> rfl

/-- §8.12.9 accepts a descriptor that repeats the property's own value (or getter/setter pair) and
    [[Enumerable]], does not ask for configurable: true and, on a non-writable property, not for
    writable: true; it changes [[Writable]] and [[Configurable]] only. -/
theorem sDefineCore_own (prop : MProp) (hp : WFProp prop) (w' c' : Trit) (hw : (!tb prop.mode.w && tb w') = false)
    (hc : tb c' = false) (hg : isVal prop.value = false → w' = .unset) :
    sDefineCore (absProp prop) (absDesc ⟨prop.value, ⟨w', prop.mode.e, c'⟩⟩)
      = some (applyFields (absProp prop) { noPD with writable := topt w', configurable := topt c' }) := by
  obtain ⟨pval, w, e, c⟩ := prop
  cases pval with
  | nil => exact hp.elim
  | val v =>
    have hv : validate (SProp.data v (tb w) (tb e) (tb c))
        { value := some v, writable := topt w', get := none, set := none, enumerable := topt e,
          configurable := topt c' } = some (SProp.data v (tb w) (tb e) (tb c)) := by
      simp only at hw
      simp [validate, Spec.isGenericDescriptor, Spec.isDataDescriptor, Spec.isAccessorDescriptor, SProp.isData,
        topt_beq_true, hw]
    simp only [sDefineCore, absProp, absDesc, SProp.configurable, SProp.enumerable, topt_beq_true, hc,
      topt_differs_self, Bool.and_false, Bool.false_eq_true, if_false, hv, Option.map_some, applyFields, noPD,
      Option.getD_some, Option.getD_none, topt_getD_self]
  | gs g s =>
    obtain ⟨hg', hs', _⟩ := hp
    cases hg rfl
    have hv : validate (SProp.acc (slotFn g) (slotFn s) (tb e) (tb c))
        { value := none, writable := topt .unset, get := slotField g, set := slotField s, enumerable := topt e,
          configurable := topt c' } = some (SProp.acc (slotFn g) (slotFn s) (tb e) (tb c)) := by
      cases g <;> cases s <;> first | exact absurd rfl hg' | exact absurd rfl hs' |
        simp [validate, Spec.isGenericDescriptor, Spec.isDataDescriptor, Spec.isAccessorDescriptor, SProp.isData,
          slotField, slotFn, topt]
    simp only [sDefineCore, absProp, absDesc, SProp.configurable, SProp.enumerable, topt_beq_true, hc,
      topt_differs_self, Bool.and_false, Bool.false_eq_true, if_false, hv, Option.map_some, applyFields, noPD,
      Option.getD_none, topt_getD_self]
    cases g <;> cases s <;> first | exact absurd rfl hg' | exact absurd rfl hs' | rfl

/-- the same on otto's side: what is written reads as §8.12.9 step 12 applied to [[Writable]], [[Configurable]] -/
theorem defineProp_own (prop : MProp) (hp : WFProp prop) (w' c' : Trit) (hw : (!tb prop.mode.w && tb w') = false)
    (hc : tb c' = false) (hg : isVal prop.value = false → w' = .unset) :
    (defineProp prop ⟨prop.value, ⟨w', prop.mode.e, c'⟩⟩).map (fun r => absProp (r.getD prop))
      = some (applyFields (absProp prop) { noPD with writable := topt w', configurable := topt c' }) := by
  have hd : WFDescW ⟨prop.value, ⟨w', prop.mode.e, c'⟩⟩ := by
    cases hv : prop.value with
    | gs g s => exact hg (by rw [hv]; rfl)
    | nil => trivial
    | val v => trivial
  rw [defineProp_refines prop _ hp (Or.inr ⟨hd, rfl⟩), sDefineCore_own prop hp w' c' hw hc hg]

end OttoVerif.C07.Thm
