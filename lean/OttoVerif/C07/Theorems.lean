/-
  C07/Theorems — witnesses: the hypotheses of the history theorems are met by non-trivial histories using every kind of
  operation, each region of the driver has a history inside it, and the repaired defects stay repaired.  The theorems are in
  `Object` (one object), `Heap` (heaps, steps, histories, invariants), `Global` (global bindings) and `Tables` (finite request
  kinds); every `theorem` of these modules is audited (`#print axioms` ⊆ {propext, Classical.choice, Quot.sound}) on every run.
-/
import OttoVerif.C07.Global
import OttoVerif.C07.Tables

namespace OttoVerif.C07.Thm

open OttoVerif.C07 OttoVerif.C07.Spec OttoVerif.C07.Driver OttoVerif.C07.Lem

/-- a heap with a data and an accessor property … -/
def hNV : MHeap := [⟨none, true, [(0, ⟨.val 4, ⟨.on, .on, .on⟩⟩), (1, ⟨.gs (.fn 0) .nil, ⟨.unset, .unset, .on⟩⟩)]⟩]

/-- … is reachable by a history, -/
example : (step (step (step [] (.create none [])).1 (.put false 0 0 4)).1
    (.defn 0 1 (.obj ⟨none, some true, none, none, .fn 0, .absent⟩))).1 = hNV := by decide

/-- is well formed, -/
example : WFHeap hNV := by
  intro a o h
  cases a with
  | zero =>
    simp [hNV] at h
    subst h
    intro kp hkp
    simp only [List.mem_cons, List.not_mem_nil, or_false] at hkp
    rcases hkp with h | h
    · subst h; trivial
    · subst h; exact ⟨by decide, by decide, rfl⟩
  | succ a => simp [hNV] at h

/-- and a defineProperty step on it is (trivially) outside the regions: the hypotheses of
    `step_defineProperty_refines` are met by a non-trivial instance. -/
example : devStep hNV (.defn 0 0 (.obj ⟨some false, none, some false, some 5, .absent, .absent⟩))
    (step hNV (.defn 0 0 (.obj ⟨some false, none, some false, some 5, .absent, .absent⟩))).1 = [] := by decide

/-- `history_refines` is not vacuous: an 11-step history using every kind of operation on plain objects (prototype
    chain, inherited setter, accessor definition, defineProperties, sloppy and strict put/delete,
    seal, freeze, preventExtensions) stays outside every region … -/
def hNV2 : List Op :=
  [.create none [(0, .obj ⟨some true, some true, some true, some 4, .absent, .absent⟩)],
   .create (some 0) [],
   .defn 0 1 (.obj ⟨some false, some true, none, none, .fn 0, .fn 1⟩),
   .put false 1 1 5,
   .defs 1 [(2, .obj ⟨some true, some false, some false, some 6, .absent, .absent⟩)],
   .put true 0 0 5,
   .del false 1 2,
   .seal 1,
   .freeze 0,
   .preventExt 1,
   .defn 0 0 (.obj ⟨none, none, none, some 5, .absent, .absent⟩)]

example : devRun [] hNV2 = [] := by decide

/-- … so the theorem applies to it (and the setter really is called through the prototype chain). -/
example : run [] hNV2 = Spec.run [] hNV2 := history_refines hNV2 (allProved_of_decide _ (by decide)) (by decide)

example : ((run [] hNV2)[3]?).map (·.calls) = some [(1, 1, 5)] := by decide

def dE : Desc := ⟨none, none, none, none, .absent, .absent⟩

/-- witness of `strict_ignored`: `Object.preventExtensions(o); (function(){'use strict'; o.a=1})()` does not throw -/
def wStrict : List Op := [.create none [], .preventExt 0, .put true 0 0 4]

example : run [] wStrict ≠ Spec.run [] wStrict := by decide

example : devRun [] wStrict = ["strict_ignored"] := by decide

/-- `o={}; o.a=1; Object.defineProperty(o,'a',{enumerable:false})` keeps `a` writable (otto fix 80da2ce) -/
def wGeneric : List Op := [.create none [], .put false 0 0 4, .defn 0 0 (.obj { dE with e := some false })]

example : run [] wGeneric = Spec.run [] wGeneric := history_refines wGeneric (allProved_of_decide _ (by decide)) (by decide)

/-- `defineProperty(o,'a',{get:F0,configurable:true}); defineProperty(o,'a',{writable:true})` gives a data property
    (otto fix e3a64e4) -/
def wAccToData : List Op :=
  [.create none [], .defn 0 0 (.obj { dE with c := some true, g := .fn 0 }), .defn 0 0 (.obj { dE with w := some true })]

example : run [] wAccToData = Spec.run [] wAccToData := history_refines wAccToData (allProved_of_decide _ (by decide)) (by decide)

/-- `defineProperties(o,{a:{value:1},b:{get:5}})` leaves `o` untouched (otto fix be56aeb) -/
def wNotAtomic : List Op :=
  [.create none [], .defs 0 [(0, .obj { dE with v := some 4 }), (1, .obj { dE with g := .bad })]]

example : run [] wNotAtomic = Spec.run [] wNotAtomic := history_refines wNotAtomic (allProved_of_decide _ (by decide)) (by decide)

/-- `defineProperty(o,'a',{get:undefined})` reports get/set (otto fix f48e83f) -/
def wBothUndef : List Op := [.create none [], .defn 0 0 (.obj { dE with g := .undef })]

example : run [] wBothUndef = Spec.run [] wBothUndef := history_refines wBothUndef (allProved_of_decide _ (by decide)) (by decide)

/-- `p={a:1}; c=Object.create(p); c.a=2; for (k in c)` visits `a` once (otto fix cb72f5e) -/
def wForIn : List Op := [.create none [], .put false 0 0 4, .create (some 0) [], .put false 1 0 5]

example : run [] wForIn = Spec.run [] wForIn := history_refines wForIn (allProved_of_decide _ (by decide)) (by decide)

/-- start objects of the proved kinds: a function's prototype object, deleted constructor, sealed -/
def hNV3 : List Op := [.native .fproto, .del false 0 3, .native .regexp, .put false 1 10 5, .seal 0, .native .date, .freeze 2]

example : run [] hNV3 = Spec.run [] hNV3 := history_refines hNV3 (allProved_of_decide _ (by decide)) (by decide)

/-- the invariant theorems need no region hypothesis at all: they also cover a history inside `strict_ignored` -/
example : Inv (heapAfter [] wStrict) := (history_evolves wStrict [] inv_nil (allProved_of_decide _ (by decide))).2

example : NodupHeap (heapAfter [] hNV2) := nodup_from_empty hNV2 (allProved_of_decide _ (by decide))

/-- object literals as start objects: a repeated data key (`{b:1,a:2,b:3}`) is listed once, in first position, with the last value … -/
def hLit : List Op := [.literal [(.value, 1, 4), (.value, 0, 5), (.value, 1, 6)], .del false 0 1, .literal [(.get, 0, 0), (.set, 0, 0)], .put false 1 0 5]

example : run [] hLit = Spec.run [] hLit := history_refines hLit (allProved_of_decide _ (by decide)) (by decide)

example : (((run [] hLit)[0]?).bind (fun s => s.objs[0]?)).map (fun o => o.names) = some [1, 0] := by decide

/-- … and data-after-accessor is the C04 region `object_literal_duplicate_property` (ES5: SyntaxError) -/
def wLitDup : List Op := [.literal [(.get, 0, 0), (.value, 0, 4)]]

example : run [] wLitDup ≠ Spec.run [] wLitDup := by decide

example : devRun [] wLitDup = ["object_literal_duplicate_property"] := by decide
