/-
  C07/Object — one object against ES5 under the abstraction `absObj`: ToPropertyDescriptor, [[DefineOwnProperty]] on an
  object (`defineOwnProperty_refines`, `defineOwn_wf`, `defineOwn_evolves`: what an accepted redefinition may do), and the
  loops built on it: defineProperties / create, object literals, and freeze / seal as one loop with a flag.
-/
import OttoVerif.C07.Lemmas

namespace OttoVerif.C07.Thm

open OttoVerif.C07 OttoVerif.C07.Spec OttoVerif.C07.Lem

/-- `gsSlot` reads a getter/setter field as §8.10.5 steps 7/8 do; its flag says the field is present -/
theorem gsSlot_spec (g : GS) :
    gsField g = (gsSlot g).map (fun p => slotField p.1) ∧
    ∀ sl f, gsSlot g = some (sl, f) → f = (slotField sl).isSome ∧ f = (sl != .nil) := by
  cases g <;> simp [gsField, gsSlot, slotField]

/-- otto's `toPropertyDescriptor` (property.go) accepts exactly the descriptor objects §8.10.5 accepts and
    yields the same Property Descriptor, for EVERY descriptor object (all 2·3³·2·4² field shapes,
    any value, any functions). -/
theorem toPropertyDescriptor_refines (d : DescArg) :
    (OttoVerif.C07.toPropertyDescriptor d).map absDesc = Spec.toPropertyDescriptor d := by
  cases d with
  | nonobj => rfl
  | obj d =>
    obtain ⟨e, c, w, v, g, s⟩ := d
    simp only [OttoVerif.C07.toPropertyDescriptor, Spec.toPropertyDescriptor, (gsSlot_spec g).1, (gsSlot_spec s).1,
      writeSet_eq, tset_setTrit]
    cases hg : gsSlot g with
    | none => rfl
    | some p =>
      obtain ⟨getter, f1⟩ := p
      cases hs : gsSlot s with
      | none => rfl
      | some q =>
        obtain ⟨setter, f2⟩ := q
        obtain ⟨rfl, _⟩ := (gsSlot_spec g).2 _ _ hg
        obtain ⟨rfl, _⟩ := (gsSlot_spec s).2 _ _ hs
        simp only [Option.map_some]
        cases v <;> cases hgf : slotField getter <;> cases hsf : slotField setter <;> cases w <;>
          simp [absDesc, topt_setTrit, hgf, hsf]

theorem toPropertyDescriptor_wf (d : DescArg) (m : MProp) (h : OttoVerif.C07.toPropertyDescriptor d = some m) : WFDesc m := by
  cases d with
  | nonobj => cases h
  | obj d =>
    obtain ⟨e, c, w, v, g, s⟩ := d
    simp only [OttoVerif.C07.toPropertyDescriptor, writeSet_eq, tset_setTrit] at h
    cases hg : gsSlot g with
    | none => rw [hg] at h; cases h
    | some p =>
      obtain ⟨getter, f1⟩ := p
      cases hs : gsSlot s with
      | none => rw [hg, hs] at h; cases h
      | some q =>
        obtain ⟨setter, f2⟩ := q
        rw [hg, hs] at h
        obtain ⟨_, rfl⟩ := (gsSlot_spec g).2 _ _ hg
        obtain ⟨_, rfl⟩ := (gsSlot_spec s).2 _ _ hs
        simp only [] at h
        cases v with
        | some v =>
          obtain ⟨_, h⟩ := of_reject_eq_some h
          obtain ⟨_, hv⟩ := of_reject_eq_some h
          cases hv
          trivial
        | none =>
          cases hf : (getter != Slot.nil || setter != Slot.nil) with
          | false => simp only [hf, Bool.false_and, Bool.false_eq_true, if_false, Option.some.injEq] at h; subst h; trivial
          | true =>
            -- with a getter or setter the `writable` field must be absent
            simp only [hf, Bool.true_and, Option.isSome_none, Bool.false_eq_true, if_false, if_true] at h
            obtain ⟨hw, hv⟩ := of_reject_eq_some h
            cases hv
            cases w with
            | some b => cases hw
            | none => exact ⟨rfl, by simpa using hf⟩

def WFObj (o : MObj) : Prop := ∀ kp, kp ∈ o.props → WFProp kp.2

theorem wf_noProps (p : Option Addr) (e : Bool) : WFObj ⟨p, e, []⟩ := fun _ hkp => by cases hkp

theorem createProp_refines (d : MProp) (hd : WFDesc d) : absProp (createProp d) = sCreateProp (absDesc d) := by
  have hk : (Spec.isGenericDescriptor (absDesc d) || Spec.isDataDescriptor (absDesc d)) = !d.isAccessorDescriptor := by
    rw [absDesc_isGeneric, absDesc_isData, MProp.isGenericDescriptor]
    obtain ⟨dval, dm⟩ := d
    cases dval with
    | gs g s => rw [isData_gs, show dm.w = .unset from hd.1]; cases (MProp.mk (.gs g s) dm).isAccessorDescriptor <;> rfl
    | nil => cases (MProp.mk .nil dm).isDataDescriptor <;> rfl
    | val v => rw [isData_val]; rfl
  obtain ⟨dval, dm⟩ := d
  simp only [sCreateProp, hk]
  cases dval with
  | nil => simp only [MProp.isAccessorDescriptor, Bool.not_false, if_true, absProp, createProp, absDesc, topt_getD_false]; rfl
  | val v => simp only [MProp.isAccessorDescriptor, Bool.not_false, if_true, absProp, createProp, absDesc, topt_getD_false]; rfl
  | gs g s =>
    have hacc : (MProp.mk (.gs g s) dm).isAccessorDescriptor = true := by
      simpa [MProp.isAccessorDescriptor] using hd.2
    simp only [hacc, Bool.not_true, Bool.false_eq_true, if_false, absProp, createProp, absDesc, topt_getD_false, slotFn_normSlot]

/-- lifting to the object: any one-property result `R` (reject / keep / write) against any spec descriptor -/
theorem lift_result (o : MObj) (n : Name) (pd : PD) (prop : MProp) (R : Option (Option MProp))
    (hl : alookup n o.props = some prop)
    (hg : R.map (fun r => absProp (r.getD prop)) = sDefineCore (absProp prop) pd) :
    (R.map (fun r => match r with | none => o | some p => { o with props := aupsert n p o.props })).map absObj
      = Spec.defineOwn (absObj o) n pd := by
  obtain ⟨proto, ext, props⟩ := o
  rw [sDefineOwn_eq]
  simp only [absObj, alookup_absProps] at hl ⊢
  rw [hl]
  have hl' : alookup n (absProps props) = some (absProp prop) := by rw [alookup_absProps, hl]; rfl
  simp only [Option.map_some, ← hg]
  -- keeping the object and writing back what is there come to the same
  rcases R with _ | _ | p
  · rfl
  · simp only [Option.map_some, Option.getD_none, absObj, aupsert_self _ _ _ hl']
  · simp only [Option.map_some, Option.getD_some, absObj, absProps_aupsert]

/-- **[[DefineOwnProperty]] refines §8.12.9** for every object, name and descriptor: same
    accept/reject and the abstraction of the resulting object is the ES5 result – no region excluded. -/
theorem defineOwnProperty_refines (o : MObj) (n : Name) (d : MProp) (ho : WFObj o) (hd : WFDesc d) :
    (defineOwn o n d).map absObj = Spec.defineOwn (absObj o) n (absDesc d) := by
  cases hl : alookup n o.props with
  | some prop =>
    rw [defineOwn_eq, hl]
    exact lift_result o n _ prop _ hl (defineProp_refines prop d (ho _ (alookup_mem hl)) (Or.inl hd))
  | none =>
    obtain ⟨proto, ext, props⟩ := o
    rw [sDefineOwn_eq, defineOwn_eq]
    simp only [absObj, alookup_absProps] at hl ⊢
    rw [hl]
    cases ext <;> simp [absObj, absProps_aupsert, createProp_refines d hd]

theorem defineOwn_wf (o o' : MObj) (n : Name) (d : MProp) (ho : WFObj o) (hd : WFDescW d)
    (h : defineOwn o n d = some o') : WFObj o' := by
  intro kp hkp
  rcases defineOwn_inv h with ⟨_, _, rfl⟩ | ⟨prop, hl, ⟨_, rfl⟩ | ⟨p, hm, rfl⟩⟩
  · rcases mem_aupsert hkp with h | h
    · subst h; exact createProp_wf d hd
    · exact ho kp h
  · exact ho kp hkp
  · rcases mem_aupsert hkp with h | h
    · subst h; exact defineProp_wf prop d p (ho _ (alookup_mem hl)) hd hm
    · exact ho kp h

/-- **No growth without extensibility, insertion order kept** (objectDefineOwnProperty): whenever
    otto's [[DefineOwnProperty]] accepts, the prototype link and the extensible flag are untouched and
    the key sequence is either unchanged (the name existed) or – only if the object is extensible and
    the name was absent – the old sequence with the new name appended at the end. -/
theorem defineOwn_shape (o o' : MObj) (n : Name) (d : MProp) (h : defineOwn o n d = some o') :
    o'.proto = o.proto ∧ o'.ext = o.ext ∧
    (akeys o'.props = akeys o.props ∨
     (o.ext = true ∧ alookup n o.props = none ∧ akeys o'.props = akeys o.props ++ [n])) := by
  rcases defineOwn_inv h with ⟨hl, he, rfl⟩ | ⟨prop, hl, ⟨_, rfl⟩ | ⟨p, _, rfl⟩⟩
  · exact ⟨rfl, rfl, Or.inr ⟨he, hl, by rw [akeys_aupsert, hl]; rfl⟩⟩
  · exact ⟨rfl, rfl, Or.inl rfl⟩
  · exact ⟨rfl, rfl, Or.inl (by rw [akeys_aupsert, hl]; rfl)⟩

/-- a non-extensible object never gains a property through [[DefineOwnProperty]] -/
theorem defineOwn_nonextensible_no_growth (o o' : MObj) (n : Name) (d : MProp)
    (hne : o.ext = false) (h : defineOwn o n d = some o') : akeys o'.props = akeys o.props := by
  obtain ⟨_, _, hk⟩ := defineOwn_shape o o' n d h
  rcases hk with hk | ⟨he, _, _⟩
  · exact hk
  · rw [hne] at he; cases he

/-- how the key sequence (= propertyOrder) of one object may evolve: new names are appended at the
    end, deleted names are removed, nothing is ever reordered -/
inductive KeyEvol : List Name → List Name → Prop
  | refl (ks : List Name) : KeyEvol ks ks
  | snoc {ks ks' : List Name} (n : Name) : KeyEvol ks ks' → n ∉ ks' → KeyEvol ks (ks' ++ [n])
  | erase {ks ks' : List Name} (n : Name) : KeyEvol ks ks' → KeyEvol ks (ks'.erase n)

theorem KeyEvol.trans {a b c : List Name} (h1 : KeyEvol a b) (h2 : KeyEvol b c) : KeyEvol a c := by
  induction h2 with
  | refl => exact h1
  | snoc n _ hn ih => exact KeyEvol.snoc n ih hn
  | erase n _ ih => exact KeyEvol.erase n ih

theorem KeyEvol.nodup {a b : List Name} (h : KeyEvol a b) (ha : a.Nodup) : b.Nodup := by
  induction h with
  | refl => exact ha
  | snoc n _ hn ih =>
    rw [List.nodup_append]
    refine ⟨ih, by simp, ?_⟩
    intro x hx y hy
    simp at hy
    subst hy
    intro e
    subst e
    exact hn hx
  | erase n _ ih => exact ih.erase n

/-- what every operation may do to one object -/
structure Evolves (o o' : MObj) : Prop where
  proto : o'.proto = o.proto
  ext : o.ext = false → o'.ext = false
  keys : KeyEvol (akeys o.props) (akeys o'.props)
  noGrowth : o.ext = false → ∀ k, k ∈ akeys o'.props → k ∈ akeys o.props
  stable : ∀ n prop, alookup n o.props = some prop → tb prop.mode.c = false →
    ∃ p', alookup n o'.props = some p' ∧ PStable prop p'

theorem Evolves.refl (o : MObj) : Evolves o o :=
  ⟨rfl, id, KeyEvol.refl _, fun _ _ h => h, fun _ prop h hc => ⟨prop, h, PStable.refl prop hc⟩⟩

theorem Evolves.trans {a b c : MObj} (h1 : Evolves a b) (h2 : Evolves b c) : Evolves a c := by
  refine ⟨h2.proto.trans h1.proto, fun h => h2.ext (h1.ext h), h1.keys.trans h2.keys,
    fun h k hk => h1.noGrowth h k (h2.noGrowth (h1.ext h) k hk), ?_⟩
  intro n prop hl hc
  obtain ⟨p', hl', hs'⟩ := h1.stable n prop hl hc
  have hc' : tb p'.mode.c = false := ((PStable_iff prop p').1 hs').1
  obtain ⟨p'', hl'', hs''⟩ := h2.stable n p' hl' hc'
  exact ⟨p'', hl'', hs'.trans hs''⟩

/-- **every accepted [[DefineOwnProperty]] is an allowed evolution** (no region excluded) -/
theorem defineOwn_evolves (o o' : MObj) (n : Name) (d : MProp) (ho : WFObj o)
    (hd : WFDesc d ∨ (WFDescW d ∧ ∀ prop, alookup n o.props = some prop → d.value = prop.value))
    (h : defineOwn o n d = some o') : Evolves o o' := by
  obtain ⟨hp, he, hk⟩ := defineOwn_shape o o' n d h
  have hkeys : KeyEvol (akeys o.props) (akeys o'.props) := by
    rcases hk with hk | ⟨_, hn, hk⟩
    · rw [hk]; exact KeyEvol.refl _
    · rw [hk]; exact KeyEvol.snoc n (KeyEvol.refl _) (not_mem_akeys_of_alookup_none n _ hn)
  refine ⟨hp, fun hx => he.trans hx, hkeys, ?_, ?_⟩
  · intro hx k hk'
    rcases hk with hk | ⟨hext, _, _⟩
    · rw [hk] at hk'; exact hk'
    · rw [hx] at hext; cases hext
  · intro m prop hl hc
    rcases defineOwn_inv h with ⟨hln, _, rfl⟩ | ⟨cur, hln, ⟨_, rfl⟩ | ⟨p, hm, rfl⟩⟩
    · have hmn : n ≠ m := by intro e; subst e; rw [hln] at hl; cases hl
      exact ⟨prop, by simp [alookup_aupsert, hmn, hl], PStable.refl prop hc⟩
    · exact ⟨prop, hl, PStable.refl prop hc⟩
    · by_cases hmn : n = m
      · subst hmn
        rw [hln] at hl
        cases hl
        refine ⟨p, by simp [alookup_aupsert], ?_⟩
        refine defineProp_stable prop d p (ho _ (alookup_mem hln)) ?_ hc hm
        exact hd.imp id (fun hd => ⟨hd.1, hd.2 prop hln⟩)
      · exact ⟨prop, by simp [alookup_aupsert, hmn, hl], PStable.refl prop hc⟩

theorem evolves_preventExt (o : MObj) : Evolves o { o with ext := false } :=
  ⟨rfl, fun _ => rfl, KeyEvol.refl _, fun _ _ h => h, fun _ prop h hc => ⟨prop, h, PStable.refl prop hc⟩⟩

theorem evolves_delete (o : MObj) (n : Name) (prop : MProp) (hl : alookup n o.props = some prop)
    (hc : prop.configurable = true) : Evolves o { o with props := aerase n o.props } := by
  refine ⟨rfl, id, ?_, ?_, ?_⟩
  · rw [akeys_aerase]; exact KeyEvol.erase n (KeyEvol.refl _)
  · intro _ k hk
    rw [akeys_aerase] at hk
    exact List.mem_of_mem_erase hk
  · intro m p hm hcm
    have hmn : m ≠ n := by
      intro e; subst e
      rw [hl] at hm; cases hm
      rw [configurable_eq] at hc
      rw [hc] at hcm; cases hcm
    exact ⟨p, by simp only [alookup_aerase m n _ hmn]; exact hm, PStable.refl p hcm⟩

/-- otto's converted list read as the list of §15.2.3.7 step 5 -/
def absDescs (ds : List (Name × MProp)) : List (Name × PD) := ds.map fun nm => (nm.1, absDesc nm.2)

/-- §15.2.3.7 step 5: the same lists convert, to the same Property Descriptors -/
theorem convertList_refines (l : List (Name × DescArg)) : convertList l = (convertAll l).map absDescs := by
  induction l with
  | nil => rfl
  | cons nd t ih =>
    obtain ⟨n, d⟩ := nd
    simp only [convertList, convertAll, ← toPropertyDescriptor_refines d, ih]
    cases OttoVerif.C07.toPropertyDescriptor d with
    | none => rfl
    | some m => cases convertAll t <;> rfl

theorem convertAll_cons {n : Name} {d : DescArg} {t : List (Name × DescArg)} {ds : List (Name × MProp)}
    (h : convertAll ((n, d) :: t) = some ds) :
    ∃ m r, OttoVerif.C07.toPropertyDescriptor d = some m ∧ convertAll t = some r ∧ ds = (n, m) :: r := by
  simp only [convertAll] at h
  cases hd : OttoVerif.C07.toPropertyDescriptor d with
  | none => rw [hd] at h; cases h
  | some m =>
    cases hr : convertAll t with
    | none => rw [hd, hr] at h; cases h
    | some r => rw [hd, hr] at h; exact ⟨m, r, rfl, rfl, (Option.some.inj h).symm⟩

theorem convertAll_wf : ∀ (l : List (Name × DescArg)) (ds : List (Name × MProp)), convertAll l = some ds →
    ∀ nm, nm ∈ ds → WFDesc nm.2 := by
  intro l
  induction l with
  | nil => intro ds h nm hnm; cases h; cases hnm
  | cons nd t ih =>
    obtain ⟨n, d⟩ := nd
    intro ds h nm hnm
    obtain ⟨m, r, hd, hr, rfl⟩ := convertAll_cons h
    rcases List.mem_cons.1 hnm with e | e
    · subst e; exact toPropertyDescriptor_wf d m hd
    · exact ih r hr nm e

/-- when every descriptor converts, the define-one-at-a-time loop of Object.create is "convert all, then define" -/
theorem convertAll_all : ∀ (l : List (Name × DescArg)) (ds : List (Name × MProp)), convertAll l = some ds →
    ∀ o : MObj, defineList o l = defineConverted o ds := by
  intro l
  induction l with
  | nil => intro ds h o; cases h; rfl
  | cons nd t ih =>
    obtain ⟨n, d⟩ := nd
    intro ds h o
    obtain ⟨m, r, hd, hr, rfl⟩ := convertAll_cons h
    simp only [defineList, defineConverted, hd]
    cases defineOwn o n m with
    | none => rfl
    | some o' => exact ih r hr o'

/-- and when one does not, the loop throws (after defining what comes before it) -/
theorem convertAll_notAll : ∀ (l : List (Name × DescArg)), convertAll l = none → ∀ o : MObj, (defineList o l).2 = true := by
  intro l
  induction l with
  | nil => intro h; cases h
  | cons nd t ih =>
    obtain ⟨n, d⟩ := nd
    intro h o
    simp only [convertAll] at h
    simp only [defineList]
    cases hd : OttoVerif.C07.toPropertyDescriptor d with
    | none => rfl
    | some m =>
      rw [hd] at h
      cases hr : convertAll t with
      | some r => rw [hr] at h; cases h
      | none =>
        simp only []
        cases defineOwn o n m with
        | none => rfl
        | some o' => exact ih hr o'

/-- **defining the converted list refines §15.2.3.7 step 6** -/
theorem defineConverted_refines : ∀ (ds : List (Name × MProp)) (o : MObj), WFObj o → (∀ nm, nm ∈ ds → WFDesc nm.2) →
    defineAll (absObj o) (absDescs ds) = (absObj (defineConverted o ds).1, (defineConverted o ds).2) := by
  intro ds
  induction ds with
  | nil => intro o _ _; rfl
  | cons nm t ih =>
    obtain ⟨n, m⟩ := nm
    intro o ho hwf
    have hwd : WFDesc m := hwf (n, m) List.mem_cons_self
    simp only [absDescs, List.map_cons, defineAll, defineConverted, ← defineOwnProperty_refines o n m ho hwd]
    cases hm : defineOwn o n m with
    | none => rfl
    | some o' =>
      exact ih o' (defineOwn_wf o o' n m ho (WFDesc.weak hwd) hm) (fun x hx => hwf x (List.mem_cons_of_mem _ hx))

theorem defineConverted_evolves : ∀ (ds : List (Name × MProp)) (o : MObj), WFObj o → (∀ nm, nm ∈ ds → WFDesc nm.2) →
    Evolves o (defineConverted o ds).1 ∧ WFObj (defineConverted o ds).1 := by
  intro ds
  induction ds with
  | nil => intro o ho _; exact ⟨Evolves.refl o, ho⟩
  | cons nm t ih =>
    obtain ⟨n, m⟩ := nm
    intro o ho hwf
    simp only [defineConverted]
    have hwd : WFDesc m := hwf (n, m) List.mem_cons_self
    cases hm : defineOwn o n m with
    | none => exact ⟨Evolves.refl o, ho⟩
    | some o' =>
      have hw' := defineOwn_wf o o' n m ho (WFDesc.weak hwd) hm
      obtain ⟨e2, w2⟩ := ih o' hw' (fun x hx => hwf x (List.mem_cons_of_mem _ hx))
      exact ⟨(defineOwn_evolves o o' n m ho (Or.inl hwd) hm).trans e2, w2⟩

theorem literalDesc_wf (m : LMember) : WFDesc (literalDesc m) := by
  obtain ⟨k, n, v⟩ := m
  cases k
  · trivial
  · exact ⟨rfl, Or.inl (by decide)⟩
  · exact ⟨rfl, Or.inr (by decide)⟩

theorem literalDesc_abs (m : LMember) : absDesc (literalDesc m) = literalPD m := by
  obtain ⟨k, n, v⟩ := m
  cases k <;> rfl

/-- the member-by-member construction of an object literal refines §11.1.5 step 5 and keeps the object well formed -/
theorem literalFold_refines : ∀ (ms : List LMember) (o : MObj), WFObj o →
    absObj (literalFold o ms) = Spec.literalFold (absObj o) ms ∧ WFObj (literalFold o ms) ∧
    (literalFold o ms).proto = o.proto := by
  intro ms
  induction ms with
  | nil => intro o ho; exact ⟨rfl, ho, rfl⟩
  | cons m t ih =>
    intro o ho
    simp only [literalFold, Spec.literalFold]
    have hr := defineOwnProperty_refines o m.2.1 (literalDesc m) ho (literalDesc_wf m)
    rw [literalDesc_abs] at hr
    rw [← hr]
    cases hm : defineOwn o m.2.1 (literalDesc m) with
    | none => exact ih o ho
    | some o' =>
      simp only [Option.map_some, Option.getD]
      have hw' := defineOwn_wf o o' m.2.1 _ ho (WFDesc.weak (literalDesc_wf m)) hm
      obtain ⟨i1, i2, i3⟩ := ih o' hw'
      exact ⟨i1, i2, i3.trans (defineOwn_shape o o' m.2.1 _ hm).1⟩

theorem literalFold_evolves : ∀ (ms : List LMember) (o : MObj), WFObj o → Evolves o (literalFold o ms) := by
  intro ms
  induction ms with
  | nil => intro o _; exact Evolves.refl o
  | cons m t ih =>
    intro o ho
    simp only [literalFold]
    cases hm : defineOwn o m.2.1 (literalDesc m) with
    | none => exact ih o ho
    | some o' =>
      simp only [Option.getD]
      have hw' := defineOwn_wf o o' m.2.1 _ ho (WFDesc.weak (literalDesc_wf m)) hm
      exact (defineOwn_evolves o o' m.2.1 _ ho (Or.inl (literalDesc_wf m)) hm).trans (ih o' hw')

/-- the trit an `…Off` call leaves: cleared where it read true -/
def offIf (b : Bool) (x : Trit) : Trit := if b then .off else x

theorem tb_offIf (x : Trit) : tb (offIf (tb x) x) = false := by cases x <;> rfl

theorem topt_offIf (x : Trit) : (topt (offIf (tb x) x)).getD (tb x) = false := by cases x <;> rfl

theorem offIf_false (x : Trit) : offIf false x = x := rfl

/-- Object.freeze (`fw`) and Object.seal (`!fw`) are one operation, `fw` saying whether [[Writable]] is cleared too:
    the descriptor otto passes to defineOwnProperty for one property, and whether it calls it at all -/
def lowerDesc (fw : Bool) (prop : MProp) : MProp × Bool :=
  (⟨prop.value, ⟨offIf (fw && prop.isDataDescriptor && tb prop.mode.w) prop.mode.w, prop.mode.e,
      offIf (tb prop.mode.c) prop.mode.c⟩⟩,
   (fw && prop.isDataDescriptor && tb prop.mode.w) || tb prop.mode.c)

/-- §15.2.3.8 / §15.2.3.9 step 2.a-2.c -/
def sLowerDesc (fw : Bool) (p : SProp) : PD :=
  let d := ofProp p
  let d := if fw && Spec.isDataDescriptor d && d.writable == some true then { d with writable := some false } else d
  if d.configurable == some true then { d with configurable := some false } else d

/-- §15.2.3.8/9 on one property: [[Configurable]] and, for freeze, [[Writable]] become false, nothing else changes -/
def loweredS (fw : Bool) (cur : SProp) : SProp :=
  applyFields cur { noPD with writable := if fw then some false else none, configurable := some false }

/-- the body of otto's freeze loop, as written -/
def freezeDesc (prop : MProp) : MProp × Bool :=
  let u1 := prop.isDataDescriptor && prop.writable
  let p1 := if u1 then prop.writeOff else prop
  let u2 := p1.configurable
  let p2 := if u2 then p1.configureOff else p1
  (p2, u1 || u2)

theorem freezeDesc_eq (prop : MProp) : freezeDesc prop = lowerDesc true prop := by
  obtain ⟨v, w, e, c⟩ := prop
  simp only [freezeDesc, lowerDesc, writable_eq, Bool.true_and]
  cases hu : ((MProp.mk v ⟨w, e, c⟩).isDataDescriptor && tb w) <;> cases hc : tb c <;>
    simp [offIf, hc]

theorem sLower_lowered (fw : Bool) (cur : SProp) : sDefineCore cur (sLowerDesc fw cur) = some (loweredS fw cur) := by
  cases fw <;> rcases cur with ⟨v, _ | _, e, _ | _⟩ | ⟨g, s, e, _ | _⟩ <;>
    simp [sDefineCore, sLowerDesc, ofProp, fieldDiffers, validate, applyFields, loweredS, noPD, Spec.isGenericDescriptor,
      Spec.isDataDescriptor, Spec.isAccessorDescriptor, SProp.configurable, SProp.enumerable, SProp.isData]

theorem lower_lowered (fw : Bool) (prop : MProp) (hp : WFProp prop) :
    (defineProp prop (lowerDesc fw prop).1).map (fun r => absProp (r.getD prop)) = some (loweredS fw (absProp prop)) := by
  obtain ⟨pval, w, e, c⟩ := prop
  cases pval with
  | nil => exact hp.elim
  | val v =>
    simp only [lowerDesc, isData_val, Bool.and_true]
    refine (defineProp_own ⟨.val v, ⟨w, e, c⟩⟩ hp (offIf (fw && tb w) w) (offIf (tb c) c) ?_ (tb_offIf c) (fun h => by cases h)).trans ?_
    · cases fw <;> cases w <;> rfl
    · simp only [loweredS, absProp, applyFields, noPD, topt_offIf, Option.getD_some, Option.getD_none]
      cases fw <;> cases w <;> rfl
  | gs g s =>
    have hw : w = .unset := hp.2.2
    subst hw
    simp only [lowerDesc, isData_gs, tset, Bool.and_false, Bool.false_and, offIf_false]
    refine (defineProp_own ⟨.gs g s, ⟨.unset, e, c⟩⟩ hp .unset (offIf (tb c) c) rfl (tb_offIf c) (fun _ => rfl)).trans ?_
    simp only [loweredS, absProp, applyFields, noPD, topt_offIf, Option.getD_some, Option.getD_none]

theorem lower_wfw (fw : Bool) (prop : MProp) (hp : WFProp prop) : WFDescW (lowerDesc fw prop).1 := by
  obtain ⟨v, ⟨w, e, c⟩⟩ := prop
  cases v with
  | nil => exact hp.elim
  | val v => trivial
  | gs g s =>
    have hw : w = .unset := hp.2.2
    subst hw
    simp only [lowerDesc, isData_gs, tset, Bool.and_false, Bool.false_and, offIf_false]
    rfl

/-- what the loop does to one property (reject / keep / write) is what ES5 does -/
theorem lower_goal (fw : Bool) (prop : MProp) (hp : WFProp prop) :
    (if (lowerDesc fw prop).2 then defineProp prop (lowerDesc fw prop).1 else some none).map (fun r => absProp (r.getD prop))
      = sDefineCore (absProp prop) (sLowerDesc fw (absProp prop)) := by
  rw [sLower_lowered]
  cases hf : (lowerDesc fw prop).2 with
  | true => exact lower_lowered fw prop hp
  | false =>
    -- otto skips the call exactly when nothing is left to lower
    simp only [lowerDesc, Bool.or_eq_false_iff] at hf
    obtain ⟨pval, w, e, c⟩ := prop
    cases pval with
    | nil => exact hp.elim
    | val v =>
      simp only [isData_val, Bool.and_true] at hf
      cases fw <;> simp_all [loweredS, absProp, applyFields, noPD]
    | gs g s => cases fw <;> simp [loweredS, absProp, applyFields, noPD, hf.2]

def offStep (fw : Bool) (o : MObj) (n : Name) (prop : MProp) : Option MObj :=
  if (lowerDesc fw prop).2 then defineOwn o n (lowerDesc fw prop).1 else some o

/-- otto's freeze and seal loops: for every name of the snapshot that is still present, one `offStep` -/
def offLoop (fw : Bool) (o : MObj) : List Name → MObj × Bool
  | [] => (o, false)
  | n :: ns =>
    match alookup n o.props with
    | none => offLoop fw o ns
    | some prop =>
      match offStep fw o n prop with
      | none => (o, true)
      | some o' => offLoop fw o' ns

/-- §15.2.3.8/9 step 2: [[DefineOwnProperty]] with `sLowerDesc` every time -/
def sOffLoop (fw : Bool) (o : SObj) : List Name → SObj × Bool
  | [] => (o, false)
  | n :: ns =>
    match alookup n o.props with
    | none => sOffLoop fw o ns
    | some p =>
      match Spec.defineOwn o n (sLowerDesc fw p) with
      | none => (o, true)
      | some o' => sOffLoop fw o' ns

theorem freezeLoop_eq (ns : List Name) : ∀ o, freezeLoop o ns = offLoop true o ns := by
  induction ns with
  | nil => intro o; rfl
  | cons n ns ih =>
    intro o
    -- `freezeDesc` is the computation in the loop body
    have e : freezeLoop o (n :: ns) = match alookup n o.props with
        | none => freezeLoop o ns
        | some prop =>
          if (freezeDesc prop).2 = true then
            match defineOwn o n (freezeDesc prop).1 with
            | none => (o, true)
            | some o' => freezeLoop o' ns
          else freezeLoop o ns := rfl
    rw [e]
    simp only [offLoop, offStep, ih, freezeDesc_eq]
    cases alookup n o.props with
    | none => rfl
    | some prop =>
      simp only []
      by_cases hc : (lowerDesc true prop).2 = true
      · simp only [hc, if_true]
      · simp only [hc]
        rfl

theorem sealLoop_eq (ns : List Name) : ∀ o, sealLoop o ns = offLoop false o ns := by
  induction ns with
  | nil => intro o; rfl
  | cons n ns ih =>
    intro o
    simp only [sealLoop, offLoop, offStep, lowerDesc, ih, configureOff_eq, configurable_eq, Bool.false_and, Bool.false_or,
      offIf_false]
    cases alookup n o.props with
    | none => rfl
    | some prop =>
      simp only []
      by_cases hc : tb prop.mode.c = true
      · simp only [hc, if_true, offIf]
        cases defineOwn o n ⟨prop.value, ⟨prop.mode.w, prop.mode.e, .off⟩⟩ <;> rfl
      · simp only [hc]
        rfl

theorem sFreezeLoop_eq (ns : List Name) : ∀ o, Spec.freezeLoop o ns = sOffLoop true o ns := by
  induction ns with
  | nil => intro o; rfl
  | cons n ns ih =>
    intro o
    simp only [Spec.freezeLoop, sOffLoop, ih]
    cases alookup n o.props <;> rfl

theorem sSealLoop_eq (ns : List Name) : ∀ o, Spec.sealLoop o ns = sOffLoop false o ns := by
  induction ns with
  | nil => intro o; rfl
  | cons n ns ih =>
    intro o
    simp only [Spec.sealLoop, sOffLoop, ih]
    cases alookup n o.props with
    | none => rfl
    | some p => rcases p with ⟨v, w, e, _ | _⟩ | ⟨g, s, e, _ | _⟩ <;> rfl

/-- what a step of these loops, and so a loop, does to the object besides refining ES5: an allowed evolution, still
    well formed, no key added or removed -/
structure Keeps (o o' : MObj) : Prop where
  evolves : Evolves o o'
  wf : WFObj o'
  keys : akeys o'.props = akeys o.props

theorem Keeps.refl {o : MObj} (ho : WFObj o) : Keeps o o := ⟨Evolves.refl o, ho, rfl⟩

theorem Keeps.trans {a b c : MObj} (h1 : Keeps a b) (h2 : Keeps b c) : Keeps a c :=
  ⟨h1.evolves.trans h2.evolves, h2.wf, h2.keys.trans h1.keys⟩

theorem offStep_refines (fw : Bool) (o : MObj) (n : Name) (prop : MProp) (ho : WFObj o) (hl : alookup n o.props = some prop) :
    (offStep fw o n prop).map absObj = Spec.defineOwn (absObj o) n (sLowerDesc fw (absProp prop)) := by
  have hR := lift_result o n (sLowerDesc fw (absProp prop)) prop _ hl (lower_goal fw prop (ho _ (alookup_mem hl)))
  simp only [offStep]
  by_cases hf : (lowerDesc fw prop).2 = true
  · simp only [hf, if_true] at hR ⊢
    rw [defineOwn_eq, hl]
    exact hR
  · simp only [hf] at hR ⊢
    exact hR

theorem offStep_keeps (fw : Bool) (o o' : MObj) (n : Name) (prop : MProp) (ho : WFObj o) (hl : alookup n o.props = some prop)
    (h : offStep fw o n prop = some o') : Keeps o o' := by
  simp only [offStep] at h
  split at h
  · have hd := lower_wfw fw prop (ho _ (alookup_mem hl))
    refine ⟨defineOwn_evolves o o' n _ ho (Or.inr ⟨hd, ?_⟩) h, defineOwn_wf o o' n _ ho hd h, ?_⟩
    · intro q hq; rw [hl] at hq; cases hq; rfl
    · rcases (defineOwn_shape o o' n _ h).2.2 with hk | ⟨_, hn, _⟩
      · exact hk
      · rw [hl] at hn; cases hn
  · cases h; exact .refl ho

/-- **the loop refines §15.2.3.8/9 step 2** and keeps the object -/
theorem offLoop_refines (fw : Bool) : ∀ (ns : List Name) (o : MObj), WFObj o →
    (absObj (offLoop fw o ns).1, (offLoop fw o ns).2) = sOffLoop fw (absObj o) ns ∧ Keeps o (offLoop fw o ns).1 := by
  intro ns
  induction ns with
  | nil => intro o ho; exact ⟨rfl, .refl ho⟩
  | cons n ns ih =>
    intro o ho
    simp only [offLoop, sOffLoop, alookup_absObj]
    cases hl : alookup n o.props with
    | none => exact ih o ho
    | some prop =>
      simp only [Option.map_some]
      rw [← offStep_refines fw o n prop ho hl]
      cases hs : offStep fw o n prop with
      | none => exact ⟨rfl, .refl ho⟩
      | some o' =>
        have hk := offStep_keeps fw o o' n prop ho hl hs
        obtain ⟨h1, h2⟩ := ih o' hk.wf
        exact ⟨h1, hk.trans h2⟩

/-- what the loop leaves on every property it visits: sealed, and for freeze frozen -/
def loweredP (fw : Bool) (p : MProp) : Prop := tb p.mode.c = false ∧ (fw = true → tb p.mode.w = false)

theorem loweredP_of_abs {fw : Bool} {p : MProp} (hp : WFProp p) {cur : SProp} (h : absProp p = loweredS fw cur) :
    loweredP fw p := by
  have hc := congrArg SProp.configurable h
  rw [configurable_abs] at hc
  refine ⟨by rw [hc]; cases cur <;> rfl, fun hfw => ?_⟩
  subst hfw
  obtain ⟨pval, w, e, c⟩ := p
  cases pval with
  | nil => exact hp.elim
  | val v => cases cur <;> simp [absProp, loweredS, applyFields, noPD] at h <;> exact h.2.1
  | gs g s => rw [show w = .unset from hp.2.2]; rfl

theorem loweredP.stable {fw : Bool} {p p' : MProp} (hf : loweredP fw p) (hs : PStable p p') : loweredP fw p' := by
  rw [PStable_iff] at hs
  exact ⟨hs.1, fun hfw => (hs.2.2.2 (hf.2 hfw)).2⟩

theorem offStep_est (fw : Bool) (o o' : MObj) (n : Name) (prop : MProp) (ho : WFObj o)
    (hl : alookup n o.props = some prop) (h : offStep fw o n prop = some o') :
    ∃ p, alookup n o'.props = some p ∧ loweredP fw p := by
  have hp := ho _ (alookup_mem hl)
  have hg := lower_goal fw prop hp
  rw [sLower_lowered] at hg
  simp only [offStep] at h
  by_cases hf : (lowerDesc fw prop).2 = true
  · simp only [hf, if_true] at h hg
    rcases defineOwn_inv h with ⟨hn, _, _⟩ | ⟨q, hq, ⟨hm, rfl⟩ | ⟨p, hm, rfl⟩⟩
    · rw [hl] at hn; cases hn
    · rw [hl] at hq; cases hq; rw [hm] at hg; exact ⟨prop, hl, loweredP_of_abs hp (Option.some.inj hg)⟩
    · rw [hl] at hq; cases hq; rw [hm] at hg
      exact ⟨p, by simp [alookup_aupsert], loweredP_of_abs (defineProp_wf prop _ p hp (lower_wfw fw prop hp) hm) (Option.some.inj hg)⟩
  · simp only [hf] at h hg
    cases h
    exact ⟨prop, hl, loweredP_of_abs hp (Option.some.inj hg)⟩

/-- after a loop that did not throw, every visited name holds a lowered property -/
theorem offLoop_est (fw : Bool) : ∀ (ns : List Name) (o : MObj), WFObj o → (offLoop fw o ns).2 = false →
    ∀ n, n ∈ ns → ∀ p, alookup n (offLoop fw o ns).1.props = some p → loweredP fw p := by
  intro ns
  induction ns with
  | nil => intro o _ _ n hn; cases hn
  | cons n0 t ih =>
    intro o ho hb n hn p hp
    simp only [offLoop] at hb hp
    cases hl : alookup n0 o.props with
    | none =>
      rw [hl] at hb hp
      simp only at hb hp
      rcases List.mem_cons.1 hn with e | hn'
      · subst e
        have hk := (offLoop_refines fw t o ho).2.keys
        have := mem_akeys_of_alookup hp
        rw [hk] at this
        exact absurd this (not_mem_akeys_of_alookup_none n o.props hl)
      · exact ih o ho hb n hn' p hp
    | some prop =>
      rw [hl] at hb hp
      simp only at hb hp
      cases hs : offStep fw o n0 prop with
      | none => rw [hs] at hb; cases hb
      | some o1 =>
        rw [hs] at hb hp
        simp only at hb hp
        have hw1 := (offStep_keeps fw o o1 n0 prop ho hl hs).wf
        by_cases e : n = n0
        · subst e
          obtain ⟨p1, hl1, hf1⟩ := offStep_est fw o o1 n prop ho hl hs
          obtain ⟨p', hl', hs'⟩ := (offLoop_refines fw t o1 hw1).2.evolves.stable n p1 hl1 hf1.1
          rw [hl'] at hp
          cases hp
          exact hf1.stable hs'
        · rcases List.mem_cons.1 hn with e' | hn'
          · exact absurd e' e
          · exact ih o1 hw1 hb n hn' p hp

/-- run over all keys of an object without repeated keys, the loop leaves every property lowered -/
theorem offLoop_all (fw : Bool) (o : MObj) (hw : WFObj o) (hnd : (akeys o.props).Nodup)
    (hb : (offLoop fw o (akeys o.props)).2 = false) :
    ∀ kp, kp ∈ (offLoop fw o (akeys o.props)).1.props → loweredP fw kp.2 := by
  intro kp hkp
  have hk := (offLoop_refines fw (akeys o.props) o hw).2.keys
  have hl := alookup_of_mem_nodup _ (by rw [hk]; exact hnd) kp hkp
  exact offLoop_est fw (akeys o.props) o hw hb kp.1 (by rw [← hk]; exact mem_akeys_of_alookup hl) kp.2 hl

end OttoVerif.C07.Thm
