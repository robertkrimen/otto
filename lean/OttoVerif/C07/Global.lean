/-
  C07/Global — bindings on the global object (§10.5, §8.7.2, §11.4.1): the global object is an ordinary object, the delegating
  operations and SetMutableBinding are steps on the one-object heap `[g]`, CreateMutableBinding is [[DefineOwnProperty]].
-/
import OttoVerif.C07.Heap

namespace OttoVerif.C07.Thm

open OttoVerif.C07 OttoVerif.C07.Spec OttoVerif.C07.Driver OttoVerif.C07.Lem

/-- a step on the one-object heap `[g]` (g the global object) that refines ES5: the object at 0 afterwards, the
    outcome and the calls agree, and the object is still a well-formed object without prototype -/
theorem single_refines (g : MObj) (op : Op) (hw : WFObj g) (hp : g.proto = none)
    (hs : Sim [g] (step [g] op) (Spec.step [absObj g] op)) :
    absObj ((step [g] op).1.headD g) = (Spec.step [absObj g] op).1.headD (absObj g) ∧
    (step [g] op).2 = (Spec.step [absObj g] op).2 ∧
    WFObj ((step [g] op).1.headD g) ∧ ((step [g] op).1.headD g).proto = none := by
  obtain ⟨o', ho', hev⟩ := hs.shape.evolves 0 g rfl
  have hv := hs.shape.inv (inv_single g hw hp)
  rw [← hs.heap]
  refine ⟨?_, hs.out, ?_⟩
  · cases (step [g] op).1 <;> rfl
  · -- the heap after the step still has its object 0
    cases hh : (step [g] op).1 with
    | nil => rw [hh] at ho'; cases ho'
    | cons x t =>
      rw [hh] at ho' hv
      simp only [List.getElem?_cons_zero, Option.some.injEq] at ho'
      subst ho'
      exact ⟨hv.1 0 x rfl, hev.proto.trans hp⟩

/-- SetMutableBinding on the global object -/
theorem gSet_refines (g : MObj) (v : Val) (hw : WFObj g) (hp : g.proto = none) :
    (absObj (gSet g v).1, (gSet g v).2) = Spec.gSet (absObj g) v ∧ WFObj (gSet g v).1 ∧ (gSet g v).1.proto = none := by
  obtain ⟨h1, h2, h3, h4⟩ := single_refines g (.put false 0 0 v) hw hp (put_sim [g] false 0 0 v (inv_single g hw hp) rfl)
  exact ⟨by simp only [gSet, Spec.gSet]; exact Prod.ext h1 (congrArg (·.2) h2), h3, h4⟩

/-- the shape in which `gStep` uses SetMutableBinding -/
theorem gSet_step (g : MObj) (v : Val) (hw : WFObj g) (hp : g.proto = none) :
    (absObj (gSet g v).1, Outcome.ok, (gSet g v).2) = ((Spec.gSet (absObj g) v).1, Outcome.ok, (Spec.gSet (absObj g) v).2) ∧
    WFObj (gSet g v).1 ∧ (gSet g v).1.proto = none := by
  obtain ⟨s1, s2, s3⟩ := gSet_refines g v hw hp
  exact ⟨by rw [← s1], s2, s3⟩

theorem gHas_abs (g : MObj) : Spec.gHas (absObj g) = gHas g := by
  simp [Spec.gHas, gHas, absObj, alookup_absProps]

theorem modeC (c : Bool) : (if c then Trit.on else Trit.off) = (if c then Trit.on else Trit.off) := rfl

/-- CreateMutableBinding(N, D) is otto's createBinding (a defineProperty), whatever is there already -/
theorem gCreate?_refines (g : MObj) (c : Bool) (hw : WFObj g) :
    Spec.gCreate? (absObj g) c = (defineOwn g 0 ⟨.val 0, ⟨.on, .on, if c then .on else .off⟩⟩).map absObj := by
  rw [defineOwnProperty_refines g 0 ⟨.val 0, ⟨.on, .on, if c then .on else .off⟩⟩ hw trivial]
  cases c <;> rfl

/-- createBinding for a name that is absent: the concrete result -/
theorem gCreate_absent (g : MObj) (c : Bool) (v : Val) (hl : alookup 0 g.props = none) :
    gCreate g c v = (if g.ext then { g with props := aupsert 0 ⟨.val v, ⟨.on, .on, if c then .on else .off⟩⟩ g.props } else g) := by
  simp only [gCreate, defineOwn_eq, hl, createProp]
  cases g.ext <;> rfl

/-- creating a binding for an absent name: both sides fail and nothing changes, or both succeed and the binding is there
    (ES5 creates it with the value undefined) -/
theorem gCreate_cases (g : MObj) (c : Bool) (v : Val) (hw : WFObj g) (hp : g.proto = none) (hl : alookup 0 g.props = none) :
    (gCreate g c v = g ∧ Spec.gCreate? (absObj g) c = none) ∨
    (g.ext = true ∧ gHas (gCreate g c v) = true ∧ Spec.gCreate? (absObj g) c = some (absObj (gCreate g c 0)) ∧
      WFObj (gCreate g c v) ∧ (gCreate g c v).proto = none) := by
  rw [gCreate?_refines g c hw, gCreate_absent g c v hl, gCreate_absent g c 0 hl, defineOwn_eq, hl]
  cases g.ext with
  | false => exact Or.inl ⟨rfl, rfl⟩
  | true =>
    refine Or.inr ⟨rfl, by simp [gHas, alookup_aupsert], rfl, fun kp hkp => ?_, hp⟩
    rcases mem_aupsert hkp with e | e
    · subst e; trivial
    · exact hw kp e

/-- stash.go setValue creates an unbound name with createBinding(name, true, value): that is what otto's [[Put]] does -/
theorem gSet_absent (g : MObj) (v : Val) (hl : alookup 0 g.props = none) (hp : g.proto = none) :
    gSet g v = (gCreate g true v, []) := by
  obtain ⟨proto, ext, props⟩ := g
  subst hp
  simp only [gSet, put, canPutDetails, gCreate, List.getElem?_cons_zero, hl, if_true]
  cases ext with
  | false => simp [defineOwn, hl]
  | true => cases defineOwn ⟨none, true, props⟩ 0 ⟨.val v, ⟨.on, .on, .on⟩⟩ <;> rfl

/-- creating the binding with the function value at once (otto) = CreateMutableBinding(undefined) followed
    by SetMutableBinding (ES5 §10.5 steps 5.d, 5.f) -/
theorem gCreateFn_refines (g : MObj) (c : Bool) (hl : alookup 0 g.props = none) (hp : g.proto = none) (hx : g.ext = true) :
    (absObj (gCreate g c fnVal), Outcome.ok, ([] : List Call)) =
      ((Spec.gSet (absObj (gCreate g c 0)) fnVal).1, Outcome.ok, (Spec.gSet (absObj (gCreate g c 0)) fnVal).2) := by
  rw [gCreate_absent g c fnVal hl, gCreate_absent g c 0 hl]
  obtain ⟨proto, ext, props⟩ := g
  simp only at hp hl hx
  subst hp hx
  have hl' : alookup 0 (absProps props) = none := by rw [alookup_absProps, hl]; rfl
  simp [Spec.gSet, Spec.put, Spec.canPut, alookup_aupsert, sDefineOwn_eq, sDefineCore, fieldDiffers,
    noPD, SProp.configurable, validate, Spec.isGenericDescriptor, Spec.isDataDescriptor, Spec.isAccessorDescriptor, SProp.isData,
    applyFields, aupsert_aupsert, absObj, absProps_aupsert, absProp, tb, fnVal]

/-- **every global-binding operation refines ES5 §10.5 / §8.7.2 / §11.4.1** and keeps the global
    object well formed -/
theorem gStep_refines (g : MObj) (op : GOp) (hw : WFObj g) (hp : g.proto = none) :
    (absObj (gStep g op).1, (gStep g op).2) = Spec.gStep (absObj g) op ∧
    WFObj (gStep g op).1 ∧ (gStep g op).1.proto = none := by
  have hi := inv_single g hw hp
  cases op with
  | assign v =>
    -- the assignment is one [[Put]] on both sides
    have e : gStep g (.assign v) = ((gSet g v).1, .ok, (gSet g v).2) := by
      unfold gStep
      cases hl : alookup 0 g.props with
      | none => simp [gHas, hl, gSet_absent g v hl hp]
      | some p => simp [gHas, hl]
    rw [e]
    exact gSet_step g v hw hp
  | varDecl eval =>
    unfold gStep Spec.gStep
    simp only [gHas_abs]
    cases hl : alookup 0 g.props with
    | some p => simp only [gHas, hl, Option.isSome_some, Bool.not_true, Bool.false_eq_true, if_false]; exact ⟨trivial, hw, hp⟩
    | none =>
      have hh : gHas g = false := by simp [gHas, hl]
      rcases gCreate_cases g eval 0 hw hp hl with ⟨h1, h2⟩ | ⟨_, h1, h2, h3, h4⟩
      · simp only [h1, h2, hh, Bool.not_false, if_true, Bool.false_eq_true, if_false]; exact ⟨trivial, hw, hp⟩
      · simp only [h1, h2, hh, Bool.not_false, if_true]; exact ⟨trivial, h3, h4⟩
  | varInit v =>
    unfold gStep Spec.gStep
    simp only [gHas_abs]
    cases hl : alookup 0 g.props with
    | some p =>
      simp only [gHas, hl, Option.isSome_some, Bool.not_true, Bool.false_eq_true, if_false]
      exact gSet_step g v hw hp
    | none =>
      have hh : gHas g = false := by simp [gHas, hl]
      rcases gCreate_cases g false 0 hw hp hl with ⟨h1, h2⟩ | ⟨_, h1, h2, h3, h4⟩
      · simp only [h1, h2, hh, Bool.not_false, if_true]; exact ⟨trivial, hw, hp⟩
      · simp only [h1, h2, hh, Bool.not_false, if_true, Bool.not_true, Bool.false_eq_true, if_false]
        exact gSet_step _ v h3 h4
  | funDecl eval =>
    unfold gStep Spec.gStep
    simp only [alookup_absObj]
    cases hl : alookup 0 g.props with
    | none =>
      have hh : gHas g = false := by simp [gHas, hl]
      rcases gCreate_cases g eval fnVal hw hp hl with ⟨h1, h2⟩ | ⟨hx, h1, h2, h3, h4⟩
      · simp only [Option.map_none, h1, h2, hh, Bool.false_eq_true, if_false]; exact ⟨trivial, hw, hp⟩
      · -- otto creates the binding with the function value at once, ES5 creates it undefined and then sets it
        simp only [Option.map_none, h1, h2, if_true]
        exact ⟨gCreateFn_refines g eval hl hp hx, h3, h4⟩
    | some existing =>
      simp only [Option.map_some, configurable_abs, configurable_eq]
      have hwe := hw _ (alookup_mem hl)
      cases hc : tb existing.mode.c with
      | true =>
        simp only [if_true]
        have hd : WFDesc (⟨.val 0, ⟨.on, .on, if eval then .on else .off⟩⟩ : MProp) := trivial
        have hr := defineOwnProperty_refines g 0 _ hw hd
        have e : absDesc (⟨.val 0, ⟨.on, .on, if eval then .on else .off⟩⟩ : MProp) =
            { noPD with value := some 0, writable := some true, enumerable := some true, configurable := some eval } := by
          cases eval <;> rfl
        rw [e] at hr
        rw [← hr]
        cases hm : defineOwn g 0 ⟨.val 0, ⟨.on, .on, if eval then .on else .off⟩⟩ with
        | none => exact ⟨rfl, hw, hp⟩
        | some g1 =>
          exact gSet_step g1 fnVal (defineOwn_wf g g1 0 _ hw (WFDesc.weak hd) hm) ((defineOwn_shape g g1 0 _ hm).1.trans hp)
      | false =>
        simp only [Bool.false_eq_true, if_false]
        obtain ⟨ev, ⟨w, e, c⟩⟩ := existing
        cases ev with
        | nil => exact hwe.elim
        | val pv =>
          -- §10.5 step 5.e.iv: only a writable, enumerable data property takes the function
          simp only [absProp_val, MProp.isAccessorDescriptor, writable_eq, enumerable_eq, Bool.false_or]
          cases tb w with
          | false => exact ⟨rfl, hw, hp⟩
          | true =>
            cases tb e with
            | false => exact ⟨rfl, hw, hp⟩
            | true => exact gSet_step g fnVal hw hp
        | gs gg ss =>
          have hwu : w = .unset := hwe.2.2
          subst hwu
          simp only [absProp_gs, writable_eq, tb, Bool.not_false, Bool.or_true, Bool.true_or, if_true]
          exact ⟨trivial, hw, hp⟩
  | del =>
    obtain ⟨h1, h2, h3, h4⟩ := single_refines g (.del false 0 0) hw hp (delete_sim [g] false 0 0 rfl)
    exact ⟨Prod.ext h1 (Prod.ext (congrArg (·.1) h2) rfl), h3, h4⟩
  | preventExt =>
    obtain ⟨h1, h2, h3, h4⟩ := single_refines g (.preventExt 0) hw hp (preventExt_sim [g] 0)
    exact ⟨Prod.ext h1 (Prod.ext (congrArg (·.1) h2) rfl), h3, h4⟩
  | «seal» =>
    obtain ⟨h1, h2, h3, h4⟩ := single_refines g (.seal 0) hw hp (seal_sim [g] 0 hi.1)
    exact ⟨Prod.ext h1 (Prod.ext (congrArg (·.1) h2) rfl), h3, h4⟩
  | defn d =>
    obtain ⟨h1, h2, h3, h4⟩ := single_refines g (.defn 0 0 d) hw hp (defn_sim [g] 0 0 d hi.1)
    exact ⟨Prod.ext h1 (Prod.ext (congrArg (·.1) h2) rfl), h3, h4⟩

/-- **global-binding histories refine ES5**: any sequence of programs doing identifier assignment,
    `var` / function declarations (global or eval code), `delete` and defineProperty on one global name gives
    the ES5 outcome (incl. TypeError), setter calls and the ES5 descriptor / value after every program -/
theorem gRun_refines : ∀ (ops : List GOp) (g : MObj), WFObj g → g.proto = none →
    gRun g ops = Spec.gRun (absObj g) ops := by
  intro ops
  induction ops with
  | nil => intro g _ _; rfl
  | cons op ops ih =>
    intro g hw hp
    obtain ⟨h1, h2, h3⟩ := gStep_refines g op hw hp
    have hobs : gObserve (gStep g op).1 = Spec.gObserve (absObj (gStep g op).1) := by
      simp only [gObserve, Spec.gObserve]
      exact (observeName_refines [(gStep g op).1] 0 (gStep g op).1 h2 0).symm
    simp only [gRun, Spec.gRun]
    have e1 : (Spec.gStep (absObj g) op).1 = absObj (gStep g op).1 := by rw [← h1]
    have e2 : (Spec.gStep (absObj g) op).2 = (gStep g op).2 := by rw [← h1]
    rw [e1, e2, ← hobs, ih _ h2 h3]

theorem gRun_refines_empty (ops : List GOp) : gRun ⟨none, true, []⟩ ops = Spec.gRun ⟨none, true, []⟩ ops :=
  gRun_refines ops ⟨none, true, []⟩ (fun kp h => by cases h) rfl

/-- not vacuous: `x = 1; function x(){}; delete x` (the declaration over a configurable binding makes it
    non-deletable, §10.5 step 5.e.iii) and `eval('var x'); delete x` (eval code declares deletable bindings) -/
example : gRun ⟨none, true, []⟩ [.assign 4, .funDecl false, .del] = Spec.gRun ⟨none, true, []⟩ [.assign 4, .funDecl false, .del] :=
  gRun_refines_empty _

example : ((gRun ⟨none, true, []⟩ [.assign 4, .funDecl false, .del])[2]?).map (·.1) = some (.bool false) := by decide

example : ((gRun ⟨none, true, []⟩ [.varDecl true, .del])[1]?).map (·.1) = some (.bool true) := by decide

/-- `Object.preventExtensions(this)`, then `var zq`: TypeError on both sides -/
example : ((gRun ⟨none, true, []⟩ [.preventExt, .varDecl false])[1]?).map (·.1) = some .typeError := by decide

end OttoVerif.C07.Thm
