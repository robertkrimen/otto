/-
  C07/Heap — heaps and histories under the abstraction `absHeap`: what one operation does to the heap (`HeapStep`), every
  operation analysed once on both sides (`Sim`: the heap step and the agreement with the ES5 step together), the walks along
  the prototype chain, the observations, `step_refines` / `history_refines`, the invariants of all histories, and assignment
  through a primitive base.  `Driver` supplies the region predicates.
-/
import OttoVerif.C07.Object
import OttoVerif.C07.Driver

namespace OttoVerif.C07.Thm

open OttoVerif.C07 OttoVerif.C07.Spec OttoVerif.C07.Driver OttoVerif.C07.Lem

def WFHeap (h : MHeap) : Prop := ∀ (a : Nat) (o : MObj), h[a]? = some o → WFObj o

/-- prototypes always point to strictly older objects (so chains are finite and acyclic) -/
def ProtoOK (h : MHeap) : Prop := ∀ (a : Nat) (o : MObj) (p : Nat), h[a]? = some o → o.proto = some p → p < a

/-- the invariants carried along a history -/
def Inv (h : MHeap) : Prop := WFHeap h ∧ ProtoOK h

/-- one step: the abstraction of otto's new heap is the ES5 heap, and outcome + setter calls agree -/
def StepRefines (h : MHeap) (op : Op) : Prop :=
  absHeap (step h op).1 = (Spec.step (absHeap h) op).1 ∧ (step h op).2 = (Spec.step (absHeap h) op).2

theorem lt_of_get {α} {l : List α} {a : Nat} {x : α} (h : l[a]? = some x) : a < l.length := by
  rcases Nat.lt_or_ge a l.length with hlt | hge
  · exact hlt
  · rw [List.getElem?_eq_none hge] at h; cases h

theorem get_set_cases {α} {l : List α} {a b : Nat} {x y : α} (h : (l.set a x)[b]? = some y) :
    (b = a ∧ y = x) ∨ l[b]? = some y := by
  rw [List.getElem?_set] at h
  split at h
  · rename_i hab
    split at h
    · exact Or.inl ⟨hab.symm, (Option.some.inj h).symm⟩
    · cases h
  · exact Or.inr h

theorem get_push_cases {α} {l : List α} {b : Nat} {x y : α} (h : (l ++ [x])[b]? = some y) :
    l[b]? = some y ∨ (b = l.length ∧ y = x) := by
  by_cases hb : b < l.length
  · rw [List.getElem?_append_left hb] at h; exact Or.inl h
  · have hge := Nat.le_of_not_lt hb
    rw [List.getElem?_append_right hge] at h
    cases hd : b - l.length with
    | zero => rw [hd] at h; exact Or.inr ⟨by omega, by simpa using h.symm⟩
    | succ k => rw [hd] at h; simp at h

theorem list_set_self (h : MHeap) (a : Nat) (o : MObj) (ho : h[a]? = some o) : h.set a o = h := by
  apply List.ext_getElem?
  intro i
  by_cases hi : a = i
  · subst hi
    have ha := lt_of_get ho
    rw [List.getElem?_set]
    simp only [if_true, ha]
    exact ho.symm
  · simp [hi]

theorem absHeap_get (h : MHeap) (a : Nat) : (absHeap h)[a]? = (h[a]?).map absObj := by simp [absHeap]

theorem absHeap_set (h : MHeap) (a : Nat) (o : MObj) : absHeap (h.set a o) = (absHeap h).set a (absObj o) := by
  simp [absHeap, List.map_set]

theorem fuel_absHeap (h : MHeap) : fuel (absHeap h) = fuel h := by simp [fuel, absHeap]

theorem inv_nil : Inv ([] : MHeap) := ⟨fun a o h => by simp at h, fun a o p h => by simp at h⟩

theorem inv_single (g : MObj) (hw : WFObj g) (hp : g.proto = none) : Inv [g] := by
  constructor
  · intro a o h
    cases a with
    | zero => simp at h; subst h; exact hw
    | succ a => simp at h
  · intro a o p h hq
    cases a with
    | zero => simp at h; subst h; rw [hp] at hq; cases hq
    | succ a => simp at h

/-- heaps: every existing object evolves in an allowed way (new objects may be appended) -/
def HEvolves (h h' : MHeap) : Prop := ∀ (a : Nat) (o : MObj), h[a]? = some o → ∃ o', h'[a]? = some o' ∧ Evolves o o'

theorem HEvolves.refl (h : MHeap) : HEvolves h h := fun _ o ho => ⟨o, ho, Evolves.refl o⟩

theorem HEvolves.trans {a b c : MHeap} (h1 : HEvolves a b) (h2 : HEvolves b c) : HEvolves a c := by
  intro x o ho
  obtain ⟨o', ho', e1⟩ := h1 x o ho
  obtain ⟨o'', ho'', e2⟩ := h2 x o' ho'
  exact ⟨o'', ho'', e1.trans e2⟩

def NodupHeap (h : MHeap) : Prop := ∀ (a : Nat) (o : MObj), h[a]? = some o → (akeys o.props).Nodup

/-- what one operation does to the heap: nothing; one object replaced by an allowed evolution of it; or a new
    object appended, its prototype an older object -/
inductive HeapStep (h : MHeap) : MHeap → Prop
  | same : HeapStep h h
  | set {a : Nat} {o o' : MObj} (ho : h[a]? = some o) (he : Evolves o o') (hw : WFObj o → WFObj o') : HeapStep h (h.set a o')
  | push {o' : MObj} (hw : WFObj o') (hp : ∀ p : Nat, o'.proto = some p → p < h.length)
      (hn : (akeys o'.props).Nodup) : HeapStep h (h ++ [o'])

/-- an object grown from one without properties has no key twice -/
theorem HeapStep.pushNew {h : MHeap} {p : Option Addr} {e : Bool} {o' : MObj} (he : Evolves ⟨p, e, []⟩ o')
    (hw : WFObj o') (hp : ∀ q : Nat, p = some q → q < h.length) : HeapStep h (h ++ [o']) :=
  .push hw (fun q hq => hp q (he.proto.symm.trans hq)) (he.keys.nodup List.nodup_nil)

theorem HeapStep.inv {h h' : MHeap} (hs : HeapStep h h') (hi : Inv h) : Inv h' := by
  obtain ⟨hwf, hpr⟩ := hi
  cases hs with
  | same => exact ⟨hwf, hpr⟩
  | @set a o o' ho he hw =>
    constructor
    · intro b q hq
      rcases get_set_cases hq with ⟨_, rfl⟩ | hq
      · exact hw (hwf a o ho)
      · exact hwf b q hq
    · intro b q p hq hqp
      rcases get_set_cases hq with ⟨rfl, rfl⟩ | hq
      · rw [he.proto] at hqp; exact hpr _ o p ho hqp
      · exact hpr b q p hq hqp
  | @push o' hw hp _ =>
    constructor
    · intro b q hq
      rcases get_push_cases hq with hq | ⟨_, rfl⟩
      · exact hwf b q hq
      · exact hw
    · intro b q p hq hqp
      rcases get_push_cases hq with hq | ⟨rfl, rfl⟩
      · exact hpr b q p hq hqp
      · exact hp p hqp

theorem HeapStep.evolves {h h' : MHeap} (hs : HeapStep h h') : HEvolves h h' := by
  intro b q hq
  cases hs with
  | same => exact ⟨q, hq, Evolves.refl q⟩
  | @set a o o' ho he hw =>
    by_cases hab : a = b
    · subst hab
      rw [ho] at hq
      cases hq
      exact ⟨o', by simp [lt_of_get ho], he⟩
    · exact ⟨q, by simp [hab, hq], Evolves.refl q⟩
  | push => exact ⟨q, by rw [List.getElem?_append_left (lt_of_get hq)]; exact hq, Evolves.refl q⟩

theorem HeapStep.nodup {h h' : MHeap} (hs : HeapStep h h') (hn : NodupHeap h) : NodupHeap h' := by
  intro b q hq
  cases hs with
  | same => exact hn b q hq
  | @set a o o' ho he hw =>
    rcases get_set_cases hq with ⟨rfl, rfl⟩ | hq
    · exact he.keys.nodup (hn _ o ho)
    · exact hn b q hq
  | @push o' _ _ hnd =>
    rcases get_push_cases hq with hq | ⟨_, rfl⟩
    · exact hn b q hq
    · exact hnd

/-- one operation seen on both sides: `r` is otto's result on `h`, `s` the ES5 result on `absHeap h`.  Every operation is
    analysed once, against this; `StepRefines`, the `HeapStep` and the invariants afterwards are read off. -/
structure Sim (h : MHeap) (r : StepRes) (s : Spec.StepRes) : Prop where
  shape : HeapStep h r.1
  heap : absHeap r.1 = s.1
  out : r.2 = s.2

theorem Sim.same (h : MHeap) (x : Outcome × List Call) : Sim h (h, x) (absHeap h, x) := ⟨.same, rfl, rfl⟩

theorem Sim.set {h : MHeap} {a : Nat} {o o' : MObj} (ho : h[a]? = some o) (he : Evolves o o') (hw : WFObj o → WFObj o')
    (x : Outcome × List Call) : Sim h (h.set a o', x) ((absHeap h).set a (absObj o'), x) :=
  ⟨.set ho he hw, absHeap_set h a o', rfl⟩

theorem Sim.push {h : MHeap} {o' : MObj} (hs : HeapStep h (h ++ [o'])) (x : Outcome × List Call) :
    Sim h (h ++ [o'], x) (absHeap h ++ [absObj o'], x) :=
  ⟨hs, List.map_append, rfl⟩

theorem Sim.ite {h : MHeap} {c : Prop} [Decidable c] {r r' : StepRes} {s s' : Spec.StepRes}
    (h1 : c → Sim h r s) (h2 : ¬ c → Sim h r' s') : Sim h (if c then r else r') (if c then s else s') := by
  by_cases hc : c
  · simp only [hc, if_true]; exact h1 hc
  · simp only [hc, if_false]; exact h2 hc

theorem Sim.refines {h : MHeap} {op : Op} (s : Sim h (step h op) (Spec.step (absHeap h) op)) (hi : Inv h) :
    StepRefines h op ∧ Inv (step h op).1 :=
  ⟨⟨s.heap, s.out⟩, s.shape.inv hi⟩

/-- the runtime-created start objects whose initial table is proved well formed and equal to the ES5 table
    (function prototype object, RegExp instance, Date instance); function objects and error instances carry the
    implementation's extra accessors `caller` / `stack`, stored with write digit 0, which the well-formedness
    invariant of these proofs (`gs ⇒ write digit unset`) does not cover – they are checked by correspondence only -/
def provedKind : Kind → Bool
  | .fproto | .regexp | .date => true
  | _ => false

def provedOp : Op → Bool
  | .native k => provedKind k
  | _ => true

/-- every start object of the history is of a proved kind (no restriction on the other operations) -/
def AllProved (ops : List Op) : Prop := ∀ op, op ∈ ops → provedOp op = true

theorem allProved_of_decide (ops : List Op) (h : ops.all provedOp = true) : AllProved ops := by
  intro op hop
  exact List.all_eq_true.1 h op hop

theorem nativeObj_wf (k : Kind) (a : Addr) (hp : provedKind k = true) : WFObj (nativeObj k a) := by
  intro kp hkp
  cases k with
  | fproto =>
    simp only [nativeObj, List.mem_cons, List.not_mem_nil, or_false] at hkp
    subst hkp; trivial
  | regexp =>
    simp only [nativeObj, List.mem_cons, List.not_mem_nil, or_false] at hkp
    rcases hkp with e | e | e | e | e <;> (subst e; trivial)
  | date => cases hkp
  | func => cases hp
  | terr => cases hp
  | err => cases hp

theorem nativeObj_proto (k : Kind) (a : Addr) : (nativeObj k a).proto = none := by cases k <;> rfl

theorem nativeObj_nodup (k : Kind) (a : Addr) : (akeys (nativeObj k a).props).Nodup := by
  cases k <;> simp [nativeObj, akeys]

/-- **[[GetProperty]] refines §8.12.2** along any prototype chain, for any fuel -/
theorem getProperty_refines (h : MHeap) (f : Nat) (x : Option Addr) (n : Name) :
    Spec.getProperty (absHeap h) f x n = (getProperty h f x n).map absProp := by
  induction f generalizing x with
  | zero => rfl
  | succ f ih =>
    cases x with
    | none => rfl
    | some a =>
      simp only [Spec.getProperty, getProperty, absHeap_get]
      cases h[a]? with
      | none => rfl
      | some o =>
        simp only [Option.map_some, absObj, alookup_absProps]
        cases alookup n o.props with
        | none => exact ih o.proto
        | some p => rfl

/-- more fuel than the address never changes the walk -/
theorem getProperty_fuel (h : MHeap) (hp : ProtoOK h) (n : Name) :
    ∀ (f f' a : Nat), a < f → a < f' → getProperty h f (some a) n = getProperty h f' (some a) n := by
  intro f
  induction f with
  | zero => intro f' a h1; omega
  | succ f ih =>
    intro f' a h1 h2
    cases f' with
    | zero => omega
    | succ f' =>
      simp only [getProperty]
      cases ho : h[a]? with
      | none => rfl
      | some o =>
        simp only []
        cases alookup n o.props with
        | some p => rfl
        | none =>
          simp only []
          cases hpr : o.proto with
          | none => cases f <;> cases f' <;> rfl
          | some p =>
            have hlt : (p : Nat) < a := hp a o p ho hpr
            exact ih f' p (Nat.lt_of_lt_of_le hlt (Nat.le_of_lt_succ h1)) (Nat.lt_of_lt_of_le hlt (Nat.le_of_lt_succ h2))

/-- the walk from an object = own property, else the walk from its prototype (with the same fuel) -/
theorem getProperty_unfold (h : MHeap) (hp : ProtoOK h) (a : Nat) (o : MObj) (n : Name) (ho : h[a]? = some o) :
    getProperty h (fuel h) (some a) n =
      match alookup n o.props with
      | some p => some p
      | none => match o.proto with
        | none => none
        | some pa => getProperty h (fuel h) (some pa) n := by
  have ha := lt_of_get ho
  simp only [fuel, getProperty, ho]
  cases alookup n o.props with
  | some p => rfl
  | none =>
    simp only []
    cases hpr : o.proto with
    | none => cases h.length <;> rfl
    | some pa =>
      have hlt : (pa : Nat) < a := hp a o pa ho hpr
      have h3 : pa < h.length := Nat.lt_trans hlt ha
      exact getProperty_fuel h hp n h.length (h.length + 1) pa h3 (Nat.lt_succ_of_lt h3)

/-- **[[Get]] refines §8.12.3** (getter called with the original receiver) -/
theorem get_refines (h : MHeap) (a : Addr) (n : Name) : Spec.get (absHeap h) a n = get h a n := by
  simp only [Spec.get, get, getProperty_refines, fuel_absHeap]
  cases getProperty h (fuel h) (some a) n with
  | none => rfl
  | some p =>
    obtain ⟨v, m⟩ := p
    cases v with
    | nil => rfl
    | val v => rfl
    | gs g s => cases g <;> rfl

/-- **[[HasProperty]] refines §8.12.6** -/
theorem hasProperty_refines (h : MHeap) (a : Addr) (n : Name) :
    (Spec.getProperty (absHeap h) (fuel (absHeap h)) (some a) n).isSome = (getProperty h (fuel h) (some a) n).isSome := by
  rw [getProperty_refines, fuel_absHeap, Option.isSome_map]

/-- **[[CanPut]] refines §8.12.4** (own / inherited, data / accessor, extensible flag) -/
theorem canPut_refines (h : MHeap) (o : MObj) (n : Name) :
    Spec.canPut (absHeap h) (absObj o) n = (canPutDetails h o n).1 := by
  obtain ⟨proto, ext, props⟩ := o
  simp only [Spec.canPut, canPutDetails, absObj, alookup_absProps]
  cases alookup n props with
  | some prop =>
    obtain ⟨v, ⟨w, e, c⟩⟩ := prop
    cases v with
    | nil => simp [absProp]
    | val v => simp [absProp]
    | gs g s => cases s <;> simp [absProp, slotFn]
  | none =>
    simp only [Option.map_none]
    cases proto with
    | none => rfl
    | some pa =>
      simp only [getProperty_refines, fuel_absHeap]
      cases getProperty h (fuel h) (some pa) n with
      | none => rfl
      | some prop =>
        obtain ⟨v, ⟨w, e, c⟩⟩ := prop
        cases v with
        | nil => cases ext <;> simp [absProp]
        | val v => cases ext <;> simp [absProp]
        | gs g s => cases s <;> simp [absProp, slotFn]

/-- delete against §8.12.7 / §11.4.1 -/
theorem delete_sim (h : MHeap) (strict : Bool) (a : Addr) (n : Name) (hdev : devStrict h (.del strict a n) = false) :
    Sim h (step h (.del strict a n)) (Spec.step (absHeap h) (.del strict a n)) := by
  unfold step Spec.step
  simp only [delete, Spec.delete, absHeap_get]
  cases ho : h[a]? with
  | none => exact .same h _
  | some o =>
    simp only [Option.map_some, alookup_absObj]
    cases hl : alookup n o.props with
    | none => exact .same h _
    | some prop =>
      simp only [Option.map_some, configurable_abs, configurable_eq]
      cases hc : tb prop.mode.c with
      | true =>
        have := Sim.set ho (evolves_delete o n prop hl (by rw [configurable_eq, hc]))
          (fun hw kp hkp => hw kp (mem_aerase hkp)) (.bool true, [])
        simpa only [absObj, absProps_aerase, if_true] using this
      | false =>
        cases strict with
        | false => exact .same h _
        | true => simp [devStrict, ho, hl, hc] at hdev

/-- **delete refines §8.12.7 / §11.4.1**: same result, same heap; outside `strict_ignored` also the
    same TypeError behaviour -/
theorem delete_refines (h : MHeap) (strict : Bool) (a : Addr) (n : Name)
    (hdev : devStrict h (.del strict a n) = false) : StepRefines h (.del strict a n) :=
  ⟨(delete_sim h strict a n hdev).heap, (delete_sim h strict a n hdev).out⟩

theorem preventExt_sim (h : MHeap) (a : Addr) :
    Sim h (step h (.preventExt a)) (Spec.step (absHeap h) (.preventExt a)) := by
  unfold step Spec.step
  simp only [absHeap_get]
  cases ho : h[a]? with
  | none => exact .same h _
  | some o => exact .set ho (evolves_preventExt o) id _

/-- assignment to an own writable data property: otto redefines with the full current property
    carrying the new value, ES5 with `{[[Value]]: V}` – same result -/
theorem putOwn_prop (pv v : Val) (pe pc : Trit) :
    (defineProp ⟨.val pv, ⟨.on, pe, pc⟩⟩ ⟨.val v, ⟨.on, pe, pc⟩⟩).map (fun r => absProp (r.getD ⟨.val pv, ⟨.on, pe, pc⟩⟩))
    = sDefineCore (absProp ⟨.val pv, ⟨.on, pe, pc⟩⟩) { noPD with value := some v } := by
  -- the attributes the full descriptor repeats are the current ones, so §8.12.9 treats both alike
  rw [defineProp_refines ⟨.val pv, ⟨.on, pe, pc⟩⟩ ⟨.val v, ⟨.on, pe, pc⟩⟩ trivial (Or.inl trivial)]
  cases pe <;> cases pc <;> rfl

theorem writable_abs_val (v : Val) (m : Mode) : (MProp.mk (.val v) m).writable = tb m.w :=
  writable_eq _

/-- the two "create a new own property" endings of [[Put]] agree (object level) -/
theorem putNew_refines (o : MObj) (n : Name) (v : Val) (ho : WFObj o) :
    (defineOwn o n ⟨.val v, ⟨.on, .on, .on⟩⟩).map absObj =
      Spec.defineOwn (absObj o) n { noPD with value := some v, writable := some true, enumerable := some true, configurable := some true } := by
  have := defineOwnProperty_refines o n ⟨.val v, ⟨.on, .on, .on⟩⟩ ho trivial
  simpa [absDesc, topt, noPD] using this

/-- an accepted [[DefineOwnProperty]] on the object at `a` is a heap step, whatever the outcome reported with it -/
theorem Sim.define {h : MHeap} {a : Nat} {o o' : MObj} {n : Name} {d : MProp} (ho : h[a]? = some o) (hw : WFObj o)
    (hd : WFDesc d) (hm : defineOwn o n d = some o') (x : Outcome × List Call) :
    Sim h (h.set a o', x) ((absHeap h).set a (absObj o'), x) :=
  .set ho (defineOwn_evolves _ _ _ _ hw (Or.inl hd) hm) (fun _ => defineOwn_wf _ _ _ _ hw (WFDesc.weak hd) hm) x

/-- the two "define" endings of [[Put]]: otto's defineOwnProperty against ES5's, given that they agree; otto reports a
    rejection silently, so in strict code it must not happen outside `strict_ignored` -/
theorem put_define (h : MHeap) (strict : Bool) (a : Addr) (n : Name) (o : MObj) (ho : h[a]? = some o) (hw : WFObj o)
    (d : MProp) (pd : PD) (hd : WFDesc d) (hr : (defineOwn o n d).map absObj = Spec.defineOwn (absObj o) n pd)
    (hs : strict = true → (defineOwn o n d).isNone = false) :
    Sim h (match defineOwn o n d with
        | none => (h, rejectOutcome false, ([] : List Call))
        | some o' => (h.set a o', .ok, []))
      (match Spec.defineOwn (absObj o) n pd with
        | none => (absHeap h, rejectOutcome strict, ([] : List Call))
        | some o' => ((absHeap h).set a o', .ok, [])) := by
  rw [← hr]
  cases hm : defineOwn o n d with
  | none =>
    cases strict with
    | false => exact .same h _
    | true => rw [hm] at hs; cases hs rfl
  | some o' => exact .define ho hw hd hm _

/-- [[Put]] against §8.12.5 (own data / own accessor / inherited data / inherited accessor / absent, extensible or not) -/
theorem put_sim (h : MHeap) (strict : Bool) (a : Addr) (n : Name) (v : Val) (hi : Inv h)
    (hdev : devStrict h (.put strict a n v) = false) :
    Sim h (step h (.put strict a n v)) (Spec.step (absHeap h) (.put strict a n v)) := by
  obtain ⟨hwf, hpo⟩ := hi
  unfold step Spec.step
  simp only [put, Spec.put, absHeap_get]
  cases ho : h[a]? with
  | none => exact .same h _
  | some o =>
    simp only [Option.map_some, canPut_refines]
    cases hcan : (canPutDetails h o n).1 with
    | false =>
      -- [[CanPut]] false: otto returns silently, so outside `strict_ignored` the reference is sloppy
      rcases hcp : canPutDetails h o n with ⟨b, p, s⟩
      rw [hcp] at hcan
      cases hcan
      cases strict with
      | false => exact .same h _
      | true => simp [devStrict, ho, hcp] at hdev
    | true =>
      have hdev' : strict = true → devStrict h (.put true a n v) = false := fun hs => hs ▸ hdev
      simp only [getProperty_refines, fuel_absHeap, Bool.not_true, Bool.false_eq_true, if_false]
      rw [alookup_absObj]
      cases hl : alookup n o.props with
      | some prop =>
        rw [getProperty_unfold h hpo a o n ho, hl]
        obtain ⟨pval, ⟨w, e, c⟩⟩ := prop
        cases pval with
        | nil => exact (hwf a o ho _ (alookup_mem hl)).elim
        | val pv =>
          have hcp : canPutDetails h o n = (tb w, some ⟨.val pv, ⟨w, e, c⟩⟩, none) := by simp [canPutDetails, hl]
          rw [hcp] at hcan ⊢
          cases w <;> first | cases hcan | skip
          exact put_define h strict a n o ho (hwf a o ho) _ _ trivial
            (by rw [defineOwn_eq, hl]; exact lift_result o n _ _ _ hl (putOwn_prop pv v e c))
            (fun hs => by have := hdev' hs; simpa [devStrict, ho, hcp, tb] using this)
        | gs g s =>
          have hcp : canPutDetails h o n = ((slotFn s).isSome, some ⟨.gs g s, ⟨w, e, c⟩⟩, slotFn s) := by
            simp [canPutDetails, hl]
          rw [hcp] at hcan ⊢
          cases hs : slotFn s with
          | none => rw [hs] at hcan; cases hcan
          | some k => simp only [Option.map_some, absProp_gs, hs]; exact .same h _
      | none =>
        rw [getProperty_unfold h hpo a o n ho, hl]
        -- [[CanPut]] held and no setter was found: both sides create the property
        have hnew := fun (hcp : canPutDetails h o n = (true, none, none)) =>
          put_define h strict a n o ho (hwf a o ho) ⟨.val v, ⟨.on, .on, .on⟩⟩ _ trivial (putNew_refines o n v (hwf a o ho))
            (fun hs => by have := hdev' hs; simpa [devStrict, ho, hcp] using this)
        cases hpr : o.proto with
        | none =>
          have hcp : canPutDetails h o n = (true, none, none) := Prod.ext hcan (by simp [canPutDetails, hl, hpr])
          rw [hcp]
          exact hnew hcp
        | some pa =>
          simp only []
          cases hin : getProperty h (fuel h) (some pa) n with
          | none =>
            have hcp : canPutDetails h o n = (true, none, none) := Prod.ext hcan (by simp [canPutDetails, hl, hpr, hin])
            rw [hcp]
            exact hnew hcp
          | some ip =>
            obtain ⟨ival, ⟨w, e, c⟩⟩ := ip
            cases ival with
            | gs g s =>
              have hcp : canPutDetails h o n = ((slotFn s).isSome, some ⟨.gs g s, ⟨w, e, c⟩⟩, slotFn s) := by
                simp [canPutDetails, hl, hpr, hin]
              rw [hcp] at hcan ⊢
              cases hs : slotFn s with
              | none => rw [hs] at hcan; cases hcan
              | some k => simp only [Option.map_some, absProp_gs, hs]; exact .same h _
            | _ =>
              have hcp : canPutDetails h o n = (true, none, none) :=
                Prod.ext hcan (by simp [canPutDetails, hl, hpr, hin]; cases o.ext <;> rfl)
              rw [hcp]
              exact hnew hcp

/-- **[[Put]] refines §8.12.5** (own data / own accessor / inherited data / inherited accessor /
    absent, extensible or not): same heap, same setter call, same outcome outside `strict_ignored` -/
theorem put_refines (h : MHeap) (strict : Bool) (a : Addr) (n : Name) (v : Val) (hi : Inv h)
    (hdev : devStrict h (.put strict a n v) = false) : StepRefines h (.put strict a n v) :=
  ((put_sim h strict a n v hi hdev).refines hi).1

/-- freeze and seal: the loop's object, made non-extensible unless the loop threw -/
theorem off_sim (fw : Bool) (h : MHeap) (a : Addr) (hw : WFHeap h) :
    Sim h
      (match h[a]? with
        | none => (h, .bad, [])
        | some o => match offLoop fw o (akeys o.props) with
          | (o', true) => (h.set a o', .typeError, [])
          | (o', false) => (h.set a { o' with ext := false }, .ok, []))
      (match (absHeap h)[a]? with
        | none => (absHeap h, .bad, [])
        | some o => match sOffLoop fw o (akeys o.props) with
          | (o', true) => ((absHeap h).set a o', .typeError, [])
          | (o', false) => ((absHeap h).set a { o' with ext := false }, .ok, [])) := by
  rw [absHeap_get]
  cases ho : h[a]? with
  | none => exact .same h _
  | some o =>
    obtain ⟨hr, hk⟩ := offLoop_refines fw (akeys o.props) o (hw a o ho)
    simp only [Option.map_some, akeys_absObj, ← hr]
    generalize offLoop fw o (akeys o.props) = r at hk ⊢
    obtain ⟨o', b⟩ := r
    cases b
    · exact .set ho (hk.evolves.trans (evolves_preventExt _)) (fun _ => hk.wf) _
    · exact .set ho hk.evolves (fun _ => hk.wf) _

theorem freeze_sim (h : MHeap) (a : Addr) (hw : WFHeap h) :
    Sim h (step h (.freeze a)) (Spec.step (absHeap h) (.freeze a)) := by
  unfold step Spec.step
  simp only [freezeLoop_eq, sFreezeLoop_eq]
  exact off_sim true h a hw

theorem seal_sim (h : MHeap) (a : Addr) (hw : WFHeap h) :
    Sim h (step h (.seal a)) (Spec.step (absHeap h) (.seal a)) := by
  unfold step Spec.step
  simp only [sealLoop_eq, sSealLoop_eq]
  exact off_sim false h a hw

/-- **Object.freeze refines §15.2.3.9** as a whole step, and keeps the invariants -/
theorem freeze_refines (h : MHeap) (a : Addr) (hi : Inv h) :
    StepRefines h (.freeze a) ∧ Inv (step h (.freeze a)).1 :=
  (freeze_sim h a hi.1).refines hi

/-- **Object.seal refines §15.2.3.8** as a whole step, and keeps the invariants -/
theorem seal_refines (h : MHeap) (a : Addr) (hi : Inv h) :
    StepRefines h (.seal a) ∧ Inv (step h (.seal a)).1 :=
  (seal_sim h a hi.1).refines hi

/-- Object.defineProperty against §15.2.3.6 -/
theorem defn_sim (h : MHeap) (a : Addr) (n : Name) (d : DescArg) (hw : WFHeap h) :
    Sim h (step h (.defn a n d)) (Spec.step (absHeap h) (.defn a n d)) := by
  unfold step Spec.step
  simp only [absHeap_get, ← toPropertyDescriptor_refines d]
  cases ho : h[a]? with
  | none => exact .same h _
  | some o =>
    cases hd : OttoVerif.C07.toPropertyDescriptor d with
    | none => exact .same h _
    | some desc =>
      have hwd := toPropertyDescriptor_wf d desc hd
      simp only [Option.map_some, ← defineOwnProperty_refines o n desc (hw a o ho) hwd]
      cases hm : defineOwn o n desc with
      | none => exact .same h _
      | some o' => exact .define ho (hw a o ho) hwd hm _

/-- **Object.defineProperty as a whole step** (builtinObjectDefineProperty vs §15.2.3.6): from any
    well-formed heap otto's step and the ES5 step agree on the outcome (ok / TypeError) and the
    abstraction of otto's heap is the ES5 heap. -/
theorem step_defineProperty_refines (h : MHeap) (a : Addr) (n : Name) (d : DescArg) (hw : WFHeap h) :
    StepRefines h (.defn a n d) :=
  ⟨(defn_sim h a n d hw).heap, (defn_sim h a n d hw).out⟩

/-- Object.defineProperties against §15.2.3.7 (all descriptors are converted before any property is defined) -/
theorem defs_sim (h : MHeap) (a : Addr) (l : List (Name × DescArg)) (hw : WFHeap h) :
    Sim h (step h (.defs a l)) (Spec.step (absHeap h) (.defs a l)) := by
  unfold step Spec.step
  simp only [absHeap_get]
  cases ho : h[a]? with
  | none => exact .same h _
  | some o =>
    simp only [Option.map_some, Spec.defineProperties, convertList_refines]
    cases hc : convertAll l with
    | none =>
      -- ES5 writes the untouched object back
      have := Sim.set ho (Evolves.refl o) id (.typeError, [])
      rwa [list_set_self h a o ho] at this
    | some ds =>
      have hwd := convertAll_wf l ds hc
      obtain ⟨he, hw'⟩ := defineConverted_evolves ds o (hw a o ho) hwd
      simp only [Option.map_some, defineConverted_refines ds o (hw a o ho) hwd]
      exact .set ho he (fun _ => hw') _

/-- **Object.defineProperties refines §15.2.3.7** (all descriptors are converted before any property
    is defined), and keeps the invariants -/
theorem defs_refines (h : MHeap) (a : Addr) (l : List (Name × DescArg)) (hi : Inv h) :
    StepRefines h (.defs a l) ∧ Inv (step h (.defs a l)).1 :=
  (defs_sim h a l hi.1).refines hi

/-- Object.create against §15.2.3.5: a failed conversion or definition discards the new object on both sides -/
theorem create_sim (h : MHeap) (p : Option Addr) (l : List (Name × DescArg)) :
    Sim h (step h (.create p l)) (Spec.step (absHeap h) (.create p l)) := by
  have hlen : (absHeap h).length = h.length := by simp [absHeap]
  unfold step Spec.step
  simp only [hlen, Spec.defineProperties, convertList_refines]
  refine Sim.ite (fun hc => ?_) (fun _ => .same h _)
  cases hcv : convertAll l with
  | none => simp only [convertAll_notAll l hcv, Option.map_none, if_true]; exact .same h _
  | some ds =>
    have hwd := convertAll_wf l ds hcv
    obtain ⟨he, hw⟩ := defineConverted_evolves ds ⟨p, true, []⟩ (wf_noProps p true) hwd
    have hr : defineAll ⟨p, true, []⟩ (absDescs ds) = _ := defineConverted_refines ds ⟨p, true, []⟩ (wf_noProps p true) hwd
    simp only [convertAll_all l ds hcv, Option.map_some, hr]
    exact Sim.ite (fun _ => .same h _) (fun _ => .push (.pushNew he hw (fun q hq => by subst hq; simpa using hc)) _)

/-- **Object.create refines §15.2.3.5** (a failed conversion discards the new object on both sides),
    and keeps the invariants -/
theorem create_refines (h : MHeap) (p : Option Addr) (l : List (Name × DescArg)) (hi : Inv h) :
    StepRefines h (.create p l) ∧ Inv (step h (.create p l)).1 :=
  (create_sim h p l).refines hi

theorem native_sim (h : MHeap) (k : Kind) (hp : provedKind k = true) :
    Sim h (step h (.native k)) (Spec.step (absHeap h) (.native k)) := by
  have hlen : (absHeap h).length = h.length := by simp [absHeap]
  have habs : absObj (nativeObj k h.length) = Spec.nativeObj k h.length := by
    cases k <;> first | rfl | cases hp
  unfold step Spec.step
  simp only [hlen, ← habs]
  exact .push (.push (nativeObj_wf k _ hp) (fun p hq => by rw [nativeObj_proto] at hq; cases hq) (nativeObj_nodup k _)) _

theorem native_refines (h : MHeap) (k : Kind) (hi : Inv h) (hp : provedOp (.native k) = true) :
    StepRefines h (.native k) ∧ Inv (step h (.native k)).1 :=
  (native_sim h k hp).refines hi

/-- the literal's object is built by defineOwn steps and is the ES5 one; ES5 reports a SyntaxError instead inside the
    C04 region `object_literal_duplicate_property` -/
theorem literal_sim (h : MHeap) (ms : List LMember) :
    Sim h (step h (.literal ms)) (absHeap h ++ [Spec.literalFold ⟨none, true, []⟩ ms], .ok, []) := by
  have hw0 := wf_noProps none true
  obtain ⟨h1, h2, _⟩ := literalFold_refines ms ⟨none, true, []⟩ hw0
  rw [show (⟨none, true, []⟩ : SObj) = absObj ⟨none, true, []⟩ from rfl, ← h1]
  exact .push (.pushNew (literalFold_evolves ms _ hw0) h2 (fun _ hq => by cases hq)) _

/-- **an object literal as a step**: outside the C04 region `object_literal_duplicate_property` the object otto
    builds is the ES5 one -/
theorem literal_refines (h : MHeap) (ms : List LMember) (hi : Inv h) (hd : devLiteral (.literal ms) = false) :
    StepRefines h (.literal ms) ∧ Inv (step h (.literal ms)).1 := by
  have := literal_sim h ms
  simp only [devLiteral] at hd
  exact Sim.refines (by simpa only [Spec.step, hd, Bool.false_eq_true, if_false] using this) hi

/-- **every operation is one heap step** – unconditionally (also for the strict-mode operations, which otto runs as
    sloppy ones, and inside the C04 region) -/
theorem step_shape (h : MHeap) (op : Op) (hi : Inv h) (hp : provedOp op = true) : HeapStep h (step h op).1 := by
  rcases op with ⟨ms⟩ | ⟨k⟩ | ⟨s, a, n, v⟩ | ⟨s, a, n⟩ | ⟨a, n, d⟩ | ⟨a, l⟩ | ⟨p, l⟩ | ⟨a⟩ | ⟨a⟩ | ⟨a⟩
  · exact (literal_sim h ms).shape
  · exact (native_sim h k hp).shape
  · exact (put_sim h false a n v hi rfl).shape
  · exact (delete_sim h false a n rfl).shape
  · exact (defn_sim h a n d hi.1).shape
  · exact (defs_sim h a l hi.1).shape
  · exact (create_sim h p l).shape
  · exact (freeze_sim h a hi.1).shape
  · exact (seal_sim h a hi.1).shape
  · exact (preventExt_sim h a).shape

/-- every operation is an allowed evolution of every object and keeps the heap invariants -/
theorem step_evolves (h : MHeap) (op : Op) (hi : Inv h) (hp : provedOp op = true) :
    HEvolves h (step h op).1 ∧ Inv (step h op).1 :=
  ⟨(step_shape h op hi hp).evolves, (step_shape h op hi hp).inv hi⟩

/-- **fromPropertyDescriptor refines §8.10.4** on well-formed stored properties (after fix f48e83f) -/
theorem fromPropertyDescriptor_refines (p : MProp) (hp : WFProp p) :
    Spec.fromPropertyDescriptor (absProp p) = OttoVerif.C07.fromPropertyDescriptor p := by
  obtain ⟨v, ⟨w, e, c⟩⟩ := p
  cases v with
  | nil => exact hp.elim
  | val v => simp [Spec.fromPropertyDescriptor, OttoVerif.C07.fromPropertyDescriptor, absProp, MProp.isDataDescriptor]
  | gs g s => simp [Spec.fromPropertyDescriptor, OttoVerif.C07.fromPropertyDescriptor, absProp]

/-- **round trip** fromPropertyDescriptor ∘ (create from) toPropertyDescriptor: defining a fresh property
    from any accepted descriptor object and reading it back gives the §8.12.9-step-4 defaults -/
theorem descriptor_roundtrip (d : DescArg) (m : MProp) (h : OttoVerif.C07.toPropertyDescriptor d = some m) :
    OttoVerif.C07.fromPropertyDescriptor (createProp m) =
      Spec.fromPropertyDescriptor (sCreateProp (absDesc m)) := by
  have hw : WFDesc m := toPropertyDescriptor_wf d m h
  rw [← createProp_refines m hw, fromPropertyDescriptor_refines _ (createProp_wf m (WFDesc.weak hw))]

theorem ownKeys_abs (o : MObj) (all : Bool) : ownKeys (absObj o) all = enumerate o all := by
  simp only [ownKeys, enumerate, absObj, absProps, List.filter_map, List.map_map]
  congr 1
  apply List.filter_congr
  intro kp _
  simp [Function.comp, enumerable_abs]

theorem isSealed_abs (o : MObj) :
    ((absObj o).props.all (fun kp => !kp.2.configurable) && !(absObj o).ext) =
      (if o.ext then false else o.props.all (fun kp => !kp.2.configurable)) := by
  have : (absObj o).props.all (fun kp => !kp.2.configurable) = o.props.all (fun kp => !kp.2.configurable) := by
    simp [absObj, absProps, List.all_map, Function.comp_def, configurable_abs]
  rw [this]
  simp only [absObj]
  cases o.ext <;> simp

theorem frozen_prop_abs (p : MProp) (hp : WFProp p) :
    (match absProp p with | .data _ w _ c => !w && !c | .acc _ _ _ c => !c) = !(p.configurable || p.writable) := by
  obtain ⟨v, ⟨w, e, c⟩⟩ := p
  cases v with
  | nil => exact hp.elim
  | val v => cases w <;> cases c <;> simp [absProp, tb]
  | gs g s =>
    obtain ⟨_, _, hw⟩ := hp
    simp only at hw
    subst hw
    cases c <;> simp [absProp, tb]

theorem frozen_all_abs (l : List (Name × MProp)) (hl : ∀ kp, kp ∈ l → WFProp kp.2) :
    (absProps l).all (fun kp => match kp.2 with | .data _ w _ c => !w && !c | .acc _ _ _ c => !c)
      = l.all (fun kp => !(kp.2.configurable || kp.2.writable)) := by
  induction l with
  | nil => rfl
  | cons kp t ih =>
    have h1 := frozen_prop_abs kp.2 (hl kp List.mem_cons_self)
    have h2 := ih (fun x hx => hl x (List.mem_cons_of_mem _ hx))
    simp only [absProps, List.map, List.all_cons] at h2 ⊢
    rw [h1, h2]

theorem isFrozen_abs (o : MObj) (ho : WFObj o) :
    ((absObj o).props.all (fun kp => match kp.2 with | .data _ w _ c => !w && !c | .acc _ _ _ c => !c) && !(absObj o).ext) =
      (if o.ext then false else o.props.all (fun kp => !(kp.2.configurable || kp.2.writable))) := by
  have := frozen_all_abs o.props ho
  simp only [absObj] at this ⊢
  rw [this]
  cases o.ext <;> simp

/-- `seen` (names) describes exactly the own properties of the objects at `prev` -/
def SeenRel (h : MHeap) (prev : List Addr) (seen : List Name) : Prop :=
  ∀ n, shadowedBy h prev n = seen.contains n

theorem seenRel_snoc (h : MHeap) (prev : List Addr) (seen : List Name) (a : Addr) (o : MObj)
    (hr : SeenRel h prev seen) (ho : h[a]? = some o) : SeenRel h (prev ++ [a]) (seen ++ akeys o.props) := by
  intro n
  have e : shadowedBy h (prev ++ [a]) n = (shadowedBy h prev n || (alookup n o.props).isSome) := by
    simp only [shadowedBy, List.any_append, List.any_cons, List.any_nil, Bool.or_false, ho]
  rw [e, hr n, isSome_alookup_contains, List.contains_append]

/-- **for-in refines §12.6.4** (after fix cb72f5e: own properties first, then the prototype's, a name
    is skipped when an earlier object of the chain has a property of that name) -/
theorem forIn_refines (h : MHeap) : ∀ (f : Nat) (x : Option Addr) (prev : List Addr) (seen : List Name),
    SeenRel h prev seen → Spec.forIn (absHeap h) f x seen = forIn h f x prev := by
  intro f
  induction f with
  | zero => intro x prev seen _; rfl
  | succ f ih =>
    intro x prev seen hr
    cases x with
    | none => rfl
    | some a =>
      simp only [Spec.forIn, forIn, absHeap_get]
      cases ho : h[a]? with
      | none => rfl
      | some o =>
        simp only [Option.map_some, ownKeys_abs]
        have hp : (absObj o).proto = o.proto := rfl
        rw [akeys_absObj, hp, ih o.proto _ _ (seenRel_snoc h prev seen a o hr ho)]
        congr 1
        apply List.filter_congr
        intro n _
        rw [hr n]

theorem observeName_refines (h : MHeap) (a : Addr) (o : MObj) (ho : WFObj o) (n : Name) :
    Spec.observeName (absHeap h) a (absObj o) n = observeName h a o n := by
  simp only [Spec.observeName, observeName, get_refines, hasProperty_refines, alookup_absObj]
  cases hl : alookup n o.props with
  | none => rfl
  | some p => simp [enumerable_abs, fromPropertyDescriptor_refines p (ho _ (alookup_mem hl))]

/-- every observation of one object (isExtensible/isSealed/isFrozen, keys, getOwnPropertyNames,
    for-in, and per name: value, in, hasOwnProperty, propertyIsEnumerable, own descriptor) agrees
    for a well-formed object -/
theorem observeObj_refines (h : MHeap) (a : Addr) (o : MObj) (ho : WFObj o) :
    Spec.observeObj (absHeap h) a (absObj o) = observeObj h a o := by
  simp only [Spec.observeObj, observeObj, isSealed_abs, ownKeys_abs, fuel_absHeap, akeys_absObj,
    forIn_refines h (fuel h) (some a) [] [] (fun _ => rfl)]
  congr 1
  · exact isFrozen_abs o ho
  · apply List.map_congr_left
    intro n _
    exact observeName_refines h a o ho n

theorem observeFrom_refines (h : MHeap) : ∀ (l : List MObj) (k : Nat),
    (∀ (i : Nat) (o : MObj), l[i]? = some o → WFObj o) →
    Spec.observeFrom (absHeap h) k (l.map absObj) = observeFrom h k l := by
  intro l
  induction l with
  | nil => intro k _; rfl
  | cons o t ih =>
    intro k hk
    simp only [List.map, Spec.observeFrom, observeFrom]
    have h0 := hk 0 o rfl
    rw [observeObj_refines h k o h0]
    rw [ih (k + 1) (fun i q hq => hk (i + 1) q (by simpa using hq))]

/-- **all observations agree**: on a well-formed heap the observation vector logged after a
    step is the ES5 one -/
theorem observe_refines (h : MHeap) (hw : WFHeap h) : Spec.observe (absHeap h) = observe h := by
  simp only [Spec.observe, observe]
  have := observeFrom_refines h h 0 (fun i o hio => hw i o hio)
  simpa [absHeap] using this

theorem append_nil_iff {α} (a b : List α) : a ++ b = [] ↔ a = [] ∧ b = [] := by
  cases a <;> simp

theorem ite_singleton_nil (c : Bool) (s : String) : (if c = true then [s] else []) = [] ↔ c = false := by
  cases c <;> simp

/-- **every modelled operation**: a step from a heap satisfying the invariants that is in neither region
    of the driver (`strict_ignored`; for an object literal the C04 region `object_literal_duplicate_property`)
    and creates no start object outside `provedKind` refines the ES5 step (same heap under abstraction, same
    outcome / TypeError, same setter calls) and re-establishes the invariants -/
theorem step_refines (h : MHeap) (op : Op) (hi : Inv h) (hp : provedOp op = true)
    (hd : devStep h op (step h op).1 = []) :
    StepRefines h op ∧ Inv (step h op).1 := by
  have hs : devStrict h op = false := by
    simp only [devStep, append_nil_iff] at hd
    cases hc : devStrict h op with
    | false => rfl
    | true => rw [hc] at hd; simp at hd
  have hl : devLiteral op = false := by
    simp only [devStep, append_nil_iff] at hd
    cases hc : devLiteral op with
    | false => rfl
    | true => rw [hc] at hd; simp at hd
  rcases op with ⟨ms⟩ | ⟨k⟩ | ⟨s, a, n, v⟩ | ⟨s, a, n⟩ | ⟨a, n, d⟩ | ⟨a, l⟩ | ⟨p, l⟩ | ⟨a⟩ | ⟨a⟩ | ⟨a⟩
  · exact literal_refines h ms hi hl
  · exact native_refines h k hi hp
  · exact (put_sim h s a n v hi hs).refines hi
  · exact (delete_sim h s a n hs).refines hi
  · exact (defn_sim h a n d hi.1).refines hi
  · exact defs_refines h a l hi
  · exact create_refines h p l hi
  · exact freeze_refines h a hi
  · exact seal_refines h a hi
  · exact (preventExt_sim h a).refines hi

/-- **history_refines_from**: any finite history of the modelled operations, started on a heap satisfying
    the invariants, whose start objects are of proved kinds and which stays outside the regions of `devRun`
    (`strict_ignored`, and for literals `object_literal_duplicate_property`), is observationally equal to ES5 –
    same outcome (incl. TypeError) and setter calls at every step and the same full observation
    vector after every step. -/
theorem history_refines_from : ∀ (ops : List Op) (h : MHeap), Inv h → AllProved ops → devRun h ops = [] →
    run h ops = Spec.run (absHeap h) ops := by
  intro ops
  induction ops with
  | nil => intro h _ _ _; rfl
  | cons op ops ih =>
    intro h hi hp hd
    simp only [devRun, append_nil_iff] at hd
    obtain ⟨⟨hs1, hs2⟩, hinv⟩ := step_refines h op hi (hp op List.mem_cons_self) hd.1
    have hobs := observe_refines (step h op).1 hinv.1
    simp only [run, Spec.run]
    rw [← hs1, ← hobs, ← ih (step h op).1 hinv (fun x hx => hp x (List.mem_cons_of_mem _ hx)) hd.2]
    cases hr : step h op with
    | mk h' oc =>
      cases hr' : Spec.step (absHeap h) op with
      | mk sh' soc =>
        rw [hr, hr'] at hs2
        simp only at hs2
        subst hs2
        rfl

/-- **history_refines** from the empty heap, exactly as the driver runs requests: if the driver reports
    `dev = -` for a history then model = spec on it. -/
theorem history_refines (ops : List Op) (hp : AllProved ops) (hd : devRun [] ops = []) :
    run [] ops = Spec.run [] ops :=
  history_refines_from ops [] inv_nil hp hd

def heapAfter (h : MHeap) : List Op → MHeap
  | [] => h
  | op :: ops => heapAfter (step h op).1 ops

/-- the heaps reached by finitely many heap steps -/
inductive HeapSteps : MHeap → MHeap → Prop
  | refl (h : MHeap) : HeapSteps h h
  | step {h h' h'' : MHeap} : HeapStep h h' → HeapSteps h' h'' → HeapSteps h h''

theorem HeapSteps.keeps {h h' : MHeap} (hs : HeapSteps h h') (hi : Inv h) :
    HEvolves h h' ∧ Inv h' ∧ (NodupHeap h → NodupHeap h') := by
  induction hs with
  | refl => exact ⟨.refl _, hi, id⟩
  | step s _ ih =>
    obtain ⟨e, i, n⟩ := ih (s.inv hi)
    exact ⟨s.evolves.trans e, i, fun hn => n (s.nodup hn)⟩

/-- a history is a chain of heap steps – no region hypothesis -/
theorem history_steps : ∀ (ops : List Op) (h : MHeap), Inv h → AllProved ops → HeapSteps h (heapAfter h ops) := by
  intro ops
  induction ops with
  | nil => intro h _ _; exact .refl h
  | cons op ops ih =>
    intro h hi hp
    have hs := step_shape h op hi (hp op List.mem_cons_self)
    exact .step hs (ih _ (hs.inv hi) (fun x hx => hp x (List.mem_cons_of_mem _ hx)))

/-- **all histories**: every object present at the start evolves in an allowed way through any
    finite history – no region hypothesis -/
theorem history_evolves : ∀ (ops : List Op) (h : MHeap), Inv h → AllProved ops →
    HEvolves h (heapAfter h ops) ∧ Inv (heapAfter h ops) :=
  fun ops h hi hp => ⟨((history_steps ops h hi hp).keeps hi).1, ((history_steps ops h hi hp).keeps hi).2.1⟩

/-- **inv_nonextensible_no_growth**: a non-extensible object stays non-extensible and never gains a property -/
theorem inv_nonextensible_no_growth (ops : List Op) (h : MHeap) (hi : Inv h) (hp : AllProved ops)
    (a : Nat) (o : MObj) (ho : h[a]? = some o) (hne : o.ext = false) :
    ∃ o', (heapAfter h ops)[a]? = some o' ∧ o'.ext = false ∧ ∀ k, k ∈ akeys o'.props → k ∈ akeys o.props := by
  obtain ⟨o', ho', he⟩ := (history_evolves ops h hi hp).1 a o ho
  exact ⟨o', ho', he.ext hne, he.noGrowth hne⟩

/-- **inv_nonconfigurable_stable**: a non-configurable property is never deleted, never becomes configurable,
    keeps its enumerability and its kind (data / accessor); an accessor keeps its getter and setter -/
theorem inv_nonconfigurable_stable (ops : List Op) (h : MHeap) (hi : Inv h) (hp : AllProved ops)
    (a : Nat) (o : MObj) (n : Name) (prop : MProp) (ho : h[a]? = some o) (hl : alookup n o.props = some prop)
    (hc : prop.configurable = false) :
    ∃ o' p', (heapAfter h ops)[a]? = some o' ∧ alookup n o'.props = some p' ∧
      p'.configurable = false ∧ p'.enumerable = prop.enumerable ∧ isVal p'.value = isVal prop.value ∧
      (isVal prop.value = false → p'.value = prop.value) := by
  obtain ⟨o', ho', he⟩ := (history_evolves ops h hi hp).1 a o ho
  rw [configurable_eq] at hc
  obtain ⟨p', hl', hs⟩ := he.stable n prop hl hc
  rw [PStable_iff] at hs
  obtain ⟨s1, s2, s3, s4⟩ := hs
  refine ⟨o', p', ho', hl', by rw [configurable_eq]; exact s1, ?_, s3, ?_⟩
  · obtain ⟨v, ⟨w, e, c⟩⟩ := prop; obtain ⟨v', ⟨w', e', c'⟩⟩ := p'; simpa using s2
  · intro hv
    have hw := hi.1 a o ho _ (alookup_mem hl)
    obtain ⟨v, ⟨w, e, c⟩⟩ := prop
    cases v with
    | nil => exact hw.elim
    | val v => cases hv
    | gs g s =>
      have : w = .unset := hw.2.2
      subst this
      exact (s4 rfl).1

/-- **inv_nonwritable_stable**: the value of a non-writable, non-configurable data property never changes
    (and it never becomes writable again) -/
theorem inv_nonwritable_stable (ops : List Op) (h : MHeap) (hi : Inv h) (hp : AllProved ops)
    (a : Nat) (o : MObj) (n : Name) (v : Val) (m : Mode) (ho : h[a]? = some o)
    (hl : alookup n o.props = some ⟨.val v, m⟩)
    (hc : (MProp.mk (.val v) m).configurable = false) (hw : (MProp.mk (.val v) m).writable = false) :
    ∃ o' m', (heapAfter h ops)[a]? = some o' ∧ alookup n o'.props = some ⟨.val v, m'⟩ ∧
      (MProp.mk (.val v) m').writable = false ∧ (MProp.mk (.val v) m').configurable = false := by
  obtain ⟨o', ho', he⟩ := (history_evolves ops h hi hp).1 a o ho
  obtain ⟨w, e, c⟩ := m
  simp only [configurable_eq, writable_eq] at hc hw
  obtain ⟨p', hl', hs⟩ := he.stable n _ hl hc
  rw [PStable_iff] at hs
  obtain ⟨s1, _, _, s4⟩ := hs
  obtain ⟨hv, hw'⟩ := s4 hw
  obtain ⟨v', ⟨w', e', c'⟩⟩ := p'
  simp only at hv
  subst hv
  exact ⟨o', ⟨w', e', c'⟩, ho', hl', by simpa using hw', by simpa using s1⟩

/-- **inv_order**: the property order of an object only ever changes by appending a new name at the
    end or removing a deleted name (order = order of first creation of the present keys), and no
    key ever occurs twice -/
theorem inv_order (ops : List Op) (h : MHeap) (hi : Inv h) (hp : AllProved ops)
    (a : Nat) (o : MObj) (ho : h[a]? = some o) :
    ∃ o', (heapAfter h ops)[a]? = some o' ∧ KeyEvol (akeys o.props) (akeys o'.props) ∧
      ((akeys o.props).Nodup → (akeys o'.props).Nodup) := by
  obtain ⟨o', ho', he⟩ := (history_evolves ops h hi hp).1 a o ho
  exact ⟨o', ho', he.keys, he.keys.nodup⟩

/-- **no key twice, ever**: a history started on a heap without repeated keys never produces one
    (`nodup_from_empty`: every object of every heap reachable from the empty heap has pairwise distinct keys) -/
theorem history_nodup : ∀ (ops : List Op) (h : MHeap), Inv h → AllProved ops → NodupHeap h →
    NodupHeap (heapAfter h ops) :=
  fun ops h hi hp => ((history_steps ops h hi hp).keeps hi).2.2

theorem nodup_from_empty (ops : List Op) (hp : AllProved ops) : NodupHeap (heapAfter [] ops) :=
  history_nodup ops [] inv_nil hp (fun a o h => by simp at h)

/-- when the freeze / seal step returns normally, the object at `a` is non-extensible and every own property is lowered -/
theorem off_ok (fw : Bool) (h : MHeap) (a : Addr) (o : MObj) (hi : Inv h) (ho : h[a]? = some o) (hnd : (akeys o.props).Nodup)
    {r : StepRes}
    (hr : r = match offLoop fw o (akeys o.props) with
      | (o', true) => (h.set a o', .typeError, [])
      | (o', false) => (h.set a { o' with ext := false }, .ok, []))
    (hok : r.2.1 = .ok) :
    ∃ o', r.1[a]? = some o' ∧ o'.ext = false ∧ ∀ kp, kp ∈ o'.props → loweredP fw kp.2 := by
  have hall := offLoop_all fw o (hi.1 a o ho) hnd
  subst hr
  generalize offLoop fw o (akeys o.props) = l at hall hok ⊢
  obtain ⟨o', b⟩ := l
  cases b with
  | true => cases hok
  | false => exact ⟨{ o' with ext := false }, by simp [lt_of_get ho], rfl, hall rfl⟩

/-- **isFrozen (freeze o)**: when Object.freeze returns normally, the object is non-extensible and
    every own property is non-configurable and non-writable, i.e. `Object.isFrozen` observes true -/
theorem freeze_isFrozen (h : MHeap) (a : Addr) (o : MObj) (hi : Inv h) (ho : h[a]? = some o)
    (hnd : (akeys o.props).Nodup) (hok : (step h (.freeze a)).2.1 = .ok) :
    ∃ o', (step h (.freeze a)).1[a]? = some o' ∧ (observeObj (step h (.freeze a)).1 a o').isFrozen = true := by
  obtain ⟨o', h1, h2, h3⟩ := off_ok true h a o hi ho hnd (by unfold step; simp only [ho, freezeLoop_eq]; rfl) hok
  refine ⟨o', h1, ?_⟩
  simp only [observeObj, h2, Bool.false_eq_true, if_false, List.all_eq_true]
  intro kp hkp
  obtain ⟨hc, hw⟩ := h3 kp hkp
  simp [hc, hw rfl]

/-- **isSealed (seal o)** -/
theorem seal_isSealed (h : MHeap) (a : Addr) (o : MObj) (hi : Inv h) (ho : h[a]? = some o)
    (hnd : (akeys o.props).Nodup) (hok : (step h (.seal a)).2.1 = .ok) :
    ∃ o', (step h (.seal a)).1[a]? = some o' ∧ (observeObj (step h (.seal a)).1 a o').isSealed = true := by
  obtain ⟨o', h1, h2, h3⟩ := off_ok false h a o hi ho hnd (by unfold step; simp only [ho, sealLoop_eq]; rfl) hok
  refine ⟨o', h1, ?_⟩
  simp only [observeObj, h2, Bool.false_eq_true, if_false, List.all_eq_true]
  intro kp hkp
  simp [(h3 kp hkp).1]

/-- **isExtensible (preventExtensions o) = false** -/
theorem preventExt_notExtensible (h : MHeap) (a : Addr) (o : MObj) (ho : h[a]? = some o) :
    ∃ o', (step h (.preventExt a)).1[a]? = some o' ∧ (observeObj (step h (.preventExt a)).1 a o').ext = false := by
  have ha := lt_of_get ho
  unfold step
  simp only [ho]
  exact ⟨{ o with ext := false }, by simp [ha], rfl⟩

/-- the setter calls of [[Put]] are those of the special [[Put]] of §8.7.2 -/
theorem putPrimitive_eq_put (h : SHeap) (a : Addr) (n : Name) (v : Val) :
    Spec.putPrimitive h a n v = (Spec.put h a n v false).2.2 := by
  simp only [Spec.putPrimitive, Spec.put]
  cases h[a]? with
  | none => rfl
  | some o =>
    simp only []
    cases hc : Spec.canPut h o n with
    | false => simp
    | true =>
      simp only [Bool.not_true, Bool.false_eq_true, if_false]
      cases hl : alookup n o.props with
      | none =>
        simp only []
        cases hg : Spec.getProperty h (fuel h) (some a) n with
        | none => simp only []; cases Spec.defineOwn o n _ <;> rfl
        | some p =>
          cases p with
          | data => simp only []; cases Spec.defineOwn o n _ <;> rfl
          | acc g s e c => cases s <;> rfl
      | some p =>
        cases p with
        | data => simp only []; cases Spec.defineOwn o n _ <;> rfl
        | acc g s e c =>
          simp only []
          cases hg : Spec.getProperty h (fuel h) (some a) n with
          | none => simp only []; cases Spec.defineOwn o n _ <;> rfl
          | some q =>
            cases q with
            | data => simp only []; cases Spec.defineOwn o n _ <;> rfl
            | acc g' s' e' c' => cases s' <;> rfl

theorem defn_length (h : MHeap) (a : Addr) (n : Name) (d : DescArg) : (step h (.defn a n d)).1.length = h.length := by
  unfold step
  simp only []
  cases h[a]? with
  | none => rfl
  | some o =>
    simp only []
    cases OttoVerif.C07.toPropertyDescriptor d with
    | none => rfl
    | some desc =>
      simp only []
      cases defineOwn o n desc <;> simp

/-- **assignment and read through a primitive base refine §8.7.1 / §8.7.2**: for every descriptor defined on
    String/Number/Boolean.prototype or Object.prototype and every value, otto calls exactly the setter the
    special [[Put]] calls (with the wrapper as receiver), and the value read back and the prototype's own
    property are the ES5 ones -/
theorem primAssign_refines (level : Addr) (d : DescArg) (v : Val) :
    primAssign level d v = Spec.primAssign level d v := by
  have hi : Inv primHeap0 :=
    (HeapStep.push (wf_noProps (some 0) true) (fun p hp => by cases hp; exact Nat.zero_lt_one) List.nodup_nil).inv
      (inv_single ⟨none, true, []⟩ (wf_noProps none true) rfl)
  obtain ⟨hsh, hs1, hs2⟩ := defn_sim primHeap0 level 0 d hi.1
  have hinv := hsh.inv hi
  have hlen : (step primHeap0 (.defn level 0 d)).1.length = 2 := defn_length primHeap0 level 0 d
  have habs0 : absHeap primHeap0 = [⟨none, true, []⟩, ⟨some 0, true, []⟩] := rfl
  rw [habs0] at hs1 hs2
  simp only [primAssign, Spec.primAssign, putPrimitive_eq_put]
  generalize step primHeap0 (.defn level 0 d) = RM at *
  generalize Spec.step [⟨none, true, []⟩, ⟨some 0, true, []⟩] (.defn level 0 d) = RS at *
  have hinvw : Inv (RM.1 ++ [primWrapper]) := by
    refine (HeapStep.push (wf_noProps _ _) ?_ List.nodup_nil).inv hinv
    intro p hp
    simp only [Option.some.injEq] at hp
    rw [← hp, hlen]
    exact Nat.lt_succ_self 1
  have habsw : absHeap (RM.1 ++ [primWrapper]) = RS.1 ++ [⟨some 1, true, []⟩] := by
    rw [← hs1]; simp [absHeap, primWrapper, absObj, absProps]
  have hput := (put_sim (RM.1 ++ [primWrapper]) false 2 0 v hinvw rfl).out
  rw [habsw] at hput
  have hget := get_refines (RM.1 ++ [primWrapper]) 2 0
  rw [habsw] at hget
  have hout : RM.2.1 = RS.2.1 := by rw [hs2]
  have hcalls : (put (RM.1 ++ [primWrapper]) 2 0 v false).2.2 = (Spec.put (RS.1 ++ [⟨some 1, true, []⟩]) 2 0 v false).2.2 := by
    exact congrArg (·.2) hput
  have hlk : RS.1[level]? = (RM.1[level]?).map absObj := by rw [← hs1, absHeap_get]
  rw [hout, hcalls, hget, hlk]
  cases ho : RM.1[level]? with
  | none => rfl
  | some o =>
    simp only [Option.map_some]
    have := observeName_refines RM.1 level o (hinv.1 level o ho) 0
    rw [hs1] at this
    rw [this]

end OttoVerif.C07.Thm
