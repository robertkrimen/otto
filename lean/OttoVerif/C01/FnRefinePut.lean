/-
  C01/FnRefinePut — [[CanPut]], [[Put]], PutValue and [[Delete]], the arguments object's parameter map included.
-/
import OttoVerif.C01.FnRefineShape
namespace OttoVerif.C01.FnRefine
open OttoVerif.C01

/-- prototypes are older than the objects that inherit from them (a prototype link is only ever set to an
    existing object, at or right after allocation) -/
def ProtoDesc (σ : FnM.St) : Prop := ∀ a o q, σ.obj? a = some o → o.proto = some q → q < a

theorem getPropertyP_fuel (σ : FnM.St) (x : String) (hd : ProtoDesc σ) :
    ∀ (n a : Nat), a < n → getPropertyP σ n a x = getPropertyP σ (n+1) a x := by
  intro n
  induction n with
  | zero => intro a h; omega
  | succ n ih =>
    intro a ha
    rw [getPropertyP, getPropertyP]
    cases ownP σ a x with
    | some p => rfl
    | none =>
      cases ho : σ.obj? a with
      | none => rfl
      | some o =>
        cases hq : o.proto with
        | none => simp [hq]
        | some q =>
          have := hd a o q ho hq
          simp only [hq]
          exact ih q (by omega)

/-- the writable bit of every (visible) property is what FnSpec's [[CanPut]] assumes: only the `length` of a
    function object is read-only -/
def WritableWF (σ : FnM.St) : Prop :=
  ∀ a o k p, σ.obj? a = some o → Fn.lookupA k o.props = some p → hidden o.val k = false →
    p.w = !(k == "length" && Fn.isFnKind (absKind o.val))

theorem canPut_chain (σ : FnM.St) (x : String) (hv : Visible σ x) (hw : WritableWF σ) :
    ∀ (n a : Nat), Fn.canPut (absSt σ) n a x = (match getPropertyP σ n a x with | some p => p.w | none => true) := by
  intro n
  induction n with
  | zero => intro a; rfl
  | succ n ih =>
    intro a
    simp only [Fn.canPut, getPropertyP, absSt_obj]
    cases ho : σ.obj? a with
    | none => simp [ownP, ho]
    | some o =>
      have ⟨hh, hs, hac⟩ := hv a o ho
      simp only [Option.map_some, absObj_lookup o x hh, ownP_eq σ a o x ho hs, absObj_proto, absObj_kind]
      cases hl : Fn.lookupA x o.props with
      | some q =>
        -- the writable bit is the stored one, whatever the parameter map says of the value
        have hq : q.w = !(x == "length" && Fn.isFnKind (absKind o.val)) := hw a o x q ho hl hh
        cases mapGetP σ o x <;> simp [hq, absObj]
      | none =>
        cases o.proto with
        | none => rfl
        | some q => exact ih q

theorem canPutDetails_own (σ : FnM.St) (a : Nat) (x : String) (p : FnM.Pty) (h : ownP σ a x = some p) :
    FnM.canPutDetails a x σ = .ok (p.w, some p) σ := by
  simp only [FnM.canPutDetails, bind_run, getOwnProperty_run, h, pure_run]

/-- objectCanPutDetails yields [[CanPut]] of §8.12.4 on the abstraction, and the own property -/
theorem canPutDetails_spec (σ : FnM.St) (a : Nat) (x : String) (hv : Visible σ x) (hw : WritableWF σ) (hd : ProtoDesc σ) :
    FnM.canPutDetails a x σ = .ok (Fn.canPut (absSt σ) (σ.heap.length + 1) a x, ownP σ a x) σ := by
  rw [canPut_chain σ x hv hw, getPropertyP]
  cases hown : ownP σ a x with
  | some p => exact canPutDetails_own σ a x p hown
  | none =>
    simp only [FnM.canPutDetails, bind_run, getOwnProperty_run, hown, getSt_run]
    cases ho : σ.obj? a with
    | none => rfl
    | some o =>
      cases hq : o.proto with
      | none => simp only [hq, pure_run]
      | some q =>
        -- otto asks the prototype with full fuel, ES5 with what is left: the same, prototypes being older
        have hal : a < σ.heap.length := by
          simp only [FnM.St.obj?] at ho
          exact (List.getElem?_eq_some_iff.1 ho).1
        simp only [hq, bind_run, chainFuel_run, getProperty_run,
          getPropertyP_fuel σ x hd σ.heap.length q (by have := hd a o q ho hq; omega)]
        cases getPropertyP σ (σ.heap.length + 1) q x <;> rfl

theorem writeProperty_some (props : List (String × FnM.Pty)) (x : String) (d p0 : FnM.Pty)
    (h : Fn.lookupA x props = some p0) : FnM.writeProperty props x d = Fn.updateA x d props := by
  simp [FnM.writeProperty, h]

theorem writeProperty_none (props : List (String × FnM.Pty)) (x : String) (d : FnM.Pty)
    (h : Fn.lookupA x props = none) : FnM.writeProperty props x d = props ++ [(x, d)] := by
  simp [FnM.writeProperty, h]

theorem odop_update (σ : FnM.St) (a : Nat) (o : FnM.Obj) (x : String) (d p0 : FnM.Pty) (thr : Bool)
    (ho : σ.obj? a = some o) (hl : Fn.lookupA x o.props = some p0) (hc : d.c = p0.c) (he : d.e = p0.e)
    (hw : p0.c = true ∨ p0.w = true) :
    FnM.objectDefineOwnProperty a x d thr σ =
      .ok true { σ with heap := Fn.setNth σ.heap a { o with props := Fn.updateA x d o.props } } := by
  unfold FnM.objectDefineOwnProperty
  simp only [bind_run, getSt_run, ho, hl]
  have c1 : (!p0.c && (d.c || d.e != p0.e)) = false := by
    rw [hc, he]; cases p0.c <;> simp
  have c2 : (!p0.c && !p0.w && (d.w || d.value != p0.value)) = false := by
    rcases hw with h | h <;> simp [h]
  simp only [c1, c2, Bool.false_eq_true, if_false, bind_run, setObj_run, writeProperty_some _ _ _ _ hl, pure_run]

theorem odop_new (σ : FnM.St) (a : Nat) (o : FnM.Obj) (x : String) (d : FnM.Pty) (thr : Bool)
    (ho : σ.obj? a = some o) (hl : Fn.lookupA x o.props = none) :
    FnM.objectDefineOwnProperty a x d thr σ =
      .ok true { σ with heap := Fn.setNth σ.heap a { o with props := o.props ++ [(x, d)] } } := by
  unfold FnM.objectDefineOwnProperty
  simp only [bind_run, getSt_run, ho, hl, setObj_run, writeProperty_none _ _ _ hl, pure_run]

theorem defineOwnProperty_unmapped (σ : FnM.St) (a : Nat) (o : FnM.Obj) (x : String) (d : FnM.Pty) (thr : Bool)
    (ho : σ.obj? a = some o) (hm : mapGetP σ o x = none) :
    FnM.defineOwnProperty a x d thr σ = FnM.objectDefineOwnProperty a x d thr σ := by
  unfold FnM.defineOwnProperty
  cases hv : o.val with
  | arguments ipn st => simp only [bind_run, getSt_run, ho, hv, argumentsMapGet_run, hm]
  | _ => simp only [bind_run, getSt_run, ho, hv]

theorem defineOwnProperty_nonargs (σ : FnM.St) (a : Nat) (o : FnM.Obj) (x : String) (d : FnM.Pty) (thr : Bool)
    (ho : σ.obj? a = some o) (hna : ∀ ipn st, o.val ≠ .arguments ipn st) :
    FnM.defineOwnProperty a x d thr σ = FnM.objectDefineOwnProperty a x d thr σ :=
  defineOwnProperty_unmapped σ a o x d thr ho (mapGetP_none_of_not_args σ o x hna)

theorem mappedAssign_nonargs (σ : Fn.St) (k : Fn.OKind) (p : String) (v : Fn.V) (h : ∀ m e, k ≠ .args m e) :
    Fn.mappedAssign σ k p v = σ := by
  unfold Fn.mappedAssign
  cases k with
  | args m e => exact absurd rfl (h m e)
  | _ => rfl

theorem unmapKind_nonargs (k : Fn.OKind) (p : String) (h : ∀ m e, k ≠ .args m e) : Fn.unmapKind k p = k := by
  unfold Fn.unmapKind
  cases k with
  | args m e => exact absurd rfl (h m e)
  | _ => rfl

/-- **[[Put]]** (§8.12.5 with §8.12.4) on an object that is not an arguments object -/
theorem putProp_spec (σ : FnM.St) (a : Nat) (x : String) (v : Fn.V) (hv : Visible σ x) (hw : WritableWF σ)
    (hd : ProtoDesc σ) (hna : ∀ o, σ.obj? a = some o → ∀ ipn st, o.val ≠ .arguments ipn st) :
    absR (FnM.objPut a x v false σ) = Fn.putProp (absSt σ) (.ref a) x v := by
  rw [putProp_abs]
  unfold FnM.objPut Fn.putPropD
  simp only [bind_run, canPutDetails_spec σ a x hv hw hd, absSt_obj, absSt_heap_length]
  cases ho : σ.obj? a with
  | none =>
    have hown : ownP σ a x = none := by simp [ownP, ho]
    cases Fn.canPut (absSt σ) (σ.heap.length + 1) a x <;>
      simp [hown, ho, FnM.defineProperty, FnM.defineOwnProperty, FnM.typeErrorResult, absR]
  | some o =>
    have ⟨hh, hs, hac⟩ := hv a o ho
    have hown : ownP σ a x = Fn.lookupA x o.props :=
      ownP_of_unmapped σ a o x ho hs (mapGetP_none_of_not_args σ o x (hna o ho))
    have hkind : ∀ m e, (absObj o).kind ≠ .args m e := by
      intro m e hk
      cases hval : o.val <;> simp [absObj, absKind, hval] at hk
      exact hna o ho _ _ hval
    simp only [Option.map_some, hown]
    cases hc : Fn.canPut (absSt σ) (σ.heap.length + 1) a x with
    | false => simp [FnM.typeErrorResult, absR]
    | true =>
      simp only [Bool.not_true, Bool.false_eq_true, if_false, mappedAssign_nonargs (absSt σ) (absObj o).kind x v hkind,
        absObj_lookup o x hh]
      cases hl : Fn.lookupA x o.props with
      | some p0 =>
        have hp0w : p0.w = true := by
          rw [canPut_chain σ x hv hw, getPropertyP, hown, hl] at hc; exact hc
        simp only [Option.map_some, bind_run]
        rw [defineOwnProperty_nonargs σ a o x _ false ho (hna o ho),
          odop_update σ a o x { p0 with value := v } p0 false ho hl rfl rfl (Or.inr hp0w)]
        simp only [pure_run, absR, absSt_setObj]
        rw [absObj_update o x { p0 with value := v } p0 hh hl rfl]
      | none =>
        simp only [Option.map_none, bind_run, FnM.defineProperty]
        rw [defineOwnProperty_nonargs σ a o x _ false ho (hna o ho), odop_new σ a o x (FnM.p111 v) false ho hl]
        simp only [pure_run, absR, absSt_setObj]
        rw [absObj_append o x (FnM.p111 v) hh rfl]
        rfl

/-- the names of a declarative stash are distinct (createBinding is only reached when hasBinding fails) -/
def StashNodup (σ : FnM.St) : Prop := ∀ j, ((FnM.dclProps σ j).map (·.1)).Nodup

theorem dclSetBinding_mutable (σ : FnM.St) (st : Nat) (pn : String) (v : Fn.V) (p : FnM.DclProp)
    (hl : Fn.lookupA pn (FnM.dclProps σ st) = some p) (hm : p.mutable_ = true) :
    ∃ s', FnM.dclSetBinding st pn v false σ = .ok () { σ with stashes := Fn.setNth σ.stashes st s' } ∧
      absStash s' = absDcl (Fn.updateA pn { p with value := v } (FnM.dclProps σ st)) (FnM.stashOuter σ st) := by
  rcases dclProps_of_stash σ st pn p hl with ⟨outer, hs⟩ | ⟨outer, ar, hs⟩
  all_goals
    refine ⟨_, by simp only [FnM.dclSetBinding, bind_run, getSt_run, hl, hm, if_true, FnM.setDclProps, hs, setStash_run]; rfl, ?_⟩
    simp only [absStash, FnM.stashOuter, hs, hm]

theorem envAssign_bound (σ : FnM.St) (st : Nat) (pn : String) (v : Fn.V) (p : FnM.DclProp) (hst : st ≠ 0)
    (hn : StashNodup σ) (hl : Fn.lookupA pn (FnM.dclProps σ st) = some p) (hm : p.mutable_ = true) (n : Nat) :
    Fn.envAssign (absSt σ) (n+1) st pn v =
      (absSt σ).setEnv st (absDcl (Fn.updateA pn { p with value := v } (FnM.dclProps σ st)) (FnM.stashOuter σ st)) := by
  rw [absDcl_update _ _ pn v p hl]
  simp only [Fn.envAssign, hst, if_false, absSt_env_dcl σ st pn p hl, absDcl_lookup, hl, Option.map_some,
    immut_contains _ _ pn p (hn st) hl, hm, Bool.not_true, Bool.false_eq_true]

/-- **PutValue on an identifier reference to a declarative record** (§8.7.2, §10.2.1.1.3): a mutable binding
    is updated, an immutable one (the name of a named function expression) is left alone; only the value stored changes -/
theorem putValue_dcl_spec (σ : FnM.St) (j : Nat) (x : String) (v : Fn.V) (p : FnM.DclProp) (hj : j ≠ 0)
    (hn : StashNodup σ) (hl : Fn.lookupA x (FnM.dclProps σ j) = some p) :
    ∃ σ', FnM.rtPutValue (.stash j x) v σ = .ok () σ' ∧ Shape σ σ' ∧
      Fn.putIdent (absSt σ) (some j) x v = .ok () (absSt σ') := by
  simp only [FnM.rtPutValue, FnM.refPutValue, FnM.setValue, bind_run, getSt_run, hasBinding_run, Fn.putIdent, Fn.envPut,
    hj, if_false, absSt_env]
  have he := updateA_mapk_same (fun _ => eraseP) x { p with value := v } p rfl (FnM.dclProps σ j) hl
  -- a `dcl` and a `fn` stash are written alike
  rcases dclProps_of_stash σ j x p hl with ⟨outer, hs⟩ | ⟨outer, ar, hs⟩
  all_goals
    have hb : hasBindingP σ j x = true := by simp [hasBindingP, hs, hl]
    simp only [hb, hs, Bool.not_true, Bool.false_eq_true, if_false, FnM.setBinding, bind_run, getSt_run, FnM.dclSetBinding, hl,
      Option.map_some, absStash]
    rw [immut_contains _ outer x p (hn j) hl]
    cases hm : p.mutable_ with
    | false => exact ⟨σ, by simp [FnM.typeErrorResult], Shape.refl σ, by simp [absDcl]⟩
    | true =>
      simp only [if_true, FnM.setDclProps, hs, setStash_run, pure_run, bne_self_eq_false, Bool.false_eq_true, if_false, Bool.not_true]
      refine ⟨_, rfl, ⟨rfl, rfl, map_setNth_of_eq eraseStash _ j _ _ hs (by simpa [eraseStash, hm] using he)⟩, ?_⟩
      have hp : ({ value := v, mutable_ := true, deletable := p.deletable, readable := p.readable } : FnM.DclProp) =
          { p with value := v } := by simp [hm]
      rw [hp, absSt_setStash, absStash, absDcl_update _ outer x v p hl]
      rfl

/-- **PutValue on an identifier reference to an object record** (a `with` object or the global object;
    §10.2.1.2.3: [[Put]] on the binding object) -/
theorem putValue_obj_spec (σ : FnM.St) (j : Nat) (outer : Option Nat) (o : Nat) (x : String) (v : Fn.V)
    (hs : σ.stash? j = some (.obj outer o)) (h0 : WF0 σ) (hv : Visible σ x) (hw : WritableWF σ) (hd : ProtoDesc σ)
    (hna : ∀ ob, σ.obj? o = some ob → ∀ ipn st, ob.val ≠ .arguments ipn st) :
    absR (FnM.rtPutValue (FnM.newReference σ j x) v σ) = Fn.putIdent (absSt σ) (some j) x v := by
  rw [newReference_obj σ j x outer o hs]
  have hput := putProp_spec σ o x v hv hw hd hna
  have hspec : Fn.putIdent (absSt σ) (some j) x v = Fn.putProp (absSt σ) (Fn.V.ref o) x v := by
    simp only [Fn.putIdent, Fn.envPut]
    by_cases hj : j = 0
    · subst hj
      rw [h0.stash] at hs
      cases hs
      simp; rfl
    · simp [hj, absSt_env, hs, absStash]
  rw [hspec, ← hput]
  simp only [FnM.rtPutValue, FnM.refPutValue, bind_run, objPutA_run σ x hv]
  cases FnM.objPut o x v false σ with
  | ok u σ' => cases u; simp
  | throw t σ' => rfl
  | fuel => rfl

/-- the own property names of every object are distinct (writeProperty appends only new names) -/
def PropsNodup (σ : FnM.St) : Prop := ∀ a o, σ.obj? a = some o → (o.props.map (·.1)).Nodup

/-- the Bool a Go method returns, as the JavaScript value the operator yields -/
def boolR : FnM.R Bool → FnM.R Fn.V
  | .ok b σ => .ok (.bool b) σ
  | .throw t σ => .throw t σ
  | .fuel => .fuel

theorem optName_empty : optName "" = none := rfl

theorem absKind_unmap (v : FnM.OVal) (x : String) : absKind (FnM.unmapIndex v x) = Fn.unmapKind (absKind v) x := by
  cases v with
  | arguments ipn st =>
    simp only [FnM.unmapIndex, Fn.unmapKind, absKind, FnM.arrayIndex]
    cases hidx : Fn.idx? x with
    | none => rfl
    | some i =>
      simp only []
      cases hpn : ipn[i]? with
      | none => rw [setNth_eq_set (ipn.map optName), List.set_eq_of_length_le (by simpa using hpn)]
      | some pn =>
        by_cases hne : pn = ""
        · subst hne
          simp only [if_true]
          rw [setNth_self (ipn.map optName) i none (by simp [hpn, optName_empty])]
        · simp only [hne, if_false, setNth_eq_set, List.map_set, optName_empty]
  | _ => rfl

theorem hidden_unmap (v : FnM.OVal) (x k : String) : hidden (FnM.unmapIndex v x) k = hidden v k := by
  cases v with
  | arguments ipn st =>
    simp only [FnM.unmapIndex]
    cases FnM.arrayIndex x with
    | none => rfl
    | some i =>
      simp only []
      cases ipn[i]? with
      | none => rfl
      | some pn => by_cases h : pn = "" <;> simp [h, hidden]
  | _ => rfl

/-- is `x` an index of this arguments object that is still joined to a parameter? -/
def isMapped (v : FnM.OVal) (x : String) : Bool :=
  match v with
  | .arguments ipn _ => (match FnM.arrayIndex x with
    | some i => (match ipn[i]? with | some pn => pn != "" | none => false)
    | none => false)
  | _ => false

theorem unmapIndex_unmapped (v : FnM.OVal) (x : String) (h : isMapped v x = false) : FnM.unmapIndex v x = v := by
  cases v with
  | arguments ipn st =>
    simp only [isMapped] at h
    simp only [FnM.unmapIndex]
    cases hi : FnM.arrayIndex x with
    | none => rfl
    | some i =>
      rw [hi] at h
      simp only [] at h ⊢
      cases hp : ipn[i]? with
      | none => rfl
      | some pn =>
        rw [hp] at h
        simp only [bne_eq_false_iff_eq] at h
        simp [h]
  | _ => rfl

/-- **[[Delete]]** (§8.12.7; §10.6 [[Delete]] of an arguments object: the index is un-mapped) on any object that
    is not a String wrapper.  `hc`: the configurable bit of the property is the one ES5 gives it;
    `hmo`: an index still joined to a parameter exists as an own property (so it was never deleted). -/
theorem delete_spec (σ : FnM.St) (a : Nat) (x : String) (hv : Visible σ x) (hn : PropsNodup σ)
    (hc : ∀ o p, σ.obj? a = some o → Fn.lookupA x o.props = some p → p.c = !Fn.fixedProp (absKind o.val) x)
    (hmo : ∀ o, σ.obj? a = some o → isMapped o.val x = true → (Fn.lookupA x o.props).isSome = true) :
    absR (boolR (FnM.objDelete a x false σ)) = Fn.delProp (absSt σ) (.ref a) x := by
  rw [delProp_abs]
  unfold FnM.objDelete Fn.delPropD
  simp only [bind_run, getOwnProperty_run, absSt_obj]
  cases ho : σ.obj? a with
  | none => simp [ownP, ho, absR, boolR]
  | some o =>
    have ⟨hh, hs, hac⟩ := hv a o ho
    simp only [Option.map_some, absObj_lookup o x hh, absObj_kind]
    cases hl : Fn.lookupA x o.props with
    | none =>
      -- nothing to delete: ES5 rebuilds the object without the name, which is the object itself
      have hown : ownP σ a x = none := by rw [ownP_eq σ a o x ho hs, hl]; rfl
      have hnm : isMapped o.val x = false := by
        cases hm : isMapped o.val x with
        | false => rfl
        | true => have := hmo o ho hm; rw [hl] at this; simp at this
      have hum : Fn.unmapKind (absKind o.val) x = absKind o.val := by
        rw [← absKind_unmap, unmapIndex_unmapped o.val x hnm]
      have hobj := absObj_remove o x o.val hh (fun _ => rfl) (hn a o ho)
      rw [removeA_none x _ hl] at hobj
      simp only [hown, pure_run, absR, boolR, Option.map_none, Option.isSome_none, Bool.and_false, Bool.false_eq_true, if_false, hum]
      rw [← hobj]
      exact congrArg _ (absSt_setObj_self σ a o ho).symm
    | some p =>
      have hpc := hc o p ho hl
      obtain ⟨q, hq, hqc⟩ : ∃ q, ownP σ a x = some q ∧ q.c = p.c := by
        rw [ownP_eq σ a o x ho hs, hl]; cases mapGetP σ o x <;> exact ⟨_, rfl, rfl⟩
      simp only [hq, Option.map_some, Option.isSome_some, Bool.and_true, hqc]
      cases hcc : p.c with
      | false =>
        have hf : Fn.fixedProp (absKind o.val) x = true := by rw [hcc] at hpc; simpa using hpc.symm
        simp [hf, FnM.typeErrorResult, absR, boolR]
      | true =>
        have hf : Fn.fixedProp (absKind o.val) x = false := by rw [hcc] at hpc; simpa using hpc.symm
        simp only [hf, absObj_dd, Bool.or_false, Bool.false_eq_true, if_false, if_true, bind_run, getSt_run, ho, setObj_run, pure_run, absR, boolR,
          absSt_setObj]
        rw [absObj_remove o x (FnM.unmapIndex o.val x) hh (hidden_unmap o.val x) (hn a o ho), absKind_unmap]

/-- **[[Delete]]** (§8.12.7) on an object that is not an arguments object: non-configurable properties stay
    (result false), others go, and the abstraction of the new state is ES5's new state -/
theorem delProp_spec (σ : FnM.St) (a : Nat) (x : String) (hv : Visible σ x) (hn : PropsNodup σ)
    (hna : ∀ o, σ.obj? a = some o → ∀ ipn st, o.val ≠ .arguments ipn st)
    (hc : ∀ o p, σ.obj? a = some o → Fn.lookupA x o.props = some p → p.c = !Fn.fixedProp (absKind o.val) x) :
    absR (boolR (FnM.objDelete a x false σ)) = Fn.delProp (absSt σ) (.ref a) x :=
  delete_spec σ a x hv hn hc fun o ho hm => by
    cases hval : o.val with
    | arguments ipn st => exact absurd hval (hna o ho ipn st)
    | _ => simp [isMapped, hval] at hm

end OttoVerif.C01.FnRefine
