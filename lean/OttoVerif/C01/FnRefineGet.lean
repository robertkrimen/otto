/-
  C01/FnRefineGet — the model's read operations as functions of the state, and what they compute on the
  abstraction: identifier resolution, [[HasProperty]], [[Get]], GetValue.
-/
import OttoVerif.C01.FnRefine
namespace OttoVerif.C01.FnRefine
open OttoVerif.C01

/-- a name that otto's extra properties do not use, on objects that are not String wrappers (whose index
    properties are virtual in otto and materialised in FnSpec), and that is an accessor property nowhere: `absObj` has
    no accessors, so on `absSt σ` FnSpec's getProp / putProp / delProp / hasProp are their data-only `…D` versions
    (`…_abs` below), and under `Visible` the model's `…A` operations are the plain ones (`objGetA_run` …) -/
def Visible (σ : FnM.St) (x : String) : Prop :=
  ∀ a o, σ.obj? a = some o → hidden o.val x = false ∧ (∀ s, o.val ≠ .string s) ∧ Fn.lookupA x o.accs = none

theorem findAcc_abs (σ : FnM.St) (p : String) : ∀ (n a : Nat), Fn.findAcc (absSt σ) n a p = none := by
  intro n
  induction n with
  | zero => intro a; rfl
  | succ n ih =>
    intro a
    simp only [Fn.findAcc, absSt_obj]
    cases σ.obj? a with
    | none => rfl
    | some o =>
      simp only [Option.map_some]
      cases (Fn.lookupA p (absObj o).props).isSome with
      | true => rfl
      | false =>
        have : Fn.lookupA p (absObj o).accs = none := rfl
        simp only [Bool.false_eq_true, if_false, this]
        cases (absObj o).proto with
        | none => rfl
        | some q => exact ih q

theorem getProp_abs (σ : FnM.St) (a : Nat) (p : String) :
    Fn.getProp (absSt σ) (.ref a) p = Fn.getPropD (absSt σ) (.ref a) p := by
  simp only [Fn.getProp, findAcc_abs]

theorem putProp_abs (σ : FnM.St) (a : Nat) (p : String) (v : Fn.V) :
    Fn.putProp (absSt σ) (.ref a) p v = Fn.putPropD (absSt σ) (.ref a) p v := by
  simp only [Fn.putProp, findAcc_abs]

theorem delProp_abs (σ : FnM.St) (a : Nat) (p : String) :
    Fn.delProp (absSt σ) (.ref a) p = Fn.delPropD (absSt σ) (.ref a) p := by
  simp only [Fn.delProp, absSt_obj]
  cases σ.obj? a with
  | none => rfl
  | some o => rfl

theorem hasProp_abs (σ : FnM.St) (n a : Nat) (p : String) :
    Fn.hasProp (absSt σ) n a p = Fn.hasPropD (absSt σ) n a p := by
  simp only [Fn.hasProp, findAcc_abs, Option.isSome_none, Bool.or_false]

/-! The model's read operations leave the state alone: `opP σ …` is what `FnM.op … σ` returns, as a function of the
    state, and `op_run` says so. -/

def dclGetP (σ : FnM.St) (i : Nat) (name : String) : Fn.V :=
  match Fn.lookupA name (FnM.dclProps σ i) with
  | none => .undef
  | some p => if !p.mutable_ && !p.readable then .undef else p.value

theorem dclGetBinding_run (σ σ' : FnM.St) (i : Nat) (name : String) :
    FnM.dclGetBinding σ i name false σ' = .ok (dclGetP σ i name) σ' := by
  unfold FnM.dclGetBinding dclGetP
  cases Fn.lookupA name (FnM.dclProps σ i) with
  | none => rfl
  | some p => by_cases h : (!p.mutable_ && !p.readable) = true <;> simp [h]

def mapGetP (σ : FnM.St) (o : FnM.Obj) (name : String) : Option Fn.V :=
  match o.val with
  | .arguments ipn stash =>
    (match FnM.arrayIndex name with
     | some index =>
       (match ipn[index]? with
        | some pn => if pn = "" then none else some (dclGetP σ stash pn)
        | none => none)
     | none => none)
  | _ => none

theorem argumentsMapGet_run (σ σ' : FnM.St) (o : FnM.Obj) (name : String) :
    FnM.argumentsMapGet σ o name σ' = .ok (mapGetP σ o name) σ' := by
  unfold FnM.argumentsMapGet mapGetP
  cases o.val <;> try rfl
  rename_i ipn stash
  cases FnM.arrayIndex name with
  | none => rfl
  | some index =>
    cases hp : ipn[index]? with
    | none => simp [hp]
    | some pn =>
      by_cases h : pn = ""
      · simp [hp, h]
      · simp [hp, h, dclGetBinding_run]

def ownP (σ : FnM.St) (a : Nat) (name : String) : Option FnM.Pty :=
  match σ.obj? a with
  | none => none
  | some o =>
    let own := Fn.lookupA name o.props
    match o.val with
    | .arguments _ _ =>
      (match own, mapGetP σ o name with
       | some p, some v => some { p with value := v }
       | _, _ => own)
    | .string s =>
      (match own with
       | some p => some p
       | none =>
         match FnM.arrayIndex name with
         | some index => (match s.toList[index]? with
           | some ch => some (FnM.p000 (.str (String.singleton ch)))
           | none => none)
         | none => none)
    | _ => own

theorem getOwnProperty_run (σ : FnM.St) (a : Nat) (name : String) :
    FnM.getOwnProperty a name σ = .ok (ownP σ a name) σ := by
  unfold FnM.getOwnProperty ownP
  simp only [bind_run, getSt_run]
  cases ho : σ.obj? a with
  | none => rfl
  | some o =>
    simp only []
    cases hv : o.val with
    | arguments ipn stash =>
      simp only [bind_run, argumentsMapGet_run]
      cases Fn.lookupA name o.props <;> cases mapGetP σ o name <;> rfl
    | string s =>
      cases Fn.lookupA name o.props with
      | some p => rfl
      | none =>
        simp only []
        cases FnM.arrayIndex name with
        | none => rfl
        | some index => simp only []; cases s.toList[index]? <;> rfl
    | _ => rfl

theorem ownP_eq (σ : FnM.St) (a : Nat) (o : FnM.Obj) (x : String) (ho : σ.obj? a = some o)
    (hs : ∀ s, o.val ≠ .string s) :
    ownP σ a x = (Fn.lookupA x o.props).map fun p =>
      match mapGetP σ o x with
      | some v => { p with value := v }
      | none => p := by
  unfold ownP
  simp only [ho]
  cases hv : o.val with
  | string s => exact absurd hv (hs s)
  | arguments ipn stash => cases Fn.lookupA x o.props <;> cases mapGetP σ o x <;> rfl
  | _ => cases Fn.lookupA x o.props <;> simp [mapGetP, hv]

theorem mapGetP_none_of_not_args (σ : FnM.St) (o : FnM.Obj) (x : String)
    (h : ∀ ipn st, o.val ≠ .arguments ipn st) : mapGetP σ o x = none := by
  unfold mapGetP
  cases hv : o.val with
  | arguments ipn st => exact absurd hv (h ipn st)
  | _ => rfl

theorem ownP_of_unmapped (σ : FnM.St) (a : Nat) (o : FnM.Obj) (x : String) (ho : σ.obj? a = some o)
    (hs : ∀ s, o.val ≠ .string s) (hm : mapGetP σ o x = none) : ownP σ a x = Fn.lookupA x o.props := by
  rw [ownP_eq σ a o x ho hs, hm]
  cases Fn.lookupA x o.props <;> rfl

theorem findAccM_run (σ : FnM.St) (x : String) (hv : Visible σ x) :
    ∀ (n a : Nat), FnM.findAcc n a x σ = .ok none σ := by
  intro n
  induction n with
  | zero => intro a; rfl
  | succ n ih =>
    intro a
    simp only [FnM.findAcc, bind_run, getOwnProperty_run]
    cases ownP σ a x with
    | some p => simp
    | none =>
      simp only [Option.isSome_none, Bool.false_eq_true, if_false, bind_run, getSt_run]
      cases ho : σ.obj? a with
      | none => rfl
      | some o =>
        have := (hv a o ho).2.2
        simp only [this]
        cases o.proto with
        | none => rfl
        | some q => exact ih q

theorem objGetA_run (σ : FnM.St) (x : String) (hv : Visible σ x) (a : Nat) (prim : Option Fn.V) :
    FnM.objGetA a x prim σ = FnM.objGet a x σ := by
  simp only [FnM.objGetA, bind_run, chainFuel_run, findAccM_run σ x hv]

theorem objPutA_run (σ : FnM.St) (x : String) (hv : Visible σ x) (a : Nat) (v : Fn.V) (prim : Option Fn.V) :
    FnM.objPutA a x v prim σ = FnM.objPut a x v false σ := by
  simp only [FnM.objPutA, bind_run, chainFuel_run, findAccM_run σ x hv]

theorem objDeleteA_run (σ : FnM.St) (x : String) (hv : Visible σ x) (a : Nat) :
    FnM.objDeleteA a x σ = FnM.objDelete a x false σ := by
  simp only [FnM.objDeleteA, bind_run, getSt_run]
  cases ho : σ.obj? a with
  | none => rfl
  | some o =>
    have := (hv a o ho).2.2
    simp only [this]

def getPropertyP (σ : FnM.St) : Nat → Nat → String → Option FnM.Pty
  | 0, _, _ => none
  | n+1, a, name =>
    match ownP σ a name with
    | some p => some p
    | none =>
      match σ.obj? a with
      | some o => (match o.proto with
        | some q => getPropertyP σ n q name
        | none => none)
      | none => none

theorem getProperty_run (σ : FnM.St) (name : String) :
    ∀ (n a : Nat), FnM.getProperty n a name σ = .ok (getPropertyP σ n a name) σ := by
  intro n
  induction n with
  | zero => intro a; rfl
  | succ n ih =>
    intro a
    simp only [FnM.getProperty, getPropertyP, bind_run, getOwnProperty_run]
    cases ownP σ a name with
    | some p => rfl
    | none =>
      cases ho : σ.obj? a with
      | none => simp only [bind_run, getSt_run, ho, pure_run]
      | some o =>
        cases hq : o.proto with
        | none => simp only [bind_run, getSt_run, ho, hq, pure_run]
        | some q => simp only [bind_run, getSt_run, ho, hq]; exact ih q

theorem hasProperty_run (σ : FnM.St) (a : Nat) (name : String) :
    FnM.hasProperty a name σ = .ok (getPropertyP σ (σ.heap.length + 1) a name).isSome σ := by
  simp [FnM.hasProperty, getProperty_run]

def getP (σ : FnM.St) (a : Nat) (name : String) : Fn.V :=
  match (match σ.obj? a with | some o => mapGetP σ o name | none => none) with
  | some v => v
  | none => match getPropertyP σ (σ.heap.length + 1) a name with
    | some p => p.value
    | none => .undef

theorem objGet_run (σ : FnM.St) (a : Nat) (name : String) :
    FnM.objGet a name σ = .ok (getP σ a name) σ := by
  unfold FnM.objGet getP
  simp only [bind_run, getSt_run]
  cases ho : σ.obj? a with
  | none => simp [getProperty_run]; cases getPropertyP σ (σ.heap.length + 1) a name <;> rfl
  | some o =>
    simp only [argumentsMapGet_run]
    cases mapGetP σ o name with
    | some v => rfl
    | none => simp [getProperty_run]; cases getPropertyP σ (σ.heap.length + 1) a name <;> rfl

theorem hasProperty_spec (σ : FnM.St) (x : String) (hv : Visible σ x) :
    ∀ (n a : Nat), (getPropertyP σ n a x).isSome = Fn.hasProp (absSt σ) n a x := by
  intro n
  simp only [hasProp_abs]
  induction n with
  | zero => intro a; rfl
  | succ n ih =>
    intro a
    simp only [getPropertyP, Fn.hasPropD, absSt_obj]
    cases ho : σ.obj? a with
    | none => simp [ownP, ho]
    | some o =>
      have ⟨hh, hs, hac⟩ := hv a o ho
      simp only [Option.map_some, absObj_lookup o x hh, ownP_eq σ a o x ho hs, absObj_proto]
      cases Fn.lookupA x o.props with
      | some q => rfl
      | none =>
        cases o.proto with
        | none => rfl
        | some q => exact ih q

def hasBindingP (σ : FnM.St) (i : Nat) (x : String) : Bool :=
  match σ.stash? i with
  | some (.obj _ o) => (getPropertyP σ (σ.heap.length + 1) o x).isSome
  | some (.dcl _ ps) => (Fn.lookupA x ps).isSome
  | some (.fn _ ps _) => (Fn.lookupA x ps).isSome
  | none => false

theorem hasBinding_run (σ : FnM.St) (i : Nat) (x : String) :
    FnM.hasBinding i x σ = .ok (hasBindingP σ i x) σ := by
  unfold FnM.hasBinding hasBindingP
  simp only [bind_run, getSt_run]
  cases σ.stash? i with
  | none => rfl
  | some st => cases st <;> simp [hasProperty_run]

/-- the reference otto makes for the environment ES5 resolves to -/
def refOf (σ : FnM.St) (x : String) (res : Option Nat) : FnM.Ref :=
  match res with
  | none => .prop none x
  | some j => FnM.newReference σ j x

/-- FnSpec treats environment 0 as the record of the global object (`if i = 0` in envResolve / envGet / envPut);
    otto's counterpart: stash 0 is rt.globalStash, the outermost object stash over the global object -/
def WF0 (σ : FnM.St) : Prop := σ.stash? 0 = some (.obj none FnM.gObj)

theorem WF0.stash {σ : FnM.St} (h : WF0 σ) : σ.stash? 0 = some (.obj none FnM.gObj) := h

/-- **identifier resolution**: getIdentifierReference on otto's stash chain yields the reference for the
    environment record that §10.2.2.1 GetIdentifierReference finds on the abstraction (declarative, object
    (`with`) and global records) -/
theorem resolve_spec (σ : FnM.St) (x : String) (hv : Visible σ x) (h0 : WF0 σ) :
    ∀ (n i : Nat), FnM.getIdentifierReference n (some i) x σ = .ok (refOf σ x (Fn.envResolve (absSt σ) n i x)) σ := by
  intro n
  induction n with
  | zero => intro i; rfl
  | succ n ih =>
    intro i
    -- one step of the model: the reference for stash i, or the search goes on from its outer stash
    have step : FnM.getIdentifierReference (n+1) (some i) x σ =
        if hasBindingP σ i x then .ok (FnM.newReference σ i x) σ
        else .ok (refOf σ x ((FnM.stashOuter σ i).bind fun j => Fn.envResolve (absSt σ) n j x)) σ := by
      simp only [FnM.getIdentifierReference, bind_run, hasBinding_run]
      cases hasBindingP σ i x with
      | true => rfl
      | false =>
        simp only [Bool.false_eq_true, if_false, bind_run, getSt_run]
        cases FnM.stashOuter σ i with
        | none => cases n <;> rfl
        | some j => exact ih j
    rw [step]
    simp only [Fn.envResolve, absSt_heap_length]
    by_cases hi : i = 0
    · subst hi
      have hb : hasBindingP σ 0 x = Fn.hasProp (absSt σ) (σ.heap.length + 1) Fn.gObj x := by
        simp only [hasBindingP, h0.stash]; exact hasProperty_spec σ x hv _ _
      simp only [if_true, hb, FnM.stashOuter, FnM.newReference, h0.stash]
      cases Fn.hasProp (absSt σ) (σ.heap.length + 1) Fn.gObj x <;> simp [refOf, FnM.newReference, h0.stash]
    · simp only [hi, if_false, absSt_env]
      cases hs : σ.stash? i with
      | none => simp [hasBindingP, FnM.stashOuter, hs, refOf]
      | some st =>
        cases st with
        | obj outer o =>
          simp only [hasBindingP, FnM.stashOuter, hs, Option.map_some, absStash, hasProperty_spec σ x hv]
          cases Fn.hasProp (absSt σ) (σ.heap.length + 1) o x <;> cases outer <;> simp [refOf]
        | dcl outer ps | fn outer ps ar =>
          simp only [hasBindingP, FnM.stashOuter, hs, Option.map_some, absStash, absDcl,
            lookupA_map (fun p : FnM.DclProp => p.value), Option.isSome_map]
          cases (Fn.lookupA x ps).isSome <;> cases outer <;> simp [refOf]

/-- no object inherits from an arguments object (FnSpec's getChain reads STORED values on prototypes) -/
def NoArgsProto (σ : FnM.St) : Prop :=
  ∀ a o q oq, σ.obj? a = some o → o.proto = some q → σ.obj? q = some oq → ∀ ipn st, oq.val ≠ .arguments ipn st

/-- [[Get]] along the prototype chain when the base's own property is not a mapped arguments index -/
theorem getChain_spec (σ : FnM.St) (x : String) (hv : Visible σ x) (hnp : NoArgsProto σ) :
    ∀ (n a : Nat), (∀ o, σ.obj? a = some o → mapGetP σ o x = none) →
      Fn.getChain (absSt σ) n a x = ((getPropertyP σ n a x).map (·.value)).getD .undef := by
  intro n
  induction n with
  | zero => intro a _; rfl
  | succ n ih =>
    intro a hm
    simp only [Fn.getChain, getPropertyP, absSt_obj]
    cases ho : σ.obj? a with
    | none => simp [ownP, ho]
    | some o =>
      have ⟨hh, hs, hac⟩ := hv a o ho
      rw [ownP_of_unmapped σ a o x ho hs (hm o ho)]
      simp only [Option.map_some, absObj_lookup o x hh]
      cases hl : Fn.lookupA x o.props with
      | some p => simp
      | none =>
        simp only [Option.map_none, absObj_proto]
        cases hq : o.proto with
        | none => rfl
        | some q =>
          simp only []
          apply ih q
          intro oq hoq
          exact mapGetP_none_of_not_args σ oq x (hnp a o q oq ho hq hoq)

/-- the parameter map of every arguments object points at mutable bindings of a declarative stash -/
def ArgsWF (σ : FnM.St) : Prop :=
  ∀ a o ipn st, σ.obj? a = some o → o.val = .arguments ipn st →
    st ≠ 0 ∧ ∀ (i : Nat) (pn : String), ipn[i]? = some pn → pn ≠ "" →
      ∃ p, Fn.lookupA pn (FnM.dclProps σ st) = some p ∧ p.mutable_ = true

/-- a stash with a binding is a declarative one (`dcl` or `fn`) -/
theorem dclProps_of_stash (σ : FnM.St) (j : Nat) (x : String) (p : FnM.DclProp)
    (h : Fn.lookupA x (FnM.dclProps σ j) = some p) :
    (∃ outer, σ.stash? j = some (.dcl outer (FnM.dclProps σ j))) ∨
    (∃ outer ar, σ.stash? j = some (.fn outer (FnM.dclProps σ j) ar)) := by
  unfold FnM.dclProps at h ⊢
  cases hs : σ.stash? j with
  | none => simp [hs, Fn.lookupA] at h
  | some s0 =>
    cases s0 with
    | obj o ob => simp [hs, Fn.lookupA] at h
    | dcl outer ps => exact Or.inl ⟨outer, rfl⟩
    | fn outer ps ar => exact Or.inr ⟨outer, ar, rfl⟩

/-- … and abstracts to the declarative record of its property list -/
theorem absSt_env_dcl (σ : FnM.St) (st : Nat) (pn : String) (p : FnM.DclProp)
    (h : Fn.lookupA pn (FnM.dclProps σ st) = some p) :
    (absSt σ).envs[st]? = some (absDcl (FnM.dclProps σ st) (FnM.stashOuter σ st)) := by
  rcases dclProps_of_stash σ st pn p h with ⟨outer, hs⟩ | ⟨outer, ar, hs⟩ <;>
    simp [absSt_env, hs, absStash, FnM.stashOuter]

/-- an Error object made from an ottoError of class n reads its `name` (from its prototype) as n -/
def ErrWF (σ : FnM.St) : Prop :=
  ∀ a o n, σ.obj? a = some o → o.val = .error n → getP σ a "name" = .str n

/-- **[[Get]]** (§8.12.3, §10.6): otto's objectClass.get = ES5's on the abstraction, the arguments
    object's parameter map included -/
theorem getProp_spec (σ : FnM.St) (a : Nat) (x : String) (hv : Visible σ x) (hnp : NoArgsProto σ) (haw : ArgsWF σ)
    (hew : ErrWF σ) :
    Fn.getProp (absSt σ) (.ref a) x = .ok (getP σ a x) (absSt σ) := by
  rw [getProp_abs]
  unfold Fn.getPropD getP
  simp only [absSt_obj, absSt_heap_length, absSt_envs_length]
  cases ho : σ.obj? a with
  | none => simp [getPropertyP, ownP, ho]
  | some o =>
    -- off the parameter map, both sides walk the prototype chain
    have chain : mapGetP σ o x = none → Fn.getChain (absSt σ) (σ.heap.length + 1) a x =
        (match getPropertyP σ (σ.heap.length + 1) a x with | some p => p.value | none => .undef) := by
      intro hm
      rw [getChain_spec σ x hv hnp _ a (by intro o' ho'; rw [ho] at ho'; cases ho'; exact hm)]
      cases getPropertyP σ (σ.heap.length + 1) a x <;> rfl
    simp only [Option.map_some, absObj_kind]
    cases hval : o.val with
    | arguments ipn st =>
      have ⟨hst, hmap⟩ := haw a o ipn st ho hval
      simp only [absKind]
      cases hidx : Fn.idx? x with
      | none =>
        have hm : mapGetP σ o x = none := by simp [mapGetP, hval, FnM.arrayIndex, hidx]
        simp only [hm, chain hm]
      | some i =>
        cases hpn : ipn[i]? with
        | none =>
          have hm : mapGetP σ o x = none := by simp [mapGetP, hval, FnM.arrayIndex, hidx, hpn]
          simp only [hm, List.getElem?_map, hpn, Option.map_none, chain hm]
        | some pn =>
          by_cases hpe : pn = ""
          · have hm : mapGetP σ o x = none := by simp [mapGetP, hval, FnM.arrayIndex, hidx, hpn, hpe]
            simp only [hm, List.getElem?_map, hpn, Option.map_some, optName, hpe, if_true, chain hm]
          · obtain ⟨p, hp, hmut⟩ := hmap i pn hpn hpe
            have hm : mapGetP σ o x = some (dclGetP σ st pn) := by simp [mapGetP, hval, FnM.arrayIndex, hidx, hpn, hpe]
            simp only [hm, List.getElem?_map, hpn, Option.map_some, optName, hpe, if_false]
            have he := absSt_env_dcl σ st pn p hp
            simp [Fn.envLookup, hst, he, absDcl_lookup, dclGetP, hp, hmut]
    | error n =>
      have hm : mapGetP σ o x = none := by simp [mapGetP, hval]
      simp only [hm, absKind]
      by_cases hx : x = "name"
      · subst hx
        have := hew a o n ho hval
        simp only [getP, ho, hm] at this
        simp [this]
      · simp only [hx, if_false, chain hm]
    | none | string s | nodeFn nd st | bindFn t th as | native nm =>
      have hm : mapGetP σ o x = none := by simp [mapGetP, hval]
      simp only [hm, absKind, chain hm]

/-- results: a Go panic carrying an ottoError corresponds to ES5 throwing a fresh Error object -/
def absR {α : Type} : FnM.R α → Fn.Res α
  | .ok a σ => .ok a (absSt σ)
  | .throw (.val v) σ => .throw v (absSt σ)
  | .throw (.err n) σ => Fn.throwErr (absSt σ) n
  | .fuel => .fuel

/-- every binding of a declarative stash can be read (mutable, or the readable immutable binding of a
    named function expression) -/
def StashReadable (σ : FnM.St) : Prop :=
  ∀ j x p, Fn.lookupA x (FnM.dclProps σ j) = some p → p.mutable_ = true ∨ p.readable = true

theorem newReference_obj (σ : FnM.St) (j : Nat) (x : String) (outer : Option Nat) (o : Nat)
    (h : σ.stash? j = some (.obj outer o)) : FnM.newReference σ j x = .prop (some o) x := by
  simp [FnM.newReference, h]

/-- **GetValue on an identifier reference** (§8.7.1 with §10.2.1.1.4 / §10.2.1.2.4): otto reads, without touching the
    state, the value ES5 reads from the environment record the name resolved to -/
theorem getValue_ident_spec (σ : FnM.St) (x : String) (hv : Visible σ x) (h0 : WF0 σ) (hnp : NoArgsProto σ)
    (haw : ArgsWF σ) (hew : ErrWF σ) (hsr : StashReadable σ) (j : Nat) :
    ∃ v, FnM.refGetValue (FnM.newReference σ j x) σ = .ok v σ ∧ Fn.envGet (absSt σ) j x = .ok v (absSt σ) := by
  -- an object record (the global one is record 0): [[Get]] on its object
  have hobj : ∀ outer o, σ.stash? j = some (.obj outer o) → Fn.envGet (absSt σ) j x = Fn.getProp (absSt σ) (.ref o) x →
      ∃ v, FnM.refGetValue (FnM.newReference σ j x) σ = .ok v σ ∧ Fn.envGet (absSt σ) j x = .ok v (absSt σ) := by
    intro outer o hs he
    refine ⟨getP σ o x, ?_, he.trans (getProp_spec σ o x hv hnp haw hew)⟩
    rw [newReference_obj σ j x outer o hs]
    simp only [FnM.refGetValue, objGetA_run σ x hv, objGet_run]
  by_cases hj : j = 0
  · subst hj
    exact hobj none FnM.gObj h0.stash (by simp only [Fn.envGet, if_true]; rfl)
  · cases hs : σ.stash? j with
    | none => exact ⟨.undef, by simp [FnM.newReference, hs, FnM.refGetValue, FnM.getBinding], by simp [Fn.envGet, hj, absSt_env, hs]⟩
    | some st =>
      cases st with
      | obj outer o => exact hobj outer o hs (by simp [Fn.envGet, hj, absSt_env, hs, absStash])
      | dcl outer ps | fn outer ps ar =>
        have hd : FnM.dclProps σ j = ps := by simp [FnM.dclProps, hs]
        refine ⟨dclGetP σ j x, by simp [FnM.newReference, hs, FnM.refGetValue, FnM.getBinding, dclGetBinding_run], ?_⟩
        simp only [Fn.envGet, hj, if_false, absSt_env, hs, Option.map_some, absStash, absDcl_lookup, dclGetP, hd]
        cases hl : Fn.lookupA x ps with
        | none => rfl
        | some p => rcases hsr j x p (by rw [hd]; exact hl) with h | h <;> simp [h, absDcl]

/-! The two evaluators on an identifier, stated next to identifier resolution: the first `rw [Fn.evalE]` /
    `rw [FnM.evalE]` along a chain of imports is the slow one, and every later module inherits this one. -/

theorem evalE_var_run (n : Nat) (x : String) (sc : FnM.Scope) (rest : List FnM.Scope) (σ : FnM.St)
    (hsc : σ.scopes = sc :: rest) (hv : Visible σ x) (h0 : WF0 σ) :
    FnM.evalE (n+1) (.var x) σ =
      .ok (.ref (refOf σ x (Fn.envResolve (absSt σ) (σ.stashes.length + 1) sc.lexical x))) σ := by
  simp only [FnM.evalE, bind_run, curScope_run σ sc rest hsc, stashFuel_run,
    resolve_spec σ x hv h0 (σ.stashes.length + 1) sc.lexical, pure_run]

theorem spec_var (n : Nat) (x : String) (c : Fn.Ctx) (s : Fn.St) :
    Fn.evalE (n+1) (.var x) c s =
      match Fn.envResolve s (s.envs.length + 1) c.env x with
      | some i => Fn.envGet s i x
      | none => Fn.throwErr s "ReferenceError" := by
  rw [Fn.evalE]
  rfl

end OttoVerif.C01.FnRefine
