/-
  C01/RefineProof — proof of the simulation, by induction on the model's fuel with the spec's fuel
  universally quantified: one statement per evaluator of the mutual block that needs one (`PS`, `PList`,
  `PDoWhile`, `PFor`, `PCases`), each proved at fuel n+1 from those it calls at fuel n and collected in
  `pall_all`.  A pass over a loop body and the statements of a switch clause ARE the statement list run by
  `ottoList`, followed by a dispatch on its completion (`ottoBody_eq`, `ottoClause_eq`), `ottoVars` calls no
  other evaluator (`vars_sim`), and `while (c) b` is run as `for (; c; ) b` on both sides (`ottoWhile_eq_for`,
  `specWhile_eq_for`), so none of these has a statement of its own.
-/
import OttoVerif.C01.RefineRel
namespace OttoVerif.C01
variable {St : Type}

section
variable (S : Sem St)

def PS (n : Nat) : Prop := ∀ m {s L ls iter} σ, Pending L ls → wlS iter ls s = true →
    Sim L iter (ottoS S n s L σ) (specS S m ls s σ)

def PList (n : Nat) : Prop := ∀ m {ss iter} σ result, isResult result = false → wlList iter ss = true →
    Sim [] iter (ottoList S n ss [] σ result) (listWrap (ovVal result) (specList S m ss σ))

def PDoWhile (n : Nat) : Prop := ∀ m c {b L ls iter} σ result V,
    Pending L ls → wlS (ls ++ iter) [] b = true → isResult result = false → ovVal result = V →
    Sim L iter (ottoDoWhile S n (bodyList b) c (L ++ [""]) [] σ result) (specDoWhile S m ("" :: ls) b c σ V)

def PFor (n : Nat) : Prop := ∀ m test update {b L ls iter} σ result V,
    Pending L ls → wlS (ls ++ iter) [] b = true → isResult result = false → ovVal result = V →
    Sim L iter (ottoFor S n test update (bodyList b) (L ++ [""]) [] σ result) (specFor S m ("" :: ls) test update b σ V)

def PCases (n : Nat) : Prop := ∀ m {cs} labels {iter} σ result V, wlCases iter cs = true → isResult result = false →
    ovVal result = V →
    ClauseRel labels iter (ottoCases S n cs labels [] σ result) (specCases S m cs σ V)

theorem vars_sim : ∀ n m es L iter σ, Sim L iter (ottoVars S n es L σ) (specVars S m es σ) := by
  intro n
  induction n with
  | zero => intro m es L iter σ; exact True.intro
  | succ n ih =>
    intro m es L iter σ
    cases m with
    | zero => exact sim_fuel_r _ _ _
    | succ m =>
      cases es with
      | nil => exact sim_ok σ (labok_refl _) (kindrel_nonresult_normal rfl rfl rfl)
      | cons e es =>
        simp only [ottoVars, specVars]
        cases S.evalE e σ with
        | ok v σ' => exact ih m es L iter σ'
        | throw v σ' => exact sim_throw v σ' (labok_refl _)

theorem plist_step (n : Nat) (hS : PS S n) (hL : PList S n) : PList S (n+1) := by
  intro m ss iter σ result hres hwl
  cases m with
  | zero => exact sim_fuel_r _ _ _
  | succ m =>
    cases ss with
    | nil => exact sim_ok σ (labok_refl _) (kindrel_nonresult_normal hres rfl rfl)
    | cons s ss =>
      simp only [wlList, Bool.and_eq_true] at hwl
      simp only [ottoList, specList]
      refine (hS m σ .nil hwl.1).elim_rest ?_ ?_ ?_ ?_ ?_
      · intro sr; exact True.intro
      · intro mr; exact sim_fuel_r _ _ _
      · intro o σ' c hr hn hv
        simp only [hr, abrupt_of_normal hn, Bool.false_eq_true, if_false]
        rw [listWrap_listWrap, ← hv, ← ovVal_nextResult hr]
        exact hL m σ' (nextResult o result) (nextResult_notResult hr hres) hwl.2
      · intro o σ' c hr ha hk
        simp only [hr, ha, if_true]
        exact sim_ok σ' (labok_refl _) (kindrel_carrying _ hr hres hk rfl)
      · intro v σ'; exact sim_throw v σ' (labok_refl _)

/-- a pass over a loop body is the statement list started from `pass`, then `bodyWrap`: the `result` handed along
    is `pass` laid over `r0`, the loop's value before the pass -/
theorem ottoBody_eq (labels : List String) (r0 : OV) : ∀ n ss L σ pass, isResult pass = false →
    ottoBody S n ss labels L σ (nextResult pass r0) pass = bodyWrap labels r0 (ottoList S n ss L σ pass) := by
  intro n
  induction n with
  | zero => intro ss L σ pass _; rfl
  | succ n ih =>
    intro ss L σ pass hp
    cases ss with
    | nil => simp only [ottoBody, ottoList, bodyWrap, hp, Bool.false_eq_true, if_false]
    | cons s ss =>
      simp only [ottoBody, ottoList]
      cases ottoS S n s L σ with
      | fuel => rfl
      | throw v L' σ' => rfl
      | ok o L' σ' =>
        simp only
        cases hr : isResult o with
        | false =>
          simp only [Bool.false_eq_true, if_false]
          rw [nextResult_assoc, ih ss L' σ' _ (nextResult_notResult hr hp)]
        | true =>
          simp only [if_true, bodyWrap, carrying_isResult, hr, bodyResult, evalBC_carrying, carrying_empty]
          cases he : evalBC labels o with
          | ret => rfl
          | brk => obtain ⟨t, x, rfl, _⟩ := evalBC_brk he; rw [carried_carrying (o := .brk t x) r0 rfl nofun hp]
          | cont => obtain ⟨t, x, rfl, _⟩ := evalBC_cont he; rw [carried_carrying (o := .cont t x) r0 rfl nofun hp]

/-- the statements of a switch clause are the statement list started from the value so far, then `clauseWrap` -/
theorem ottoClause_eq (labels : List String) : ∀ n ss L σ result, isResult result = false →
    ottoClause S n ss labels L σ result = clauseWrap labels (ottoList S n ss L σ result) := by
  intro n
  induction n with
  | zero => intro ss L σ result _; rfl
  | succ n ih =>
    intro ss L σ result hp
    cases ss with
    | nil => simp only [ottoClause, ottoList, clauseWrap, hp, Bool.false_eq_true, if_false]
    | cons s ss =>
      simp only [ottoClause, ottoList]
      cases ottoS S n s L σ with
      | fuel => rfl
      | throw v L' σ' => rfl
      | ok o L' σ' =>
        simp only
        cases hr : isResult o with
        | false =>
          simp only [Bool.false_eq_true, if_false]
          exact ih ss L' σ' _ (nextResult_notResult hr hp)
        | true =>
          simp only [if_true, clauseWrap, carrying_isResult, hr, isBreakIn_carrying]
          cases hb : isBreakIn labels o with
          | false => rfl
          | true =>
            obtain ⟨t, x, rfl, _⟩ := isBreakIn_true hb
            simp only [if_true]
            rw [carried_carrying (o := .brk t x) .empty rfl nofun hp, nextResult_empty_r hp]

/-- §12.11 reads a clause's completion only with the CaseBlock's value so far filled in -/
theorem specCases_cons (m : Nat) (e : Option Expr) (body : Stmts) (cs : Cases) (σ : St) (V : Option Val) :
    specCases S (m+1) (.cons e body cs) σ V =
      match listWrap V (specList S m body σ) with
      | .ok R σ' => if R.abrupt then .ok R σ' else specCases S m cs σ' R.v
      | r => r := by
  simp only [specCases]
  cases specList S m body σ <;> rfl

/-- a one-statement list completes as its statement does (§12.1) -/
theorem specList_single (m : Nat) (b : Stmt) (σ : St) :
    specList S (m+2) (.cons b .nil) σ = specS S (m+1) [] b σ := by
  simp only [specList]
  cases specS S (m+1) [] b σ with
  | fuel => rfl
  | throw v σ' => rfl
  | ok c σ' =>
    obtain ⟨t, v⟩ := c
    cases t <;> simp [Comp.abrupt, listWrap, pick_none]

/-- a loop body is a block's list or a single statement (`bodyList`); either way it runs as a statement list -/
theorem body_sim (n : Nat) (hL : PList S n) (m : Nat) {b : Stmt} {iter : List String} (σ : St)
    (hwl : wlS iter [] b = true) : Sim [] iter (ottoList S n (bodyList b) [] σ .empty) (specS S m [] b σ) := by
  have hlist : ∀ m ss, wlList iter ss = true → Sim [] iter (ottoList S n ss [] σ .empty) (specList S m ss σ) :=
    fun m ss h => by have := hL m σ .empty rfl h; rwa [ovVal_empty, listWrap_none] at this
  cases m with
  | zero => exact sim_fuel_r _ _ _
  | succ m =>
    by_cases hb : ∃ ss, b = .block ss
    · obtain ⟨ss, rfl⟩ := hb
      exact hlist m ss hwl
    · have hbl : bodyList b = .cons b .nil := by
        cases b with
        | block ss => exact absurd ⟨ss, rfl⟩ hb
        | _ => rfl
      rw [hbl, ← specList_single]
      exact hlist (m+2) _ (by simp only [wlList, hwl, Bool.and_self])

/-- one pass over the body of a loop, and what the loop makes of it -/
theorem loop_pass (n : Nat) (hL : PList S n) (m : Nat) {b : Stmt} {L ls iter : List String} (hp : Pending L ls) (σ : St)
    {result : OV} (hwl : wlS (ls ++ iter) [] b = true) (hres : isResult result = false)
    {again : OV → List String → St → MR St} {sagain : Option Val → St → SR St}
    (hagain : ∀ r σ2 V', isResult r = false → ovVal r = V' → Sim L iter (again r [] σ2) (sagain V' σ2)) :
    Sim L iter (loopStep again (ottoBody S n (bodyList b) (L ++ [""]) [] σ result .empty))
      (sLoopStep ("" :: ls) (ovVal result) sagain (specS S m [] b σ)) := by
  rw [show ottoBody S n (bodyList b) (L ++ [""]) [] σ result .empty = _ from
    ottoBody_eq S (L ++ [""]) result n (bodyList b) [] σ .empty rfl]
  exact loop_pass_sim hp hres (body_sim S n hL m σ hwl) hagain

theorem pcases_step (n : Nat) (hL : PList S n) (hC : PCases S n) : PCases S (n+1) := by
  intro m cs labels iter σ result V hwl hres hV
  subst hV
  cases m with
  | zero => exact clauserel_fuel_r _ _ _
  | succ m =>
    cases cs with
    | nil => exact ⟨rfl, rfl, rfl, hres, rfl⟩
    | cons test body cs =>
      simp only [wlCases, Bool.and_eq_true] at hwl
      rw [specCases_cons]
      simp only [ottoCases, ottoClause_eq S labels n body [] σ result hres]
      refine (clauseWrap_rel (labels := labels) (hL m σ result hres hwl.1)).elim ?_ ?_ ?_ ?_ ?_ ?_
      · intro sr; exact True.intro
      · intro br; exact clauserel_fuel_r _ _ _
      · intro r σ' R hn hr hv
        simp only [abrupt_of_normal hn, Bool.false_eq_true, if_false]
        exact hC m labels σ' r _ hwl.2 hr hv
      · intro r σ' R t ht htl hr hv
        have ha : R.abrupt = true := by simp [Comp.abrupt, ht]
        simp only [ha, if_true]
        exact ⟨rfl, rfl, ⟨t, ht, htl⟩, hr, hv⟩
      · intro o σ' R hk hr hb
        simp only [kindrel_result_abrupt hr hk, if_true]
        exact ⟨rfl, rfl, hk, hr, hb⟩
      · intro v σ'; exact ⟨rfl, rfl, rfl⟩

/-- `while (c) b` runs as `for (; c; ) b`, in otto and in ES5 -/
theorem ottoWhile_eq_for (c : Expr) (body : Stmts) (labels : List String) : ∀ n L σ r,
    ottoWhile S n c body labels L σ r = ottoFor S n (some c) none body labels L σ r := by
  intro n
  induction n with
  | zero => intro L σ r; rfl
  | succ n ih => intro L σ r; simp only [ottoWhile, ottoFor, ih]

theorem specWhile_eq_for (cls : List String) (c : Expr) (b : Stmt) : ∀ n σ V,
    specWhile S n cls c b σ V = specFor S n cls (some c) none b σ V := by
  intro n
  induction n with
  | zero => intro σ V; rfl
  | succ n ih => intro σ V; simp only [specWhile, specFor, ih]

/-- a loop's test: it throws, ends the loop with the value so far, or lets it go on -/
theorem test_sim {L iter : List String} (c : Expr) (σ : St) {r : OV} {V : Option Val}
    {go : St → MR St} {sgo : St → SR St} (hr : isResult r = false) (hv : ovVal r = V)
    (hgo : ∀ σ', Sim L iter (go σ') (sgo σ')) :
    Sim L iter
      (match S.evalE c σ with
        | .throw v σ' => .throw v [] σ'
        | .ok v σ' => if (!S.truthy v) = true then .ok r [] σ' else go σ')
      (match S.evalE c σ with
        | .throw v σ' => .throw v σ'
        | .ok v σ' => if (!S.truthy v) = true then .ok ⟨.normal, V⟩ σ' else sgo σ') := by
  cases S.evalE c σ with
  | throw v σ' => exact sim_throw v σ' (labok_nil _)
  | ok v σ' =>
    simp only
    cases S.truthy v with
    | false => exact sim_ok σ' (labok_nil _) (kindrel_nonresult_normal (c := ⟨.normal, V⟩) hr rfl hv)
    | true => exact hgo σ'

theorem pdowhile_step (n : Nat) (hL : PList S n) (hW : PDoWhile S n) : PDoWhile S (n+1) := by
  intro m c b L ls iter σ result V hp hwl hres hV
  subst hV
  cases m with
  | zero => exact sim_fuel_r _ _ _
  | succ m =>
    simp only [ottoDoWhile, specDoWhile]
    exact loop_pass S n hL m hp σ hwl hres fun r σ2 V' hr hv =>
      test_sim S c σ2 hr hv fun σ3 => hW m c σ3 r V' hp hwl hr hv

theorem pfor_step (n : Nat) (hL : PList S n) (hW : PFor S n) : PFor S (n+1) := by
  intro m test update b L ls iter σ result V hp hwl hres hV
  subst hV
  cases m with
  | zero => exact sim_fuel_r _ _ _
  | succ m =>
    -- after a pass: the update expression, then round again
    have hupd : ∀ r σ2 V', isResult r = false → ovVal r = V' → Sim L iter
        (match (generalizing := false) update with
          | none => ottoFor S n test update (bodyList b) (L ++ [""]) [] σ2 r
          | some u =>
            match S.evalE u σ2 with
            | .throw v σ3 => .throw v [] σ3
            | .ok _ σ3 => ottoFor S n test update (bodyList b) (L ++ [""]) [] σ3 r)
        (match update with
          | none => specFor S m ("" :: ls) test update b σ2 V'
          | some u =>
            match S.evalE u σ2 with
            | .throw v σ3 => .throw v σ3
            | .ok _ σ3 => specFor S m ("" :: ls) test update b σ3 V') := by
      intro r σ2 V' hr hv
      cases update with
      | none => exact hW m test none σ2 r V' hp hwl hr hv
      | some u =>
        simp only
        cases S.evalE u σ2 with
        | throw v σ3 => exact sim_throw v σ3 (labok_nil _)
        | ok v σ3 => exact hW m test (some u) σ3 r V' hp hwl hr hv
    simp only [ottoFor, specFor]
    cases test with
    | none => exact loop_pass S n hL m hp σ hwl hres hupd
    | some t => exact test_sim S t σ hres rfl fun σ' => loop_pass S n hL m hp σ' hwl hres hupd

theorem sDefaultIdx_eq : ∀ (cs : Cases) (i : Nat), sDefaultIdx cs i = defaultIdx cs i
  | .nil, _ => rfl
  | .cons none _ _, _ => rfl
  | .cons (some _) _ cs, i => sDefaultIdx_eq cs (i+1)

theorem sDropCases_eq : ∀ (k : Nat) (cs : Cases), sDropCases k cs = dropCases k cs
  | 0, _ => rfl
  | _+1, .nil => rfl
  | k+1, .cons _ _ cs => sDropCases_eq k cs

theorem wlCases_drop (iter : List String) : ∀ (k : Nat) (cs : Cases), wlCases iter cs = true →
    wlCases iter (dropCases k cs) = true
  | 0, _, h => h
  | _+1, .nil, h => h
  | k+1, .cons _ _ cs, h => by
    simp only [wlCases, Bool.and_eq_true] at h
    exact wlCases_drop iter k cs h.2

def frToSfr : FR St → SFR St
  | .found idx σ' => .found idx σ'
  | .throw v σ' => .throw v σ'

/-- the two case searches are the same function -/
theorem findCase_eq (dv : Val) : ∀ (cs : Cases) (i : Nat) (σ : St),
    frToSfr (findCase S dv cs i σ) = sFindCase S dv cs i σ
  | .nil, _, _ => rfl
  | .cons none _ cs, i, σ => findCase_eq dv cs (i+1) σ
  | .cons (some e) _ cs, i, σ => by
    simp only [findCase, sFindCase]
    cases S.evalE e σ with
    | throw v σ' => rfl
    | ok v σ' =>
      simp only
      cases S.strictEq dv v with
      | true => rfl
      | false => exact findCase_eq dv cs (i+1) σ'

theorem ps_step (n : Nat) (hS : PS S n) (hL : PList S n)
    (hD : PDoWhile S n) (hF : PFor S n) (hC : PCases S n) : PS S (n+1) := by
  intro m s L ls iter σ hp hwl
  have hblock : ∀ (L : List String) (m : Nat) (ss : Stmts) (σ0 : St), wlList iter ss = true →
      SimN L iter (blockWrap L (ottoList S n ss [] σ0 .empty)) (specList S m ss σ0) := by
    intro L m ss σ0 h
    have := hL m σ0 .empty rfl h
    rw [ovVal_empty, listWrap_none] at this
    exact block_simN this
  -- a substatement of `if` / `with` starts with nothing pending and leaves nothing pending
  have hsub : ∀ (m : Nat) (s : Stmt) (σ0 : St), wlS iter [] s = true →
      Sim L iter (ottoS S n s [] σ0) (specS S m [] s σ0) :=
    fun m s σ0 h => simN_sim (simN_weaken_nil (sim_nil_simN (hS m σ0 .nil h)))
  have hval : ∀ (o : OV) (t : CT) (σ0 : St), KindRelT L iter o ⟨t, ovVal o⟩ →
      Sim L iter (.ok o L σ0) (.ok ⟨t, ovVal o⟩ σ0) :=
    fun o t σ0 h => sim_ok σ0 (labok_refl _) ⟨h, rfl⟩
  cases m with
  | zero => exact sim_fuel_r _ _ _
  | succ m =>
    cases s with
    | empty => exact hval .empty .normal σ (Or.inl rfl)
    | expr e =>
      simp only [ottoS, specS]
      cases S.evalE e σ with
      | ok v σ' => exact hval (.val v) .normal σ' (Or.inl rfl)
      | throw v σ' => exact sim_throw v σ' (labok_refl _)
    | varS inits => exact vars_sim S n m inits L iter σ
    | block ss => exact simN_sim (hblock L m ss σ hwl)
    | ifS c t e =>
      simp only [wlS, Bool.and_eq_true] at hwl
      simp only [ottoS, specS]
      cases S.evalE c σ with
      | throw v σ' => exact sim_throw v σ' (labok_refl _)
      | ok v σ' =>
        simp only
        cases S.truthy v with
        | true => exact hsub m t σ' hwl.1
        | false => exact hsub m e σ' hwl.2
    | whileS c b =>
      simp only [ottoS, specS]
      rw [ottoWhile_eq_for, specWhile_eq_for]
      exact hF m (some c) none σ .empty none hp hwl rfl rfl
    | doWhile b c => exact hD m c σ .empty none hp hwl rfl rfl
    | forS init test update b =>
      simp only [ottoS, specS]
      cases init with
      | none => exact hF m test update σ .empty none hp hwl rfl rfl
      | some e =>
        simp only
        cases S.evalE e σ with
        | throw v σ' => exact sim_throw v σ' (labok_nil _)
        | ok v σ' => exact hF m test update σ' .empty none hp hwl rfl rfl
    | labelled l s =>
      simp only [wlS, Bool.and_eq_true] at hwl
      exact label_sim (hS m σ hp.label hwl.2)
    | brk t => exact hval (.brk t none) (.brk t) σ rfl
    | cont t =>
      simp only [wlS, Bool.or_eq_true, decide_eq_true_eq, List.contains_eq_mem] at hwl
      exact hval (.cont t none) (.cont t) σ ⟨rfl, hwl⟩
    | ret e =>
      cases e with
      | none => exact hval (.ret .undef) .ret σ rfl
      | some e =>
        simp only [ottoS, specS]
        cases S.evalE e σ with
        | ok v σ' => exact hval (.ret v) .ret σ' rfl
        | throw v σ' => exact sim_throw v σ' (labok_refl _)
    | throwS e =>
      simp only [ottoS, specS]
      cases S.evalE e σ with
      | ok v σ' => exact sim_throw v σ' (labok_refl _)
      | throw v σ' => exact sim_throw v σ' (labok_refl _)
    | tryS b hasCatch param c hasFin f =>
      simp only [wlS, Bool.and_eq_true] at hwl
      exact simN_sim (finally_simN hasFin
        (catch_simN S hasCatch param (hblock L m b σ hwl.1.1) fun σ1 => simN_weaken_nil (hblock [] m c σ1 hwl.1.2))
        fun σ2 => hblock [] m f σ2 hwl.2)
    | withS e b =>
      simp only [ottoS, specS]
      cases S.evalE e σ with
      | throw v σ' => exact sim_throw v σ' (labok_refl _)
      | ok v σ' =>
        simp only
        cases S.withEnter v σ' with
        | throw t σ2 => exact sim_throw t σ2 (labok_refl _)
        | ok w σ2 => exact withExit_sim S (hsub m b σ2 hwl)
    | switchS d cs =>
      simp only [ottoS, specS]
      cases S.evalE d σ with
      | throw v σ' => exact sim_throw v σ' (labok_nil _)
      | ok dv σ' =>
        simp only
        rw [← findCase_eq S dv cs 0 σ']
        cases findCase S dv cs 0 σ' with
        | throw v σ'' => exact sim_throw v σ'' (labok_nil _)
        | found idx σ'' =>
          simp only [frToSfr, sDefaultIdx_eq]
          have hrun : ∀ k, Sim L iter (switchWrap (ottoCases S n (dropCases k cs) (L ++ [""]) [] σ'' OV.empty))
              (sSwitchWrap ("" :: ls) (specCases S m (sDropCases k cs) σ'' none)) := by
            intro k
            rw [sDropCases_eq]
            exact switch_sim hp (hC m (L ++ [""]) σ'' .empty none
              (wlCases_drop iter k cs hwl) rfl rfl)
          cases idx with
          | some i => exact hrun i
          | none =>
            simp only
            cases defaultIdx cs 0 with
            | none => exact sim_ok σ'' (labok_nil _) (kindrel_nonresult_normal rfl rfl rfl)
            | some k => exact hrun k

def PAll (n : Nat) : Prop :=
  PS S n ∧ PList S n ∧ PDoWhile S n ∧ PFor S n ∧ PCases S n

theorem pall_all : ∀ n, PAll S n := by
  intro n
  induction n with
  | zero =>
    -- without fuel every evaluator of the model answers `fuel`
    refine ⟨?_, ?_, ?_, ?_, ?_⟩
    all_goals intro m; intros; exact True.intro
  | succ n ih =>
    obtain ⟨hS, hL, hD, hF, hC⟩ := ih
    exact ⟨ps_step S n hS hL hD hF hC, plist_step S n hS hL, pdowhile_step S n hL hD, pfor_step S n hL hF,
      pcases_step S n hL hC⟩

end

end OttoVerif.C01
