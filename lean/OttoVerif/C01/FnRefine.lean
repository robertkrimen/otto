/-
  C01/FnRefine — the abstraction from FnModel's data (otto's layout: ordered property maps with mode
  bits, stashes, references) to FnSpec's (ES5 environment records and objects).  Addresses are kept
  (object a ↦ object a, stash i ↦ environment i).  The refinement lemmas are bottom-up, in
  FnRefineGet, FnRefineShape, FnRefinePut, FnRefineCall, FnRefineEval and FnRefineLW: the model's operations, run on a
  state σ, compute what the spec's operations compute on `absSt σ`.  The ledger is FnTheorems.lean.
  Here: the model's monad, the abstraction, and how it commutes with a lookup, an update, an appended entry and a removal.
-/
import OttoVerif.C01.FnModel
import OttoVerif.C01.FnAList
namespace OttoVerif.C01.FnRefine
open OttoVerif.C01

@[simp] theorem pure_run {α : Type} (a : α) (σ : FnM.St) : (pure a : FnM.M α) σ = .ok a σ := rfl

@[simp] theorem bind_run {α β : Type} (m : FnM.M α) (f : α → FnM.M β) (σ : FnM.St) :
    (m >>= f) σ = match m σ with
      | .ok a σ' => f a σ'
      | .throw t σ' => .throw t σ'
      | .fuel => .fuel := rfl

instance : LawfulMonad FnM.M := LawfulMonad.mk'
  (id_map := fun x => by funext σ; show (x >>= _) σ = _; rw [bind_run]; cases x σ <;> rfl)
  (pure_bind := fun _ _ => rfl)
  (bind_assoc := fun x _ _ => by funext σ; simp only [bind_run]; cases x σ <;> rfl)

@[simp] theorem map_run {α β : Type} (f : α → β) (m : FnM.M α) (σ : FnM.St) :
    (f <$> m) σ = match m σ with
      | .ok a σ' => .ok (f a) σ'
      | .throw t σ' => .throw t σ'
      | .fuel => .fuel := rfl

@[simp] theorem getSt_run (σ : FnM.St) : FnM.getSt σ = .ok σ σ := rfl
@[simp] theorem chainFuel_run (σ : FnM.St) : FnM.chainFuel σ = .ok (σ.heap.length + 1) σ := rfl
@[simp] theorem stashFuel_run (σ : FnM.St) : FnM.stashFuel σ = .ok (σ.stashes.length + 1) σ := rfl

@[simp] theorem modifySt_run (f : FnM.St → FnM.St) (σ : FnM.St) : FnM.modifySt f σ = .ok () (f σ) := rfl

theorem setObj_run (a : Nat) (o : FnM.Obj) (σ : FnM.St) :
    FnM.setObj a o σ = .ok () { σ with heap := Fn.setNth σ.heap a o } := rfl

theorem setStash_run (j : Nat) (s : FnM.Stash) (σ : FnM.St) :
    FnM.setStash j s σ = .ok () { σ with stashes := Fn.setNth σ.stashes j s } := rfl

theorem curScope_run (σ : FnM.St) (sc : FnM.Scope) (rest : List FnM.Scope) (h : σ.scopes = sc :: rest) :
    FnM.curScope σ = .ok sc σ := by
  simp [FnM.curScope, h]

theorem allocObj_run (o : FnM.Obj) (σ : FnM.St) : FnM.allocObj o σ = .ok σ.heap.length { σ with heap := σ.heap ++ [o] } := rfl

theorem optMap_some {α β : Type} {f : α → β} {a b : Option α} (h : a.map f = b.map f) {y : α} (hb : b = some y) :
    ∃ x, a = some x ∧ f x = f y := by
  subst hb
  cases a with
  | none => simp at h
  | some x => exact ⟨x, rfl, by simpa using h⟩

theorem optMap_none {α β : Type} {f : α → β} {a b : Option α} (h : a.map f = b.map f) (hb : b = none) : a = none := by
  subst hb
  cases a with
  | none => rfl
  | some x => simp at h

theorem digitsVal_eq (l : List Char) (hd : ∀ c ∈ l, c.isDigit = true) :
    ∀ acc, Fn.digitsVal l acc = some (Nat.ofDigitChars 10 l acc) := by
  induction l with
  | nil => intro acc; rfl
  | cons c r ih =>
    intro acc
    have hc := hd c List.mem_cons_self
    have hc' : '0' ≤ c ∧ c ≤ '9' := by
      simp only [Char.isDigit, Bool.and_eq_true, decide_eq_true_eq] at hc
      exact ⟨by simpa [Char.le_def] using hc.1, by simpa [Char.le_def] using hc.2⟩
    simp only [Fn.digitsVal, hc', and_self, if_true, Nat.ofDigitChars_cons]
    rw [ih (fun c' h' => hd c' (List.mem_cons_of_mem _ h'))]
    congr 2
    rw [Nat.mul_comm]

theorem ofDigitChars_lt (l : List Char) (hd : ∀ c ∈ l, c.isDigit = true) : Nat.ofDigitChars 10 l 0 < 10 ^ l.length := by
  induction l with
  | nil => simp
  | cons c r ih =>
    have hr := ih (fun c' h' => hd c' (List.mem_cons_of_mem _ h'))
    have hc := hd c List.mem_cons_self
    have hc9 : c.toNat - '0'.toNat ≤ 9 := by
      simp only [Char.isDigit, Bool.and_eq_true, decide_eq_true_eq, UInt32.le_iff_toNat_le] at hc
      have h57 : c.val.toNat ≤ 57 := hc.2
      have hcn : c.toNat = c.val.toNat := rfl
      have h0 : '0'.toNat = 48 := rfl
      omega
    rw [Nat.ofDigitChars_cons, Nat.ofDigitChars_eq_ofDigitChars_zero]
    simp only [Nat.mul_zero, Nat.zero_add, List.length_cons, Nat.pow_succ]
    have : 10 ^ r.length * (c.toNat - '0'.toNat) ≤ 10 ^ r.length * 9 := Nat.mul_le_mul_left _ hc9
    omega

theorem idx_toString (n : Nat) (h : n < 4294967295) : Fn.idx? (toString n) = some n := by
  have hl : (toString n).toList = Nat.toDigits 10 n := by rw [Nat.toString_eq_repr]; exact Nat.toList_repr
  have hdig : ∀ c ∈ Nat.toDigits 10 n, c.isDigit = true := fun c hc => Nat.isDigit_of_mem_toDigits (by decide) (by decide) hc
  have hval : Nat.ofDigitChars 10 (Nat.toDigits 10 n) 0 = n := Nat.ofDigitChars_ten_toDigits
  unfold Fn.idx?
  rw [hl]
  cases hk : Nat.toDigits 10 n with
  | nil => exact absurd hk Nat.toDigits_ne_nil
  | cons c r =>
    rw [hk] at hdig hval
    by_cases hc0 : c = '0'
    · subst hc0
      cases r with
      | nil =>
        have : n = 0 := by simpa [Nat.ofDigitChars_cons] using hval.symm
        subst this; rfl
      | cons c2 r2 =>
        exfalso
        have hlen : ¬ (Nat.toDigits 10 n).length ≤ (c2 :: r2).length := by rw [hk]; simp
        rw [Nat.length_toDigits_le_iff (by decide) (by simp)] at hlen
        have hlt := ofDigitChars_lt (c2 :: r2) (fun c' h' => hdig c' (List.mem_cons_of_mem _ h'))
        have : Nat.ofDigitChars 10 ('0' :: c2 :: r2) 0 = Nat.ofDigitChars 10 (c2 :: r2) 0 := by
          rw [Nat.ofDigitChars_cons]; simp
        rw [this] at hval
        omega
    · have hdv := digitsVal_eq (c :: r) hdig 0
      rw [hval] at hdv
      split
      · rename_i heq; cases heq
      · rename_i heq; simp at heq; exact absurd heq.1 hc0
      · rename_i heq; simp at heq; exact absurd heq.1 hc0
      · simp [hdv, h]

def optName (s : String) : Option String := if s = "" then none else some s

def absKind : FnM.OVal → Fn.OKind
  | .none => .plain
  | .nodeFn node st => .func node st
  | .bindFn t th as => .bound t th as
  | .native n => .builtin n
  | .arguments ipn st => .args (ipn.map optName) st
  | .string _ => .plain
  | .error n => .error n

/-- properties otto's function objects carry beyond ES5 (`name`, `caller`; a bound function's
    `arguments` and `prototype`): they are not part of the abstraction -/
def hidden (v : FnM.OVal) (name : String) : Bool :=
  match v with
  | .nodeFn .. => name == "name" || name == "caller"
  | .bindFn .. => name == "name" || name == "caller" || name == "arguments" || name == "prototype"
  | .native _ => name == "name"
  | _ => false

def absProps (o : FnM.Obj) : List (String × FnM.Pty) := o.props.filter fun p => !hidden o.val p.1

/-- `accs`, `readOnly` and `dontDelete` stay empty: the refinement is about names that are no accessor properties
    (`Visible`) in states whose read-only and fixed properties are the built-in ones, which FnSpec derives from the
    kind (`canPut`, `fixedProp`); `WritableWF` and the `hc` hypothesis of `delete_spec` say so on otto's side -/
def absObj (o : FnM.Obj) : Fn.Obj :=
  { props := (absProps o).map fun p => (p.1, p.2.value),
    proto := o.proto,
    kind := absKind o.val,
    dontEnum := ((absProps o).filter fun p => !p.2.e).map (·.1) }

def absDcl (ps : List (String × FnM.DclProp)) (outer : Option Nat) : Fn.Env :=
  { vars := ps.map fun p => (p.1, p.2.value),
    outer := outer,
    immut := (ps.filter fun p => !p.2.mutable_).map (·.1) }

def absStash : FnM.Stash → Fn.Env
  | .obj outer o => { vars := [], outer := outer, obj := some o }
  | .dcl outer ps => absDcl ps outer
  | .fn outer ps _ => absDcl ps outer

def absSt (σ : FnM.St) : Fn.St :=
  { heap := σ.heap.map absObj, envs := σ.stashes.map absStash, trace := σ.trace }

@[simp] theorem absObj_proto (o : FnM.Obj) : (absObj o).proto = o.proto := rfl
@[simp] theorem absObj_kind (o : FnM.Obj) : (absObj o).kind = absKind o.val := rfl

@[simp] theorem absSt_obj (σ : FnM.St) (a : Nat) : (absSt σ).obj? a = (σ.obj? a).map absObj := by
  simp [absSt, Fn.St.obj?, FnM.St.obj?]

theorem absSt_env (σ : FnM.St) (i : Nat) : (absSt σ).envs[i]? = (σ.stash? i).map absStash := by
  simp [absSt, FnM.St.stash?]

theorem absDcl_lookup (ps : List (String × FnM.DclProp)) (outer : Option Nat) (x : String) :
    Fn.lookupA x (absDcl ps outer).vars = (Fn.lookupA x ps).map (·.value) :=
  lookupA_map (fun q : FnM.DclProp => q.value) x ps

@[simp] theorem absSt_heap_length (σ : FnM.St) : (absSt σ).heap.length = σ.heap.length := by simp [absSt]
@[simp] theorem absSt_envs_length (σ : FnM.St) : (absSt σ).envs.length = σ.stashes.length := by simp [absSt]

theorem absObj_lookup (o : FnM.Obj) (x : String) (hx : hidden o.val x = false) :
    Fn.lookupA x (absObj o).props = (Fn.lookupA x o.props).map (·.value) := by
  simp only [absObj, absProps]
  rw [lookupA_map (fun p : FnM.Pty => p.value), lookupA_filter (fun k => !hidden o.val k) x]
  simp [hx]

theorem absObj_lookup_hidden (o : FnM.Obj) (x : String) (hx : hidden o.val x = true) :
    Fn.lookupA x (absObj o).props = none := by
  simp only [absObj, absProps]
  rw [lookupA_map (fun p : FnM.Pty => p.value), lookupA_filter (fun k => !hidden o.val k) x]
  simp [hx]

theorem absObj_update (o : FnM.Obj) (x : String) (d p0 : FnM.Pty) (hh : hidden o.val x = false)
    (hl : Fn.lookupA x o.props = some p0) (he : d.e = p0.e) :
    absObj { o with props := Fn.updateA x d o.props } = { absObj o with props := Fn.updateA x d.value (absObj o).props } := by
  have hq : (fun k => !hidden o.val k) x = true := by simp [hh]
  simp only [absObj, absProps]
  congr 1
  · rw [updateA_filter (fun k => !hidden o.val k) x d hq, updateA_mapk (fun _ (p : FnM.Pty) => p.value)]
  · rw [updateA_filter (fun k => !hidden o.val k) x d hq]
    apply updateA_filter_names (fun p : FnM.Pty => !p.e) x d _ p0 _ (by rw [he])
    rw [lookupA_filter (fun k => !hidden o.val k) x, if_pos hq]; exact hl

theorem absObj_append (o : FnM.Obj) (x : String) (d : FnM.Pty) (hh : hidden o.val x = false) (he : d.e = true) :
    absObj { o with props := o.props ++ [(x, d)] } = { absObj o with props := (absObj o).props ++ [(x, d.value)] } := by
  simp [absObj, absProps, List.filter_append, hh, he]

theorem absObj_dd (o : FnM.Obj) (x : String) : (absObj o).dontDelete.contains x = false := rfl

theorem absObj_remove (o : FnM.Obj) (x : String) (val' : FnM.OVal) (hh : hidden o.val x = false)
    (hsame : ∀ k, hidden val' k = hidden o.val k) (hn : (o.props.map (·.1)).Nodup) :
    absObj { o with props := Fn.removeA x o.props, val := val' } =
      { absObj o with props := Fn.removeA x (absObj o).props, kind := absKind val',
                      dontEnum := (absObj o).dontEnum.filter (· != x),
                      readOnly := (absObj o).readOnly.filter (· != x) } := by
  have hq : (fun k => !hidden o.val k) x = true := by simp [hh]
  have hfun : (fun p : String × FnM.Pty => !hidden val' p.1) = (fun p : String × FnM.Pty => !hidden o.val p.1) := by
    funext p; rw [hsame]
  simp only [absObj, absProps, hfun]
  congr 1
  · rw [removeA_filter (fun k => !hidden o.val k) x hq, removeA_map (fun p : FnM.Pty => p.value)]
  · rw [removeA_filter (fun k => !hidden o.val k) x hq]
    exact removeA_names (fun p : FnM.Pty => !p.e) x _ (hn.sublist (List.filter_sublist.map _))

theorem absSt_setObj (σ : FnM.St) (a : Nat) (o : FnM.Obj) :
    absSt { σ with heap := Fn.setNth σ.heap a o } = (absSt σ).setObj a (absObj o) := by
  simp [absSt, Fn.St.setObj, setNth_eq_set]

theorem absSt_setObj_self (σ : FnM.St) (a : Nat) (o : FnM.Obj) (ho : σ.obj? a = some o) :
    (absSt σ).setObj a (absObj o) = absSt σ := by
  simp only [Fn.St.setObj, absSt]
  congr 1
  apply setNth_self
  simp only [FnM.St.obj?] at ho
  simp [ho]

theorem immut_contains (ps : List (String × FnM.DclProp)) (outer : Option Nat) (x : String) (p : FnM.DclProp)
    (hn : (ps.map (·.1)).Nodup) (hl : Fn.lookupA x ps = some p) :
    (absDcl ps outer).immut.contains x = !p.mutable_ := by
  simp only [absDcl]
  cases hm : p.mutable_ with
  | true =>
    simp only [Bool.not_true]
    rw [Bool.eq_false_iff]
    intro hc
    simp only [List.contains_iff_mem, List.mem_map, List.mem_filter] at hc
    obtain ⟨⟨k, q⟩, ⟨hmem, hq⟩, hk⟩ := hc
    simp only at hk; subst hk
    have := nodup_lookup_unique k ps p q hn hl hmem
    subst this
    simp [hm] at hq
  | false =>
    simp only [Bool.not_false, List.contains_iff_mem, List.mem_map, List.mem_filter]
    exact ⟨(x, p), ⟨lookupA_mem x ps p hl, by simp [hm]⟩, rfl⟩

theorem absDcl_update (ps : List (String × FnM.DclProp)) (outer : Option Nat) (x : String) (v : Fn.V) (p : FnM.DclProp)
    (hl : Fn.lookupA x ps = some p) :
    absDcl (Fn.updateA x { p with value := v } ps) outer =
      { absDcl ps outer with vars := Fn.updateA x v (absDcl ps outer).vars } := by
  simp only [absDcl]
  congr 1
  · exact updateA_mapk (fun _ (q : FnM.DclProp) => q.value) x { p with value := v } ps
  · exact updateA_filter_names (fun q : FnM.DclProp => !q.mutable_) x _ ps p hl rfl

theorem absSt_setStash (σ : FnM.St) (j : Nat) (s : FnM.Stash) :
    absSt { σ with stashes := Fn.setNth σ.stashes j s } = (absSt σ).setEnv j (absStash s) := by
  simp [absSt, Fn.St.setEnv, setNth_eq_set]

end OttoVerif.C01.FnRefine
