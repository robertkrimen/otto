/-
  C01/FnAList — association lists as FnSpec and FnModel use them (`Fn.lookupA`, `updateA`, `removeA`; `Fn.setNth` on plain
  lists): what a lookup, an update and a removal do under `map` and `filter`.  CallModel's `lookup` and `setValue` are
  `Fn.lookupA` and "update or append" on lists of slots.
-/
import OttoVerif.C01.FnSpec
import OttoVerif.C01.CallModel
namespace OttoVerif.C01.FnRefine
open OttoVerif.C01

theorem lookupA_mapk {β γ : Type} (f : String → β → γ) (x : String) :
    ∀ l : List (String × β), Fn.lookupA x (l.map fun kp => (kp.1, f kp.1 kp.2)) = (Fn.lookupA x l).map (f x) := by
  intro l
  induction l with
  | nil => rfl
  | cons p r ih =>
    obtain ⟨k, v⟩ := p
    by_cases hk : k = x
    · subst hk; simp [Fn.lookupA]
    · simp [Fn.lookupA, hk, ih]

theorem lookupA_map {β γ : Type} (f : β → γ) (x : String) (l : List (String × β)) :
    Fn.lookupA x (l.map fun p => (p.1, f p.2)) = (Fn.lookupA x l).map f :=
  lookupA_mapk (fun _ => f) x l

theorem lookupA_filter {β : Type} (q : String → Bool) (x : String) :
    ∀ l : List (String × β), Fn.lookupA x (l.filter fun p => q p.1) = if q x then Fn.lookupA x l else none := by
  intro l
  induction l with
  | nil => simp [Fn.lookupA]
  | cons p r ih =>
    obtain ⟨k, v⟩ := p
    simp only [List.filter_cons]
    by_cases hk : k = x
    · subst hk; cases hq : q k <;> simp [hq, Fn.lookupA, ih]
    · cases q k <;> simp [Fn.lookupA, hk, ih]

theorem lookupA_mem {β : Type} (x : String) : ∀ (l : List (String × β)) (p : β), Fn.lookupA x l = some p → (x, p) ∈ l := by
  intro l
  induction l with
  | nil => intro p h; simp [Fn.lookupA] at h
  | cons q r ih =>
    intro p h
    obtain ⟨k, w⟩ := q
    by_cases hk : k = x
    · subst hk; simp [Fn.lookupA] at h; subst h; simp
    · simp [Fn.lookupA, hk] at h; exact List.mem_cons_of_mem _ (ih p h)

theorem setNth_eq_set {β : Type} : ∀ (l : List β) (i : Nat) (b : β), Fn.setNth l i b = l.set i b
  | [], _, _ => rfl
  | _ :: _, 0, _ => rfl
  | a :: r, i+1, b => congrArg (a :: ·) (setNth_eq_set r i b)

theorem setNth_self {β : Type} (l : List β) (a : Nat) (b : β) (h : l[a]? = some b) : Fn.setNth l a b = l := by
  obtain ⟨ha, rfl⟩ := List.getElem?_eq_some_iff.1 h
  rw [setNth_eq_set, List.set_getElem_self]

theorem map_setNth_of_eq {β γ : Type} (f : β → γ) (l : List β) (i : Nat) (a b : β) (hl : l[i]? = some a) (h : f b = f a) :
    (Fn.setNth l i b).map f = l.map f := by
  rw [setNth_eq_set, List.map_set, h, ← setNth_eq_set]
  exact setNth_self (l.map f) i (f a) (by simp [hl])

theorem updateA_mapk {β γ : Type} (f : String → β → γ) (x : String) (v : β) :
    ∀ l : List (String × β), (Fn.updateA x v l).map (fun kp => (kp.1, f kp.1 kp.2)) =
      Fn.updateA x (f x v) (l.map fun kp => (kp.1, f kp.1 kp.2)) := by
  intro l
  induction l with
  | nil => rfl
  | cons p r ih =>
    obtain ⟨k, w⟩ := p
    by_cases hk : k = x
    · subst hk; simp [Fn.updateA]
    · simp [Fn.updateA, hk, ih]

theorem updateA_self {β : Type} (x : String) (p : β) :
    ∀ l : List (String × β), Fn.lookupA x l = some p → Fn.updateA x p l = l := by
  intro l
  induction l with
  | nil => intro _; rfl
  | cons q r ih =>
    obtain ⟨k, w⟩ := q
    intro hl
    by_cases hk : k = x
    · simp only [Fn.lookupA, hk, if_true, Option.some.injEq] at hl
      simp [Fn.updateA, hk, hl]
    · simp only [Fn.lookupA, hk, if_false] at hl
      simp [Fn.updateA, hk, ih hl]

theorem updateA_mapk_same {β γ : Type} (f : String → β → γ) (x : String) (d p : β) (h : f x d = f x p)
    (l : List (String × β)) (hl : Fn.lookupA x l = some p) :
    (Fn.updateA x d l).map (fun kp => (kp.1, f kp.1 kp.2)) = l.map fun kp => (kp.1, f kp.1 kp.2) := by
  rw [updateA_mapk, h, ← updateA_mapk, updateA_self x p l hl]

theorem updateA_filter {β : Type} (q : String → Bool) (x : String) (v : β) (hx : q x = true) :
    ∀ l : List (String × β), (Fn.updateA x v l).filter (fun p => q p.1) = Fn.updateA x v (l.filter fun p => q p.1) := by
  intro l
  induction l with
  | nil => rfl
  | cons p r ih =>
    obtain ⟨k, w⟩ := p
    by_cases hk : k = x
    · subst hk; simp [Fn.updateA, hx]
    · cases hq : q k <;> simp [Fn.updateA, hk, hq, ih]

theorem updateA_filter_names {β : Type} (q : β → Bool) (x : String) (d : β) :
    ∀ (l : List (String × β)) (p0 : β), Fn.lookupA x l = some p0 → q d = q p0 →
      ((Fn.updateA x d l).filter fun p => q p.2).map (·.1) = (l.filter fun p => q p.2).map (·.1) := by
  intro l
  induction l with
  | nil => intro p0 h; simp [Fn.lookupA] at h
  | cons p r ih =>
    intro p0 h he
    obtain ⟨k, w⟩ := p
    by_cases hk : k = x
    · subst hk
      simp only [Fn.lookupA, if_true] at h
      cases h
      simp only [Fn.updateA, if_true, List.filter_cons, he]
      cases q p0 <;> simp
    · simp only [Fn.lookupA, hk, if_false] at h
      simp only [Fn.updateA, hk, if_false, List.filter_cons]
      cases q w <;> simp [ih p0 h he]

theorem removeA_map {β γ : Type} (f : β → γ) (x : String) :
    ∀ l : List (String × β), (Fn.removeA x l).map (fun p => (p.1, f p.2)) = Fn.removeA x (l.map fun p => (p.1, f p.2)) := by
  intro l
  induction l with
  | nil => rfl
  | cons p r ih =>
    obtain ⟨k, w⟩ := p
    simp only [Fn.removeA, List.map_cons]
    split <;> simp [ih]

theorem removeA_filter {β : Type} (q : String → Bool) (x : String) (hx : q x = true) :
    ∀ l : List (String × β), (Fn.removeA x l).filter (fun p => q p.1) = Fn.removeA x (l.filter fun p => q p.1) := by
  intro l
  induction l with
  | nil => rfl
  | cons p r ih =>
    obtain ⟨k, w⟩ := p
    by_cases hk : k = x
    · subst hk; simp [Fn.removeA, hx]
    · cases hq : q k <;> simp [Fn.removeA, hk, hq, ih]

theorem removeA_names {β : Type} (q : β → Bool) (x : String) :
    ∀ l : List (String × β), (l.map (·.1)).Nodup →
      ((Fn.removeA x l).filter fun p => q p.2).map (·.1) = ((l.filter fun p => q p.2).map (·.1)).filter (· != x) := by
  intro l
  induction l with
  | nil => intro _; rfl
  | cons p r ih =>
    intro hn
    obtain ⟨k, w⟩ := p
    simp only [List.map_cons, List.nodup_cons] at hn
    by_cases hk : k = x
    · subst hk
      simp only [Fn.removeA, if_true, List.filter_cons]
      -- the name is nowhere in the rest, so the filter on the right removes nothing there
      have hr : ((r.filter fun p => q p.2).map (·.1)).filter (· != k) = (r.filter fun p => q p.2).map (·.1) := by
        refine List.filter_eq_self.2 fun n hn' => bne_iff_ne.2 fun hnk => hn.1 ?_
        obtain ⟨e, he, rfl⟩ := List.mem_map.1 hn'
        exact hnk ▸ List.mem_map_of_mem (List.mem_filter.1 he).1
      cases q w <;> simp [hr]
    · simp only [Fn.removeA, hk, if_false, List.filter_cons]
      cases q w <;> simp [ih hn.2, hk]

theorem removeA_none {β : Type} (x : String) : ∀ (l : List (String × β)), Fn.lookupA x l = none → Fn.removeA x l = l := by
  intro l
  induction l with
  | nil => intro _; rfl
  | cons p r ih =>
    intro h
    obtain ⟨k, w⟩ := p
    by_cases hk : k = x
    · subst hk; simp [Fn.lookupA] at h
    · simp only [Fn.lookupA, hk, if_false] at h
      simp [Fn.removeA, hk, ih h]

theorem nodup_lookup_unique {β : Type} (x : String) : ∀ (l : List (String × β)) (p q : β),
    (l.map (·.1)).Nodup → Fn.lookupA x l = some p → (x, q) ∈ l → q = p := by
  intro l
  induction l with
  | nil => intro p q _ h; simp [Fn.lookupA] at h
  | cons e r ih =>
    intro p q hn hl hm
    obtain ⟨k, w⟩ := e
    simp only [List.map_cons, List.nodup_cons] at hn
    by_cases hk : k = x
    · subst hk
      simp [Fn.lookupA] at hl; subst hl
      rcases List.mem_cons.1 hm with h | h
      · cases h; rfl
      · exact absurd (List.mem_map_of_mem (f := (·.1)) h) hn.1
    · simp [Fn.lookupA, hk] at hl
      rcases List.mem_cons.1 hm with h | h
      · cases h; exact absurd rfl hk
      · exact ih p q hn.2 hl h

theorem callLookup_eq (x : String) : ∀ e : Call.EnvL, Call.lookup x e = Fn.lookupA x e
  | [] => rfl
  | (k, v) :: r => by simp only [Call.lookup, Fn.lookupA, callLookup_eq x r]

theorem callSetValue_eq (x : String) (v : Call.Slot) : ∀ e : Call.EnvL,
    Call.setValue x v e = match Fn.lookupA x e with | some _ => Fn.updateA x v e | none => e ++ [(x, v)]
  | [] => rfl
  | (k, w) :: r => by
    by_cases hk : k = x
    · simp [Call.setValue, Fn.lookupA, Fn.updateA, hk]
    · simp only [Call.setValue, Fn.lookupA, Fn.updateA, hk, if_false, callSetValue_eq x v r]
      cases Fn.lookupA x r <;> rfl

end OttoVerif.C01.FnRefine
