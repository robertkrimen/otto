/-
  C01/FnTheorems — THE LEDGER of the function layer's refinement: otto's environment / reference / object
  machinery (FnModel, the transcription) computes what ES5's does (FnSpec) on the abstraction
  `FnRefine.absSt` (object a ↦ object a, stash i ↦ environment record i; otto's extra properties
  `name` / `caller` / a bound function's `arguments`, `prototype` are not part of it).  Every statement
  is for ALL states satisfying the listed well-formedness conditions, all names and all values; each
  condition is shown satisfiable on a concrete state (`σ1`, `σ2`, `σ1s`), where resolution, GetValue, PutValue on a
  declarative record, [[Put]] / [[Delete]] on a mapped index and the two evaluator theorems are then instantiated.

  WHAT IS NOT HERE (open): the simulation of the evaluators as a whole (`fn_refines`); of the evaluators only the
  fragments `ro` and `lw` are related by theorems (`expr_refines_partial`, `expr_refines_assign`).
-/
import OttoVerif.C01.FnRefineCall
import OttoVerif.C01.FnRefineLW
namespace OttoVerif.C01.FnThm
open OttoVerif.C01 OttoVerif.C01.FnRefine

/-- **identifier resolution** (§10.2.2.1): on every stash chain, for every name that otto's extra
    properties do not use, `getIdentifierReference` returns the reference of exactly the environment
    record GetIdentifierReference finds — declarative, object (`with`) and global records; an
    unresolvable reference where ES5 has none. -/
theorem resolve_refines (σ : FnM.St) (x : String) (hv : Visible σ x) (h0 : WF0 σ) (n i : Nat) :
    FnM.getIdentifierReference n (some i) x σ = .ok (refOf σ x (Fn.envResolve (absSt σ) n i x)) σ :=
  resolve_spec σ x hv h0 n i

/-- **[[HasProperty]]** (§8.12.6) along any prototype chain with any fuel -/
theorem hasProperty_refines (σ : FnM.St) (x : String) (hv : Visible σ x) (n a : Nat) :
    (getPropertyP σ n a x).isSome = Fn.hasProp (absSt σ) n a x :=
  hasProperty_spec σ x hv n a

/-- **[[Get]]** (§8.12.3, §10.6 [[Get]] of an arguments object through its parameter map, the `name` of an
    Error object) -/
theorem get_refines (σ : FnM.St) (a : Nat) (x : String) (hv : Visible σ x) (hnp : NoArgsProto σ) (haw : ArgsWF σ)
    (hew : ErrWF σ) : absR (FnM.objGet a x σ) = Fn.getProp (absSt σ) (.ref a) x := by
  rw [objGet_run]; exact (getProp_spec σ a x hv hnp haw hew).symm

/-- **GetValue on an identifier reference** (§8.7.1; §10.2.1.1.4, §10.2.1.2.4), for the environment `j` the
    name resolved to -/
theorem getValue_refines (σ : FnM.St) (x : String) (hv : Visible σ x) (h0 : WF0 σ) (hnp : NoArgsProto σ)
    (haw : ArgsWF σ) (hew : ErrWF σ) (hsr : StashReadable σ) (j : Nat) :
    absR (FnM.refGetValue (FnM.newReference σ j x) σ) = Fn.envGet (absSt σ) j x := by
  obtain ⟨v, hm, hs⟩ := getValue_ident_spec σ x hv h0 hnp haw hew hsr j
  rw [hm, hs]; rfl

/-- … and for an unresolvable reference: a ReferenceError on both sides -/
theorem getValue_unresolvable_refines (σ : FnM.St) (x : String) :
    absR (FnM.refGetValue (.prop none x) σ) = (Fn.throwErr (absSt σ) "ReferenceError" : Fn.Res Fn.V) :=
  rfl

/-- **[[Put]]** (§8.12.5 with [[CanPut]] §8.12.4: own and inherited read-only properties refuse silently)
    on any object that is not an arguments object; the new state abstracts to ES5's new state -/
theorem put_refines (σ : FnM.St) (a : Nat) (x : String) (v : Fn.V) (hv : Visible σ x) (hw : WritableWF σ)
    (hd : ProtoDesc σ) (hna : ∀ o, σ.obj? a = some o → ∀ ipn st, o.val ≠ .arguments ipn st) :
    absR (FnM.objPut a x v false σ) = Fn.putProp (absSt σ) (.ref a) x v :=
  putProp_spec σ a x v hv hw hd hna

/-- **PutValue, declarative record** (§10.2.1.1.3): mutable bindings are updated, the immutable binding of a
    named function expression is left alone -/
theorem putValue_dcl_refines (σ : FnM.St) (j : Nat) (x : String) (v : Fn.V) (p : FnM.DclProp) (hj : j ≠ 0)
    (hn : StashNodup σ) (hl : Fn.lookupA x (FnM.dclProps σ j) = some p) :
    absR (FnM.rtPutValue (.stash j x) v σ) = Fn.putIdent (absSt σ) (some j) x v := by
  obtain ⟨σ', hm, _, hs⟩ := putValue_dcl_spec σ j x v p hj hn hl
  rw [hm, hs]; rfl

/-- **PutValue, object record** (§10.2.1.2.3: a `with` object or the global object) -/
theorem putValue_obj_refines (σ : FnM.St) (j : Nat) (outer : Option Nat) (o : Nat) (x : String) (v : Fn.V)
    (hs : σ.stash? j = some (.obj outer o)) (h0 : WF0 σ) (hv : Visible σ x) (hw : WritableWF σ) (hd : ProtoDesc σ)
    (hna : ∀ ob, σ.obj? o = some ob → ∀ ipn st, ob.val ≠ .arguments ipn st) :
    absR (FnM.rtPutValue (FnM.newReference σ j x) v σ) = Fn.putIdent (absSt σ) (some j) x v :=
  putValue_obj_spec σ j outer o x v hs h0 hv hw hd hna

/-- **PutValue, unresolvable reference** (§8.7.2 step 3.b): [[Put]] on the global object (no assumption that
    the name is still absent there when the value arrives) -/
theorem putValue_unresolvable_refines (σ : FnM.St) (x : String) (v : Fn.V) (hx : x ≠ "") (hv : Visible σ x)
    (hw : WritableWF σ) (hd : ProtoDesc σ) (g : FnM.Obj) (hg : σ.obj? FnM.gObj = some g)
    (hna : ∀ ipn st, g.val ≠ .arguments ipn st) :
    absR (FnM.rtPutValue (.prop none x) v σ) = Fn.putIdent (absSt σ) none x v := by
  have hne : (x != "") = true := by simp [hx]
  simp only [FnM.rtPutValue, FnM.refPutValue, bind_run, pure_run, Fn.putIdent, hne, if_true]
  exact putProp_spec σ FnM.gObj x v hv hw hd (by intro o ho; rw [hg] at ho; cases ho; exact hna)

/-- **[[Put]] on a mapped index of an arguments object** (§10.6): the own property and the joined parameter
    are both written, in the stash the map points to -/
theorem put_mapped_refines (σ : FnM.St) (a : Nat) (x : String) (v : Fn.V) (o : FnM.Obj) (ipn : List String) (st i : Nat)
    (pn : String) (p0 : FnM.Pty) (p : FnM.DclProp)
    (ho : σ.obj? a = some o) (hval : o.val = .arguments ipn st) (hidx : Fn.idx? x = some i)
    (hpn : ipn[i]? = some pn) (hne : pn ≠ "") (hst : st ≠ 0)
    (hbind : Fn.lookupA pn (FnM.dclProps σ st) = some p) (hmut : p.mutable_ = true) (hn : StashNodup σ)
    (hown : Fn.lookupA x o.props = some p0) (hw : p0.w = true) :
    absR (FnM.objPut a x v false σ) = Fn.putProp (absSt σ) (.ref a) x v := by
  have hh : hidden o.val x = false := by simp [hval, hidden]
  have hmap : mapGetP σ o x = some (dclGetP σ st pn) := by simp [mapGetP, hval, FnM.arrayIndex, hidx, hpn, hne]
  have hownP : ownP σ a x = some { p0 with value := dclGetP σ st pn } := by simp [ownP, ho, hval, hown, hmap]
  have hcpP : FnM.canPutDetails a x σ = .ok (true, some { p0 with value := dclGetP σ st pn }) σ := by
    simp only [canPutDetails_own σ a x _ hownP, hw]
  have hcan : Fn.canPut (absSt σ) (σ.heap.length + 1) a x = true := by
    simp only [Fn.canPut, absSt_obj, ho, Option.map_some]
    rw [absObj_lookup o x hh, hown]
    simp [absObj, absKind, hval, Fn.isFnKind]
  have hma : Fn.mappedAssign (absSt σ) (absObj o).kind x v = Fn.envAssign (absSt σ) ((absSt σ).envs.length + 1) st pn v := by
    simp [Fn.mappedAssign, absObj, absKind, hval, hidx, hpn, optName, hne]
  -- the model: own property first, then the stash
  let σh : FnM.St := { σ with heap := Fn.setNth σ.heap a { o with props := Fn.updateA x { p0 with value := v } o.props } }
  have hb' : Fn.lookupA pn (FnM.dclProps σh st) = some p := hbind
  obtain ⟨s', hs', habs'⟩ := dclSetBinding_mutable σh st pn v p hb' hmut
  have hdef : FnM.defineOwnProperty a x { p0 with value := v } false σ =
      .ok true { σh with stashes := Fn.setNth σh.stashes st s' } := by
    have hamp : FnM.argumentsMapPut o x v = FnM.dclSetBinding st pn v false := by
      unfold FnM.argumentsMapPut
      simp [hval, FnM.arrayIndex, hidx, hpn]
    unfold FnM.defineOwnProperty
    simp only [bind_run, getSt_run, ho, hval, argumentsMapGet_run, hmap]
    rw [odop_update σ a o x { p0 with value := v } p0 false ho hown rfl rfl (Or.inr hw)]
    have hnw : ((!p0.w) = true) = False := by simp [hw]
    simp only [σh] at hs'
    simp only [Bool.not_true, Bool.false_eq_true, if_false, bind_run, hamp, hs', hnw, pure_run]
    rfl
  rw [putProp_abs]
  unfold FnM.objPut Fn.putPropD
  simp only [bind_run, hcpP, absSt_obj, ho, Option.map_some, absSt_heap_length, hcan, Bool.not_true,
    Bool.false_eq_true, if_false, hma, absObj_lookup o x hh, hown]
  simp only [hdef, pure_run, absR]
  rw [envAssign_bound σ st pn v p hst hn hbind hmut]
  simp only [absSt, Fn.St.setEnv, Fn.St.setObj, setNth_eq_set, List.map_set, σh]
  rw [absObj_update o x { p0 with value := v } p0 hh hown rfl, habs']
  rfl

/-- **[[Delete]]** (§8.12.7; §10.6: deleting an index of an arguments object un-maps it) on any object that is
    not a String wrapper: non-configurable properties stay and the result is false -/
theorem delete_refines (σ : FnM.St) (a : Nat) (x : String) (hv : Visible σ x) (hn : PropsNodup σ)
    (hc : ∀ o p, σ.obj? a = some o → Fn.lookupA x o.props = some p → p.c = !Fn.fixedProp (absKind o.val) x)
    (hmo : ∀ o, σ.obj? a = some o → isMapped o.val x = true → (Fn.lookupA x o.props).isSome = true) :
    absR (boolR (FnM.objDelete a x false σ)) = Fn.delProp (absSt σ) (.ref a) x :=
  delete_spec σ a x hv hn hc hmo

/-- **the parameter map of the arguments object** on the real data: the `indexOfParameterName` list otto builds
    (cmplCallNodeFunction) abstracts to the map §10.6 step 11 builds (FnSpec.mkArguments), for every parameter list
    (duplicates, fewer / more arguments than parameters).  (Lifts CallThm.arguments_map.) -/
theorem arguments_map_refines (params : List String) (nargs : Nat) (hne : "" ∉ params) :
    (FnM.indexOfParameterNames params nargs).map optName = specArgMap params nargs := by
  unfold FnM.indexOfParameterNames
  rw [CallThm.arguments_map, ← specArgMap_eq, List.map_map]
  -- no entry is `some ""`, so `optName` undoes `getD ""`
  refine (List.map_congr_left fun o ho => ?_).trans (List.map_id _)
  cases o with
  | none => rfl
  | some s =>
    have : s ≠ "" := fun h => hne (specArgMap_entries params nargs _ ho "" (by rw [h]))
    simp [optName, this]

/-- **declaration binding instantiation** (§10.5) on the real data structures: entering a function, otto's fresh
    function stash (cmplCallNodeFunction before the body) and FnSpec's fresh declarative record (`Fn.instantiate`)
    bind every identifier to the SAME slot (which argument / which function declaration / the arguments object /
    undefined) — parameters with duplicates, a parameter, function or variable named `arguments`, functions over
    variables and parameters.  The values differ only by where the two sides allocate the closures and the
    arguments object (`interp`).  (Lifts CallThm.binding_instantiation.) -/
theorem binding_instantiation_real (n function st i : Nat) (c : Fn.Ctx) (fv : Fn.V) (ps vs : List String) (ds : Fn.FDecls)
    (args : List Fn.V) (σ : FnM.St) (σs : Fn.St) (outer : Option Nat) (sc : FnM.Scope) (rest : List FnM.Scope) (env0 : Fn.Env)
    (hsc : σ.scopes = sc :: rest) (hlex : sc.lexical = st) (hvar : sc.variable_ = st) (hev : sc.eval = false)
    (hst0 : st ≠ 0) (hs : σ.stash? st = some (.fn outer [] none)) (hn : (declNames ds).length < n) (hlen : args.length < 4294967295)
    (hi : i ≠ 0) (he : σs.envs[i]? = some env0) (hv0 : env0.vars = []) :
    ∃ σ' ps' ar' σs' vars',
      FnM.instantiateNode n function st ps vs ds args σ = .ok () σ' ∧ σ'.stash? st = some (.fn outer ps' ar') ∧
      Fn.instantiate n i c ps args fv ds vs σs = .ok () σs' ∧ σs'.envs[i]? = some { env0 with vars := vars' } ∧
      ∀ x, ∃ slot : Option Call.Slot,
        (Fn.lookupA x ps').map (·.value) =
          slot.map (interp args (fun j => σ.heap.length + (if ps.contains "arguments" then 0 else 1) + 2 * j) (.ref σ.heap.length)) ∧
        Fn.lookupA x vars' =
          slot.map (interp args (fun j => σs.heap.length + 2 * j) (.ref (σs.heap.length + 2 * (declNames ds).length))) := by
  obtain ⟨σ', ps', ar', hrun, hst, hrel⟩ := instantiateNode_real n function ps vs ds args
    (⟨hsc, hs, rfl, fun _ h => nomatch h⟩ : Entering st outer sc rest [] none σ.heap.length σ) hlex hvar hst0 hn hlen
  obtain ⟨σs', vars', hruns, henv, hrels⟩ := instantiate_spec n i c ps args fv ds vs σs env0 hi hn he hv0
  refine ⟨σ', ps', ar', σs', vars', hrun, hst, hruns, henv, ?_⟩
  intro x
  refine ⟨Call.lookup x (Call.specInst ps args.length (declNames ds) vs), ?_, ?_⟩
  · rw [← lookupA_map (fun p : FnM.DclProp => p.value), show _ = _ from hrel, relS_lookup, CallThm.binding_instantiation]
  · rw [hrels, relS_lookup]

/-- **`this` of a call through an identifier** (§11.2.3 step 6.b, ImplicitThisValue), as a script callee sees it
    (`effThis`, §10.4.3 step 2): the `with` object when the callee was found in its environment, the global object
    otherwise.  The model side is `modelThis` on the reference `refOf` makes, not a function of FnModel. -/
theorem this_refines (σ : FnM.St) (x : String) (h0 : WF0 σ) (res : Option Nat) :
    effThis (modelThis (refOf σ x res)) = effThis (match res with | some j => Fn.implicitThis (absSt σ) j | none => .undef) := by
  cases res with
  | none => rfl
  | some j =>
    simp only [refOf, Fn.implicitThis]
    by_cases hj : j = 0
    · subst hj
      simp [FnM.newReference, h0.stash, modelThis, effThis, FnM.gObj, Fn.gObj]
    · simp only [hj, if_false, absSt_env]
      cases hs : σ.stash? j with
      | none => simp [FnM.newReference, hs, modelThis]
      | some st =>
        cases st with
        | obj outer o => simp [FnM.newReference, hs, modelThis, absStash]
        | dcl outer ps | fn outer ps ar => simp [FnM.newReference, hs, modelThis, absStash, absDcl]

/-- **[[HasInstance]]** (§15.3.5.3 step 4): the walk along the prototype chain of the left operand
    (type_function.go hasInstance: `for value != nil { if value == prototypeObject … }`) -/
theorem hasInstance_walk_refines (σ : FnM.St) (p n x : Nat) :
    FnM.protoWalk σ n ((σ.obj? x).bind (·.proto)) p = Fn.hasInstance.walk p (absSt σ) n x := by
  induction n generalizing x with
  | zero => cases (σ.obj? x).bind (·.proto) <;> rfl
  | succ n ih =>
    rw [Fn.hasInstance.walk]
    simp only [absSt_obj]
    cases hx : σ.obj? x with
    | none => rfl
    | some ox =>
      simp only [Option.bind_some, Option.map_some, absObj_proto]
      cases hq : ox.proto with
      | none => rfl
      | some q =>
        simp only [FnM.protoWalk]
        by_cases hqp : q = p
        · simp [hqp]
        · simp only [hqp, if_false]
          have := ih q
          cases hoq : σ.obj? q with
          | none =>
            rw [hoq] at this
            simp only [Option.bind_none] at this
            rw [← this]
            cases n <;> rfl
          | some oq =>
            rw [hoq] at this
            simp only [Option.bind_some] at this
            exact this

/-- **expr_refines_partial** — the evaluator simulation for the read-only identifier fragment (see FnRefineEval;
    literals, this, identifiers, + - < === !, typeof, (0, e), log(e), ?:):
    same value or same error, the host log extended by the same tokens, nothing else changed, unless otto runs
    out of fuel.  The full `fn_refines` (all expressions and statements, states related by an address-renaming
    relation, induction on fuel) is open. -/
theorem expr_refines_partial (sc : FnM.Scope) (rest : List FnM.Scope) (xs : List String) (n : Nat) (e : Fn.FE)
    (hro : ro e = true) (hid : ∀ x ∈ idents e, x ∈ xs) (σ : FnM.St) (hI : ROInv σ xs) (hsc : σ.scopes = sc :: rest) :
    ROSim n e sc σ :=
  FnRefine.expr_refines_partial sc rest xs n e hro hid σ hI hsc

/-- **expr_refines_assign** — the evaluator simulation for the read-only fragment plus assignments `x = e` to local
    bindings and to existing properties of object records – global variables, properties of `with` objects – (see
    FnRefineLW): same value or same error, and the two final states correspond again (`absSt`) and have the SHAPE of the
    initial state (same scopes; same objects up to the values of their properties, `name` excepted; same stashes up to
    the values bound in declarative stashes),
    from which `LWInv` follows again (`LWInv.shape`) – unless otto runs out of fuel.  The reference of the left-hand
    side is made before the right-hand side runs on both sides; it stays valid because the right-hand side cannot
    change the shape.  Open: assignments that CREATE a property (an undeclared global, a deleted binding), property access, allocation
    (needs the address-renaming relation), calls, statements. -/
theorem expr_refines_assign (sc : FnM.Scope) (rest : List FnM.Scope) (xs ys : List String) (n : Nat) (e : Fn.FE)
    (hlw : lw e = true) (hrd : ∀ x ∈ reads e, x ∈ xs) (hwr : ∀ y ∈ writes e, y ∈ ys) (σ : FnM.St)
    (hI : LWInv σ sc rest xs ys) : LWSim n e sc σ :=
  FnRefine.expr_refines_assign sc rest xs ys n e hlw hrd hwr σ hI

/-- the invariant is re-established by every step of the simulation -/
theorem lwInv_preserved (σ σ' : FnM.St) (sc : FnM.Scope) (rest : List FnM.Scope) (xs ys : List String)
    (hI : LWInv σ sc rest xs ys) (h : Shape σ σ') : LWInv σ' sc rest xs ys := hI.shape h

def isArgs : FnM.OVal → Bool | .arguments .. => true | _ => false
def isStr : FnM.OVal → Bool | .string _ => true | _ => false
def isErr : FnM.OVal → Bool | .error _ => true | _ => false

theorem obj_mem (σ : FnM.St) (a : Nat) (o : FnM.Obj) (h : σ.obj? a = some o) : o ∈ σ.heap := by
  simp only [FnM.St.obj?] at h
  exact List.mem_of_getElem? h

theorem visible_of_check (σ : FnM.St) (x : String)
    (h : (σ.heap.all fun o => !hidden o.val x && !isStr o.val && (Fn.lookupA x o.accs).isNone) = true) : Visible σ x := by
  intro a o ho
  have := List.all_eq_true.1 h o (obj_mem σ a o ho)
  simp only [Bool.and_eq_true, Bool.not_eq_eq_eq_not, Bool.not_true, Option.isNone_iff_eq_none] at this
  refine ⟨this.1.1, ?_, this.2⟩
  intro s hs
  rw [hs] at this
  simp [isStr] at this

theorem noArgs_checks (σ : FnM.St) (h : (σ.heap.all fun o => !isArgs o.val) = true) : NoArgsProto σ ∧ ArgsWF σ := by
  have key : ∀ a o, σ.obj? a = some o → ∀ ipn st, o.val ≠ .arguments ipn st := by
    intro a o ho ipn st hv
    have := List.all_eq_true.1 h o (obj_mem σ a o ho)
    rw [hv] at this
    simp [isArgs] at this
  exact ⟨fun a o q oq _ _ hoq => key q oq hoq, fun a o ipn st ho hv => absurd hv (key a o ho ipn st)⟩

theorem errWF_of_check (σ : FnM.St)
    (h : ((List.range σ.heap.length).all fun a => match σ.obj? a with
      | some o => (match o.val with | .error n => decide (getP σ a "name" = .str n) | _ => true)
      | none => true) = true) : ErrWF σ := by
  intro a o n ho hv
  have ha : a < σ.heap.length := by
    simp only [FnM.St.obj?] at ho
    exact (List.getElem?_eq_some_iff.1 ho).1
  have := List.all_eq_true.1 h a (List.mem_range.2 ha)
  rw [ho] at this
  simp only [hv, decide_eq_true_eq] at this
  exact this

theorem writableWF_of_check (σ : FnM.St)
    (h : (σ.heap.all fun o => o.props.all fun kp =>
      hidden o.val kp.1 || (Fn.lookupA kp.1 o.props != some kp.2) ||
        (kp.2.w == !(kp.1 == "length" && Fn.isFnKind (absKind o.val)))) = true) : WritableWF σ := by
  intro a o k p ho hl hh
  have h1 := List.all_eq_true.1 h o (obj_mem σ a o ho)
  have h2 := List.all_eq_true.1 h1 (k, p) (lookupA_mem k o.props p hl)
  have h3 : (p.w == !(k == "length" && Fn.isFnKind (absKind o.val))) = true := by
    simpa only [hh, Bool.false_or, hl, bne_self_eq_false] using h2
  exact eq_of_beq h3

theorem protoDesc_of_check (σ : FnM.St)
    (h : ((List.range σ.heap.length).all fun a => match σ.heap[a]? with
      | some o => (match o.proto with | some q => decide (q < a) | none => true)
      | none => true) = true) : ProtoDesc σ := by
  intro a o q ho hq
  have ha : a < σ.heap.length := (List.getElem?_eq_some_iff.1 ho).1
  have := List.all_eq_true.1 h a (List.mem_range.2 ha)
  have ho' : σ.heap[a]? = some o := ho
  simp only [ho', hq, decide_eq_true_eq] at this
  exact this

theorem stash_checks (σ : FnM.St)
    (h : ((List.range σ.stashes.length).all fun j =>
      (FnM.dclProps σ j).all (fun kp => kp.2.mutable_ || kp.2.readable) &&
        decide (((FnM.dclProps σ j).map (·.1)).Nodup)) = true) : StashReadable σ ∧ StashNodup σ := by
  have key : ∀ j, ((FnM.dclProps σ j).all (fun kp => kp.2.mutable_ || kp.2.readable) = true) ∧
      ((FnM.dclProps σ j).map (·.1)).Nodup := by
    intro j
    by_cases hj : j < σ.stashes.length
    · have := List.all_eq_true.1 h j (List.mem_range.2 hj)
      simpa using this
    · have : FnM.dclProps σ j = [] := by
        have : σ.stash? j = none := by simp [FnM.St.stash?]; omega
        simp [FnM.dclProps, this]
      simp [this]
  refine ⟨?_, fun j => (key j).2⟩
  intro j x p hl
  have := List.all_eq_true.1 (key j).1 (x, p) (lookupA_mem x _ p hl)
  simpa using this

theorem propsNodup_of_check (σ : FnM.St)
    (h : (σ.heap.all fun o => decide ((o.props.map (·.1)).Nodup)) = true) : PropsNodup σ := by
  intro a o ho
  have := List.all_eq_true.1 h o (obj_mem σ a o ho)
  simpa using this

theorem clsWF_of_check (σ : FnM.St)
    (h : (σ.heap.all fun o =>
      ((o.cls == "Function") == Fn.isFnKind (absKind o.val)) &&
      ((o.cls == "Error") == isErr o.val) && ((o.cls == "Arguments") == isArgs o.val)) = true) : ClsWF σ := by
  intro a o ho
  have := List.all_eq_true.1 h o (obj_mem σ a o ho)
  simp only [Bool.and_eq_true, beq_iff_eq] at this
  refine ⟨this.1.1, ?_, ?_⟩
  · rw [this.1.2]; cases o.val <;> rfl
  · rw [this.2]; cases o.val <;> rfl

/-- the initial heap, a `with` object {x: 1, f: <Function.prototype.call>} at address 11, its object stash 1 over
    the global stash, and a function stash 2 inside it with a mutable `y` and an immutable, readable `me` -/
def σ1 : FnM.St :=
  { FnM.initSt with
    heap := FnM.initSt.heap ++ [ { cls := "Object", proto := some FnM.objProto,
                                   props := [("x", FnM.p111 (.num 1)), ("f", FnM.p111 (.ref 3))] } ],
    stashes := [ .obj none FnM.gObj, .obj (some 0) 11,
                 .fn (some 1) [("y", ⟨.num 2, true, false, false⟩), ("me", ⟨.ref 3, false, false, true⟩)] none ] }

example : Visible σ1 "x" := visible_of_check σ1 "x" (by decide)
example : Visible σ1 "y" := visible_of_check σ1 "y" (by decide)
example : WF0 σ1 := rfl
example : NoArgsProto σ1 ∧ ArgsWF σ1 := noArgs_checks σ1 (by decide)
example : ErrWF σ1 := errWF_of_check σ1 (by decide)

/-- resolution from the innermost stash: `y` is found in the function stash, `x` in the `with` object one
    level out, `undefinedName` nowhere -/
example : FnM.getIdentifierReference 4 (some 2) "y" σ1 = .ok (.stash 2 "y") σ1 := by
  rw [resolve_refines σ1 "y" (visible_of_check σ1 "y" (by decide)) rfl]; rfl
example : FnM.getIdentifierReference 4 (some 2) "x" σ1 = .ok (.prop (some 11) "x") σ1 := by
  rw [resolve_refines σ1 "x" (visible_of_check σ1 "x" (by decide)) rfl]; rfl
example : FnM.getIdentifierReference 4 (some 2) "nowhere" σ1 = .ok (.prop none "nowhere") σ1 := by
  rw [resolve_refines σ1 "nowhere" (visible_of_check σ1 "nowhere" (by decide)) rfl]; rfl
example : Fn.envResolve (absSt σ1) 4 2 "x" = some 1 := by decide

example : WritableWF σ1 := writableWF_of_check σ1 (by decide)
example : ProtoDesc σ1 := protoDesc_of_check σ1 (by decide)
example : StashReadable σ1 ∧ StashNodup σ1 := stash_checks σ1 (by decide)

/-- reading and writing through the references: `x` lives on the `with` object, `me` is immutable in the function
    stash -/
example : absR (FnM.refGetValue (FnM.newReference σ1 1 "x") σ1) = .ok (.num 1) (absSt σ1) := by
  rw [getValue_refines σ1 "x" (visible_of_check σ1 "x" (by decide)) rfl (noArgs_checks σ1 (by decide)).1
    (noArgs_checks σ1 (by decide)).2 (errWF_of_check σ1 (by decide)) (stash_checks σ1 (by decide)).1 1]
  rfl
example : Fn.putIdent (absSt σ1) (some 2) "me" (.num 9) = .ok () (absSt σ1) := by rfl
example : absR (FnM.rtPutValue (.stash 2 "me") (.num 9) σ1) = .ok () (absSt σ1) := by
  rw [putValue_dcl_refines σ1 2 "me" (.num 9) ⟨.ref 3, false, false, true⟩ (by decide) (stash_checks σ1 (by decide)).2 rfl]
  rfl

/-- σ1 plus an arguments object (address 12) of a call f(5, 6) of function f(a, a): index 1 is joined to `a` in
    function stash 3, index 0 is not (a later parameter has the name) -/
def σ2 : FnM.St :=
  { σ1 with
    heap := σ1.heap ++ [ { cls := "Arguments", proto := some FnM.objProto, val := .arguments ["", "a"] 3,
                           props := [("0", FnM.p111 (.num 5)), ("1", FnM.p111 .undef), ("length", FnM.p101 (.num 2)),
                                     ("callee", FnM.p101 (.ref 3))] } ],
    stashes := σ1.stashes ++ [ .fn (some 0) [("a", ⟨.num 6, true, false, false⟩), ("arguments", ⟨.ref 12, true, false, false⟩)] (some 12) ] }

example : PropsNodup σ2 := propsNodup_of_check σ2 (by decide)
example : StashReadable σ2 ∧ StashNodup σ2 := stash_checks σ2 (by decide)

/-- arguments[1] = 9 writes the parameter `a`; reading `a` afterwards gives 9 on both sides -/
example : absR (FnM.objPut 12 "1" (.num 9) false σ2) = Fn.putProp (absSt σ2) (.ref 12) "1" (.num 9) :=
  put_mapped_refines σ2 12 "1" (.num 9) _ ["", "a"] 3 1 "a" (FnM.p111 .undef) ⟨.num 6, true, false, false⟩
    rfl rfl (by decide) rfl (by decide) (by decide) rfl rfl (stash_checks σ2 (by decide)).2 rfl rfl
example : (match FnM.objPut 12 "1" (.num 9) false σ2 with
    | .ok _ σ' => FnM.dclProps σ' 3 |>.map (fun kp => (kp.1, kp.2.value))
    | _ => []) = [("a", .num 9), ("arguments", .ref 12)] := by decide

/-- delete arguments[1] un-maps it -/
example : absR (boolR (FnM.objDelete 12 "1" false σ2)) = Fn.delProp (absSt σ2) (.ref 12) "1" :=
  delete_refines σ2 12 "1" (visible_of_check σ2 "1" (by decide)) (propsNodup_of_check σ2 (by decide))
    (by intro o p ho hl; simp only [σ2, σ1, FnM.St.obj?] at ho; cases ho; simp [Fn.lookupA] at hl; subst hl; rfl)
    (by intro o ho _; simp only [σ2, σ1, FnM.St.obj?] at ho; cases ho; rfl)
example : (match Fn.delProp (absSt σ2) (.ref 12) "1" with
    | .ok v s => (v, (s.obj? 12).map (·.kind) |>.map fun k => match k with | .args m _ => m | _ => [])
    | _ => (.undef, none)) = (.bool true, some [none, none]) := by decide

/-- entering `function f(a, a) { function g(){} var v, a }` called as f(7): a state as enterFunctionScope leaves
    it (fresh function stash 1 inside the global stash, one scope) -/
def σe : FnM.St :=
  { FnM.initSt with stashes := [ .obj none FnM.gObj, .fn (some 0) [] none ],
                    scopes := [ { lexical := 1, variable_ := 1, this := FnM.gObj } ] }

def dsE : Fn.FDecls := .cons "g" (.func (some "g") [] [] .nil .nil) .nil

example : (match FnM.instantiateNode 5 3 1 ["a", "a"] ["v", "a"] dsE [.num 7] σe with
    | .ok _ σ' => (FnM.dclProps σ' 1).map fun kp => (kp.1, kp.2.value)
    | _ => []) = [("a", .undef), ("arguments", .ref 11), ("g", .ref 12), ("v", .undef)] := by decide +kernel

example : (match Fn.instantiate 5 1 { env := 1, venv := 1, this := .ref Fn.gObj } ["a", "a"] [.num 7] (.ref 3) dsE ["v", "a"]
      { Fn.initSt with envs := Fn.initSt.envs ++ [{ vars := [], outer := some 0 }] } with
    | .ok _ s => (s.envs[1]?.map (·.vars)).getD []
    | _ => []) = [("a", .undef), ("g", .ref 11), ("arguments", .ref 13), ("v", .undef)] := by decide

/-- a call `f()` inside `with (σ1's object 11)`: this = that object; for a callee in the function stash: the global object -/
example : modelThis (refOf σ1 "f" (Fn.envResolve (absSt σ1) 4 2 "f")) = .ref 11 := by decide
example : effThis (modelThis (refOf σ1 "y" (Fn.envResolve (absSt σ1) 4 2 "y"))) = .ref Fn.gObj := by decide
example : FnM.protoWalk σ1 5 ((σ1.obj? 11).bind (·.proto)) FnM.objProto = true := by decide

/-- σ1 inside the function whose stash is 2 (within `with (object 11)`): log(x + y) reads x from the with object
    and y from the function stash -/
def σ1s : FnM.St := { σ1 with scopes := [ { lexical := 2, variable_ := 2, this := FnM.gObj } ] }

/-- `y` and `me` are bindings of the function stash 2, `x` is a property of the `with` object around it -/
theorem lwInv_σ1s : LWInv σ1s { lexical := 2, variable_ := 2, this := FnM.gObj } [] ["x", "y", "nowhere", "me"] ["y", "me", "x"] :=
  ⟨⟨fun x hx => by
      simp only [List.mem_cons, List.mem_nil_iff, or_false] at hx
      rcases hx with rfl | rfl | rfl | rfl <;> exact visible_of_check σ1s _ (by decide),
    rfl, (noArgs_checks σ1s (by decide)).1, (noArgs_checks σ1s (by decide)).2, errWF_of_check σ1s (by decide),
    (stash_checks σ1s (by decide)).1, clsWF_of_check σ1s (by decide)⟩, rfl, (stash_checks σ1s (by decide)).2,
   writableWF_of_check σ1s (by decide), protoDesc_of_check σ1s (by decide), fun y hy => by
    simp only [List.mem_cons, List.mem_nil_iff, or_false] at hy
    rcases hy with rfl | rfl | rfl
    · exact ⟨by decide, 2, by decide, Or.inl ⟨by decide, _, rfl⟩⟩
    · exact ⟨by decide, 2, by decide, Or.inl ⟨by decide, _, rfl⟩⟩
    · -- `x` is an own property of the `with` object 11 (object stash 1)
      exact ⟨by decide, 1, by decide, Or.inr ⟨some 0, 11, _, _, rfl, rfl, rfl, (by intro _ _ h; cases h), (by intro _ h; cases h)⟩⟩⟩

theorem roInv_σ1s : ROInv σ1s ["x", "y", "nowhere"] :=
  lwInv_σ1s.ro.mono (by simp)

example : ROSim 6 (.log (.add (.var "x") (.var "y"))) { lexical := 2, variable_ := 2, this := FnM.gObj } σ1s :=
  expr_refines_partial _ [] _ 6 _ rfl (by decide) σ1s roInv_σ1s rfl
example : (match evalV 6 (.log (.add (.var "x") (.var "y"))) σ1s with | .ok v s => (v, s.trace) | _ => (.undef, [])) = (.num 3, ["n3"]) := by decide
example : (match Fn.evalE 6 (.log (.add (.var "x") (.var "y"))) (ctxOf { lexical := 2, variable_ := 2, this := FnM.gObj }) (absSt σ1s) with
    | .ok v s => (v, s.trace) | _ => (.undef, [])) = (.num 3, ["n3"]) := by rfl
example : (match evalV 6 (.typeof (.var "nowhere")) σ1s with | .ok v _ => v | _ => .undef) = .str "undefined" := by decide
/-- the conditional operator (§11.12): the branch not taken is not evaluated (no ReferenceError for `nowhere`) -/
example : ROSim 7 (.cond (.lt (.var "x") (.var "y")) (.log (.var "y")) (.var "nowhere")) { lexical := 2, variable_ := 2, this := FnM.gObj } σ1s :=
  expr_refines_partial _ [] _ 7 _ rfl (by decide) σ1s roInv_σ1s rfl
example : (match evalV 7 (.cond (.lt (.var "x") (.var "y")) (.log (.var "y")) (.var "nowhere")) σ1s with
    | .ok v s => (v, s.trace) | _ => (.undef, [])) = (.num 2, ["n2"]) := by decide

/-- `log(y = y + x) < (y = y + y)`: two assignments to the local `y`, the second sees the first -/
example : LWSim 8 (.lt (.log (.assign "y" (.add (.var "y") (.var "x")))) (.assign "y" (.add (.var "y") (.var "y"))))
    { lexical := 2, variable_ := 2, this := FnM.gObj } σ1s :=
  expr_refines_assign _ [] _ _ 8 _ rfl (by decide) (by decide) σ1s lwInv_σ1s
example : (match evalV 8 (.lt (.log (.assign "y" (.add (.var "y") (.var "x")))) (.assign "y" (.add (.var "y") (.var "y")))) σ1s with
    | .ok v s => (v, s.trace, (FnM.dclProps s 2).map fun kp => (kp.1, kp.2.value)) | _ => (.undef, [], [])) =
    (.bool true, ["n3"], [("y", .num 6), ("me", .ref 3)]) := by decide
/-- `me = 5` on the immutable binding of a named function expression: the value is 5, the binding keeps the function -/
example : (match evalV 8 (.add (.assign "me" (.lit (.num 5))) (.typeof (.var "me"))) σ1s with
    | .ok v s => (v, (FnM.dclProps s 2).map fun kp => (kp.1, kp.2.value)) | _ => (.undef, [])) =
    (.str "5function", [("y", .num 2), ("me", .ref 3)]) := by decide
example : LWSim 8 (.add (.assign "me" (.lit (.num 5))) (.typeof (.var "me"))) { lexical := 2, variable_ := 2, this := FnM.gObj } σ1s :=
  expr_refines_assign _ [] _ _ 8 _ rfl (by decide) (by decide) σ1s lwInv_σ1s

/-- `x = x + y` reaches the `with` object (object record): its property is updated, on both sides -/
example : LWSim 8 (.log (.assign "x" (.add (.var "x") (.var "y")))) { lexical := 2, variable_ := 2, this := FnM.gObj } σ1s :=
  expr_refines_assign _ [] _ _ 8 _ rfl (by decide) (by decide) σ1s lwInv_σ1s
example : (match evalV 8 (.log (.assign "x" (.add (.var "x") (.var "y")))) σ1s with
    | .ok v s => (v, s.trace, ((s.obj? 11).map fun o => o.props.map fun kp => (kp.1, kp.2.value)).getD []) | _ => (.undef, [], [])) =
    (.num 3, ["n3"], [("x", .num 3), ("f", .ref 3)]) := by decide

end OttoVerif.C01.FnThm
