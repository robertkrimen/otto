/-
  C01/FnRefineEval — the evaluator simulation FnModel → FnSpec for the fragment `lw` (read-only identifier
  expressions and assignments to identifiers).  A model result and a spec result AGREE (`Sim`) when they give the
  same value or the same error in states that correspond under `absSt`; `Sim.bind` sequences agreements; `sim_expr`
  is the induction on the fuel, for any transitive relation `R` between initial and final state that lets the host
  log grow: "only the host log differs" here (`expr_refines_partial`), `Shape` (FnRefineShape) in FnRefineLW
  (`expr_refines_assign`).
-/
import OttoVerif.C01.FnRefineShape
namespace OttoVerif.C01.FnRefine
open OttoVerif.C01

/-- the read-only, allocation-free, call-free fragment: literals, `this`, identifiers, + - < === !, typeof, (0, e), log(e), ?: -/
def ro : Fn.FE → Bool
  | .lit _ => true
  | .this => true
  | .var _ => true
  | .add a b => ro a && ro b
  | .sub a b => ro a && ro b
  | .lt a b => ro a && ro b
  | .seq a b => ro a && ro b
  | .not a => ro a
  | .typeof a => ro a
  | .val a => ro a
  | .log a => ro a
  | .cond t a b => ro t && ro a && ro b
  | _ => false

def idents : Fn.FE → List String
  | .var x => [x]
  | .add a b => idents a ++ idents b
  | .sub a b => idents a ++ idents b
  | .lt a b => idents a ++ idents b
  | .seq a b => idents a ++ idents b
  | .not a => idents a
  | .typeof a => idents a
  | .val a => idents a
  | .log a => idents a
  | .cond t a b => idents t ++ idents a ++ idents b
  | _ => []

/-- the read-only fragment plus assignments `x = e` -/
def lw : Fn.FE → Bool
  | .lit _ => true
  | .this => true
  | .var _ => true
  | .add a b => lw a && lw b
  | .sub a b => lw a && lw b
  | .lt a b => lw a && lw b
  | .seq a b => lw a && lw b
  | .not a => lw a
  | .typeof a => lw a
  | .val a => lw a
  | .log a => lw a
  | .cond t a b => lw t && lw a && lw b
  | .assign _ e => lw e
  | _ => false

/-- every identifier of the expression, read or assigned -/
def reads : Fn.FE → List String
  | .var x => [x]
  | .add a b => reads a ++ reads b
  | .sub a b => reads a ++ reads b
  | .lt a b => reads a ++ reads b
  | .seq a b => reads a ++ reads b
  | .not a => reads a
  | .typeof a => reads a
  | .val a => reads a
  | .log a => reads a
  | .cond t a b => reads t ++ reads a ++ reads b
  | .assign x e => x :: reads e
  | _ => []

def writes : Fn.FE → List String
  | .add a b => writes a ++ writes b
  | .sub a b => writes a ++ writes b
  | .lt a b => writes a ++ writes b
  | .seq a b => writes a ++ writes b
  | .not a => writes a
  | .typeof a => writes a
  | .val a => writes a
  | .log a => writes a
  | .cond t a b => writes t ++ writes a ++ writes b
  | .assign x e => x :: writes e
  | _ => []

theorem ro_lw (e : Fn.FE) (h : ro e = true) : lw e = true ∧ reads e = idents e ∧ writes e = [] := by
  cases e with
  | lit v => exact ⟨rfl, rfl, rfl⟩
  | this => exact ⟨rfl, rfl, rfl⟩
  | var x => exact ⟨rfl, rfl, rfl⟩
  | add a b | sub a b | lt a b | seq a b =>
    simp only [ro, Bool.and_eq_true] at h
    obtain ⟨ha1, ha2, ha3⟩ := ro_lw a h.1
    obtain ⟨hb1, hb2, hb3⟩ := ro_lw b h.2
    simp only [lw, reads, writes, idents, ha1, ha2, ha3, hb1, hb2, hb3, Bool.and_self, List.append_nil, and_self]
  | not a | typeof a | val a | log a => exact ro_lw a h
  | cond t a b =>
    simp only [ro, Bool.and_eq_true] at h
    obtain ⟨ht1, ht2, ht3⟩ := ro_lw t h.1.1
    obtain ⟨ha1, ha2, ha3⟩ := ro_lw a h.1.2
    obtain ⟨hb1, hb2, hb3⟩ := ro_lw b h.2
    simp only [lw, reads, writes, idents, ht1, ht2, ht3, ha1, ha2, ha3, hb1, hb2, hb3, Bool.and_self, List.append_nil, and_self]
  | _ => cases h

theorem tokV_spec (σ : FnM.St) (v : Fn.V) (hc : ClsWF σ) (hew : ErrWF σ) :
    FnM.tokV v σ = .ok (Fn.tokV (absSt σ) v) σ := by
  cases v with
  | ref a =>
    simp only [FnM.tokV, Fn.tokV, bind_run, getSt_run, absSt_obj]
    cases ho : σ.obj? a with
    | none => rfl
    | some o =>
      obtain ⟨h1, h2, h3⟩ := hc a o ho
      simp only [Option.map_some, absObj_kind]
      cases hv : o.val with
      | none | arguments ipn st | string s =>
        rw [hv] at h1 h2 h3; simp [absKind, Fn.isFnKind] at h1 h2 h3; simp [h1, h2, h3, absKind]
      | nodeFn nd st | bindFn t th as | native nm => rw [hv] at h1; simp [absKind, Fn.isFnKind] at h1; simp [h1, absKind]
      | error nm =>
        rw [hv] at h1 h2 h3; simp [absKind, Fn.isFnKind] at h1 h2 h3
        have := hew a o nm ho hv
        simp [h2, absKind, objGet_run, this, Fn.toStr]
  | _ => rfl

theorem isCall_spec (σ : FnM.St) (v : Fn.V) : FnM.isCall σ v = Fn.isCallable (absSt σ) v := by
  cases v with
  | ref a =>
    simp only [FnM.isCall, Fn.isCallable, absSt_obj]
    cases σ.obj? a with
    | none => rfl
    | some o =>
      simp only [Option.map_some, absObj_kind]
      cases o.val <;> rfl
  | _ => rfl

theorem typeofV_spec (σ : FnM.St) (v : Fn.V) : FnM.typeofV σ v = Fn.typeofV (absSt σ) v := by
  cases v <;> simp [FnM.typeofV, Fn.typeofV, isCall_spec]

/-- the execution context FnSpec threads, read off otto's current scope -/
def ctxOf (sc : FnM.Scope) : Fn.Ctx := { env := sc.lexical, venv := sc.variable_, this := .ref sc.this }

/-- GetValue of the value of an expression -/
def evalV (n : Nat) (e : Fn.FE) : FnM.M Fn.V := FnM.evalE n e >>= FnM.resolve

/-- the outcome of a read-only expression: out of fuel, or the same value / the same error on both sides, with at
    most the host log extended -/
def ROSim (n : Nat) (e : Fn.FE) (sc : FnM.Scope) (σ : FnM.St) : Prop :=
  evalV n e σ = .fuel ∨
  (∃ v t, evalV n e σ = .ok v { σ with trace := t } ∧
      Fn.evalE n e (ctxOf sc) (absSt σ) = .ok v (absSt { σ with trace := t })) ∨
  (∃ nm t, evalV n e σ = .throw (.err nm) { σ with trace := t } ∧
      Fn.evalE n e (ctxOf sc) (absSt σ) = Fn.throwErr (absSt { σ with trace := t }) nm)

theorem self_trace (σ : FnM.St) : ({ σ with trace := σ.trace } : FnM.St) = σ := rfl

/-- FnSpec's evaluators thread results by hand (`match r with | .ok v σ => … | r => r`); this is the bind they spell out -/
def sbind {α β : Type} (r : Fn.Res α) (g : α → Fn.St → Fn.Res β) : Fn.Res β :=
  match r with
  | .ok a s => g a s
  | .throw t s => .throw t s
  | .fuel => .fuel

/-- a model result and a spec result agree: out of fuel, or the same value / the same error on both sides, in states
    that correspond (`absSt`), the model's final state related to the initial one by `R` -/
def Sim {α : Type} (R : FnM.St → FnM.St → Prop) (σ : FnM.St) (m : FnM.R α) (s : Fn.Res α) : Prop :=
  m = .fuel ∨
  (∃ v σ', m = .ok v σ' ∧ s = .ok v (absSt σ') ∧ R σ σ') ∨
  (∃ nm σ', m = .throw (.err nm) σ' ∧ s = Fn.throwErr (absSt σ') nm ∧ R σ σ')

theorem Sim.ok {α : Type} {R : FnM.St → FnM.St → Prop} {σ σ' : FnM.St} (v : α) (h : R σ σ') :
    Sim R σ (.ok v σ') (.ok v (absSt σ')) :=
  .inr (.inl ⟨v, σ', rfl, rfl, h⟩)

/-- sequencing: the continuations need only agree from the states the first part can end in -/
theorem Sim.bind {α β : Type} {R : FnM.St → FnM.St → Prop} (htr : ∀ ⦃a b c⦄, R a b → R b c → R a c) {σ : FnM.St}
    {m : FnM.M α} {s : Fn.Res α} {f : α → FnM.M β} {g : α → Fn.St → Fn.Res β}
    (h : Sim R σ (m σ) s) (hk : ∀ v σ', R σ σ' → Sim R σ' (f v σ') (g v (absSt σ'))) :
    Sim R σ ((m >>= f) σ) (sbind s g) := by
  rw [bind_run]
  rcases h with h | ⟨v, σ', h, rfl, hr⟩ | ⟨nm, σ', h, rfl, hr⟩ <;> rw [h]
  · exact .inl rfl
  · rcases hk v σ' hr with h | ⟨w, σ'', h, h', hr'⟩ | ⟨nm, σ'', h, h', hr'⟩
    · exact .inl h
    · exact .inr (.inl ⟨w, σ'', h, h', htr hr hr'⟩)
    · exact .inr (.inr ⟨nm, σ'', h, h', htr hr hr'⟩)
  · exact .inr (.inr ⟨nm, σ', rfl, rfl, hr⟩)

/-- the simulation statement for an expression: otto's evaluation followed by GetValue against ES5's evaluation in the
    context read off the scope `sc` -/
def SimE (R : FnM.St → FnM.St → Prop) (n : Nat) (e : Fn.FE) (sc : FnM.Scope) (σ : FnM.St) : Prop :=
  Sim R σ (evalV n e σ) (Fn.evalE n e (ctxOf sc) (absSt σ))

/-- `ROSim` is the case where only the host log may differ -/
theorem ROSim.of_simE {n : Nat} {e : Fn.FE} {sc : FnM.Scope} {σ : FnM.St}
    (h : SimE (fun σ σ' => ∃ t, σ' = { σ with trace := t }) n e sc σ) : ROSim n e sc σ := by
  rcases h with h | ⟨v, _, h1, h2, t, rfl⟩ | ⟨nm, _, h1, h2, t, rfl⟩
  · exact .inl h
  · exact .inr (.inl ⟨v, t, h1, h2⟩)
  · exact .inr (.inr ⟨nm, t, h1, h2⟩)

@[simp] theorem resolve_val (v : Fn.V) : FnM.resolve (.val v) = pure v := rfl

theorem evalV_bin {n : Nat} {a b e : Fn.FE} {f : Fn.V → Fn.V → Fn.V}
    (he : FnM.evalE (n+1) e = (do let lv ← FnM.resolve (← FnM.evalE n a); let rv ← FnM.resolve (← FnM.evalE n b); pure (FnM.MV.val (f lv rv)))) :
    evalV (n+1) e = (do let lv ← evalV n a; let rv ← evalV n b; pure (f lv rv)) := by
  simp only [evalV, he, bind_assoc, pure_bind, resolve_val]

theorem evalV_un {n : Nat} {a e : Fn.FE} {f : Fn.V → Fn.V}
    (he : FnM.evalE (n+1) e = (do let v ← FnM.resolve (← FnM.evalE n a); pure (FnM.MV.val (f v)))) :
    evalV (n+1) e = (do let v ← evalV n a; pure (f v)) := by
  simp only [evalV, he, bind_assoc, pure_bind, resolve_val]

theorem evalV_cond (n : Nat) (t a b : Fn.FE) :
    evalV (n+1) (.cond t a b) = (do let tv ← evalV n t; if Fn.truthy tv then evalV n a else evalV n b) := by
  rw [evalV, FnM.evalE]
  simp only [evalV, bind_assoc]
  congr 1; funext mv; congr 1; funext tv
  split <;> simp only [bind_assoc, pure_bind, resolve_val, bind_pure]

theorem evalV_log (n : Nat) (a : Fn.FE) :
    evalV (n+1) (.log a) = (do
      let v ← evalV n a
      let t ← FnM.tokV v
      FnM.modifySt fun σ => { σ with trace := σ.trace ++ [t] }
      pure v) := by
  rw [evalV, FnM.evalE]
  simp only [evalV, bind_assoc, pure_bind, resolve_val]

theorem spec_add (n : Nat) (a b : Fn.FE) (c : Fn.Ctx) (s : Fn.St) :
    Fn.evalE (n+1) (.add a b) c s =
      sbind (Fn.evalE n a c s) fun va s1 => sbind (Fn.evalE n b c s1) fun vb s2 => .ok (FnM.binAdd va vb) s2 := by
  rw [Fn.evalE]
  cases Fn.evalE n a c s with
  | fuel => rfl
  | throw t s1 => rfl
  | ok va s1 =>
    simp only [sbind]
    cases Fn.evalE n b c s1 with
    | fuel => rfl
    | throw t s2 => rfl
    | ok vb s2 =>
      simp only [FnM.binAdd]
      cases va <;> cases vb <;> rfl

theorem spec_sub (n : Nat) (a b : Fn.FE) (c : Fn.Ctx) (s : Fn.St) :
    Fn.evalE (n+1) (.sub a b) c s =
      sbind (Fn.evalE n a c s) fun va s1 => sbind (Fn.evalE n b c s1) fun vb s2 => .ok (FnM.binSub va vb) s2 := by
  rw [Fn.evalE]
  cases Fn.evalE n a c s with
  | fuel => rfl
  | throw t s1 => rfl
  | ok va s1 =>
    simp only [sbind]
    cases Fn.evalE n b c s1 with
    | fuel => rfl
    | throw t s2 => rfl
    | ok vb s2 =>
      simp only [FnM.binSub]
      cases h1 : Fn.toNum va <;> cases h2 : Fn.toNum vb <;> rfl

theorem spec_lt (n : Nat) (a b : Fn.FE) (c : Fn.Ctx) (s : Fn.St) :
    Fn.evalE (n+1) (.lt a b) c s =
      sbind (Fn.evalE n a c s) fun va s1 => sbind (Fn.evalE n b c s1) fun vb s2 => .ok (FnM.binLt va vb) s2 := by
  rw [Fn.evalE]
  cases Fn.evalE n a c s with
  | fuel => rfl
  | throw t s1 => rfl
  | ok va s1 =>
    simp only [sbind]
    cases Fn.evalE n b c s1 with
    | fuel => rfl
    | throw t s2 => rfl
    | ok vb s2 =>
      simp only [FnM.binLt]
      cases h1 : Fn.toNum va <;> cases h2 : Fn.toNum vb <;> rfl

theorem spec_seq (n : Nat) (a b : Fn.FE) (c : Fn.Ctx) (s : Fn.St) :
    Fn.evalE (n+1) (.seq a b) c s =
      sbind (Fn.evalE n a c s) fun va s1 => sbind (Fn.evalE n b c s1) fun vb s2 => .ok (FnM.binSeq va vb) s2 := by
  rw [Fn.evalE]
  cases Fn.evalE n a c s with
  | fuel => rfl
  | throw t s1 => rfl
  | ok va s1 =>
    simp only [sbind]
    cases Fn.evalE n b c s1 <;> rfl

theorem spec_not (n : Nat) (a : Fn.FE) (c : Fn.Ctx) (s : Fn.St) :
    Fn.evalE (n+1) (.not a) c s = sbind (Fn.evalE n a c s) fun va s1 => .ok (.bool (!Fn.truthy va)) s1 := by
  rw [Fn.evalE]
  cases Fn.evalE n a c s <;> rfl

theorem spec_val (n : Nat) (a : Fn.FE) (c : Fn.Ctx) (s : Fn.St) :
    Fn.evalE (n+1) (.val a) c s = sbind (Fn.evalE n a c s) fun va s1 => .ok va s1 := by
  rw [Fn.evalE]
  cases Fn.evalE n a c s <;> rfl

theorem spec_cond (n : Nat) (t a b : Fn.FE) (c : Fn.Ctx) (s : Fn.St) :
    Fn.evalE (n+1) (.cond t a b) c s =
      sbind (Fn.evalE n t c s) fun tv s1 => if Fn.truthy tv then Fn.evalE n a c s1 else Fn.evalE n b c s1 := by
  rw [Fn.evalE]
  cases Fn.evalE n t c s <;> rfl

theorem spec_log (n : Nat) (a : Fn.FE) (c : Fn.Ctx) (s : Fn.St) :
    Fn.evalE (n+1) (.log a) c s =
      sbind (Fn.evalE n a c s) fun v s1 => .ok v { s1 with trace := s1.trace ++ [Fn.tokV s1 v] } := by
  rw [Fn.evalE]
  cases Fn.evalE n a c s <;> rfl

theorem spec_typeof (n : Nat) (a : Fn.FE) (hnv : ∀ x, a ≠ .var x) (c : Fn.Ctx) (s : Fn.St) :
    Fn.evalE (n+1) (.typeof a) c s = sbind (Fn.evalE n a c s) fun v s1 => .ok (.str (Fn.typeofV s1 v)) s1 := by
  rw [Fn.evalE]
  · cases Fn.evalE n a c s <;> rfl
  · exact fun x h => hnv x h

def ValOnly (m : FnM.M FnM.MV) : Prop := ∀ σ mv σ', m σ = .ok mv σ' → ∃ v, mv = .val v

theorem ValOnly.pure (v : Fn.V) : ValOnly (pure (.val v)) := by
  intro σ mv σ' h; cases h; exact ⟨v, rfl⟩

theorem ValOnly.bind {α : Type} {m : FnM.M α} {f : α → FnM.M FnM.MV} (h : ∀ a, ValOnly (f a)) : ValOnly (m >>= f) := by
  intro σ mv σ' hr
  rw [bind_run] at hr
  cases hm : m σ with
  | ok a s => rw [hm] at hr; exact h a s mv σ' hr
  | throw t s => rw [hm] at hr; cases hr
  | fuel => rw [hm] at hr; cases hr

/-- what follows such a computation sees a value: GetValue in between changes nothing -/
theorem ValOnly.bind_eq {β : Type} {m : FnM.M FnM.MV} (h : ValOnly m) (k : FnM.MV → FnM.M β) :
    m >>= k = (m >>= FnM.resolve) >>= fun v => k (.val v) := by
  funext σ
  simp only [bind_run]
  cases hm : m σ with
  | ok mv s => obtain ⟨v, rfl⟩ := h σ mv s hm; rfl
  | throw t s => rfl
  | fuel => rfl

/-- an expression of the fragment that is not an identifier evaluates to a value: its last step is `pure (.val _)` -/
theorem lw_valOnly (n : Nat) (e : Fn.FE) (hlw : lw e = true) (hnv : ∀ x, e ≠ .var x) : ValOnly (FnM.evalE n e) := by
  cases n with
  | zero => intro σ mv σ' hr; simp [FnM.evalE, FnM.outOfFuel] at hr
  | succ n =>
    cases e with
    | var x => exact absurd rfl (hnv x)
    | lit v => rw [FnM.evalE]; exact .pure _
    | this => rw [FnM.evalE]; exact .bind fun _ => .pure _
    | add a b | sub a b | lt a b | seq a b =>
      rw [FnM.evalE]; exact .bind fun _ => .bind fun _ => .bind fun _ => .bind fun _ => .pure _
    | not a | val a => rw [FnM.evalE]; exact .bind fun _ => .bind fun _ => .pure _
    | log a => rw [FnM.evalE]; exact .bind fun _ => .bind fun _ => .bind fun _ => .bind fun _ => .pure _
    | typeof a =>
      rw [FnM.evalE]
      refine .bind fun target => ?_
      split
      · exact .pure _
      · exact .bind fun _ => .bind fun _ => .pure _
    | cond t a b =>
      rw [FnM.evalE]
      refine .bind fun _ => .bind fun tv => ?_
      split <;> exact .bind fun _ => .bind fun _ => .pure _
    | assign x e1 => rw [FnM.evalE]; exact .bind fun _ => .bind fun _ => .bind fun _ => .bind fun _ => .pure _
    | _ => cases hlw

theorem evalV_typeof (n : Nat) (a : Fn.FE) (hlw : lw a = true) (hnv : ∀ x, a ≠ .var x) :
    evalV (n+1) (.typeof a) = (do let v ← evalV n a; let σ ← FnM.getSt; pure (.str (FnM.typeofV σ v))) := by
  rw [evalV, FnM.evalE, (lw_valOnly n a hlw hnv).bind_eq]
  simp only [evalV, bind_assoc, pure_bind, resolve_val]

theorem newReference_cases (σ : FnM.St) (j : Nat) (x : String) :
    (∃ o, FnM.newReference σ j x = .prop (some o) x) ∨ FnM.newReference σ j x = .stash j x := by
  simp only [FnM.newReference]
  cases σ.stash? j with
  | none => right; rfl
  | some st => cases st with
    | obj outer o => left; exact ⟨o, rfl⟩
    | dcl outer ps => right; rfl
    | fn outer ps ar => right; rfl

section
variable {R : FnM.St → FnM.St → Prop} {sc : FnM.Scope} {rest : List FnM.Scope} {xs : List String}

theorem sim_var (hrefl : ∀ σ, R σ σ) (n : Nat) (x : String) (hx : x ∈ xs) (σ : FnM.St) (hI : ROInv σ xs)
    (hsc : σ.scopes = sc :: rest) : SimE R (n+1) (.var x) sc σ := by
  simp only [SimE, evalV, bind_run, evalE_var_run n x sc rest σ hsc (hI.vis x hx) hI.wf0, spec_var, ctxOf, absSt_envs_length]
  cases Fn.envResolve (absSt σ) (σ.stashes.length + 1) sc.lexical x with
  | none => exact .inr (.inr ⟨"ReferenceError", σ, rfl, rfl, hrefl σ⟩)
  | some j =>
    obtain ⟨v, hmv, hsv⟩ := getValue_ident_spec σ x (hI.vis x hx) hI.wf0 hI.nap hI.aw hI.ew hI.sr j
    exact .inr (.inl ⟨v, σ, hmv, hsv, hrefl σ⟩)

/-- §11.4.3 on an identifier: an unresolvable reference gives "undefined" -/
theorem sim_typeof_var (hrefl : ∀ σ, R σ σ) (n : Nat) (x : String) (hx : x ∈ xs) (σ : FnM.St) (hI : ROInv σ xs)
    (hsc : σ.scopes = sc :: rest) : SimE R (n+1) (.typeof (.var x)) sc σ := by
  cases n with
  | zero => exact .inl (by simp [evalV, FnM.evalE, FnM.outOfFuel])
  | succ n =>
    rw [SimE, evalV, FnM.evalE]
    simp only [bind_run, evalE_var_run n x sc rest σ hsc (hI.vis x hx) hI.wf0, Fn.evalE, ctxOf, absSt_envs_length]
    cases Fn.envResolve (absSt σ) (σ.stashes.length + 1) sc.lexical x with
    | none => exact .inr (.inl ⟨.str "undefined", σ, rfl, rfl, hrefl σ⟩)
    | some j =>
      obtain ⟨v, hmv, hsv⟩ := getValue_ident_spec σ x (hI.vis x hx) hI.wf0 hI.nap hI.aw hI.ew hI.sr j
      refine .inr (.inl ⟨.str (FnM.typeofV σ v), σ, ?_, by simp only [hsv, typeofV_spec], hrefl σ⟩)
      simp only [refOf]
      rcases newReference_cases σ j x with ⟨o, ho⟩ | ho <;> rw [ho] at hmv ⊢ <;>
        simp only [FnM.resolve, bind_run, hmv, getSt_run, pure_run]

variable {Inv : FnM.St → Prop} (htr : ∀ ⦃a b c⦄, R a b → R b c → R a c) (hrefl : ∀ σ, R σ σ) (hpres : ∀ ⦃σ σ'⦄, Inv σ → R σ σ' → Inv σ')
include htr

include hrefl hpres in
theorem sim_bin {n : Nat} {a b e : Fn.FE} {f : Fn.V → Fn.V → Fn.V}
    (hm : evalV (n+1) e = (do let lv ← evalV n a; let rv ← evalV n b; pure (f lv rv)))
    (hs : ∀ c s, Fn.evalE (n+1) e c s = sbind (Fn.evalE n a c s) fun va s1 => sbind (Fn.evalE n b c s1) fun vb s2 => .ok (f va vb) s2)
    (iha : ∀ σ, Inv σ → SimE R n a sc σ) (ihb : ∀ σ, Inv σ → SimE R n b sc σ)
    (σ : FnM.St) (hI : Inv σ) : SimE R (n+1) e sc σ := by
  rw [SimE, hm, hs]
  exact (iha σ hI).bind htr fun va σ1 h1 => (ihb σ1 (hpres hI h1)).bind htr fun vb σ2 h2 => .ok _ (hrefl σ2)

include hrefl in
theorem sim_un {n : Nat} {a e : Fn.FE} {f : Fn.V → Fn.V}
    (hm : evalV (n+1) e = (do let v ← evalV n a; pure (f v)))
    (hs : ∀ c s, Fn.evalE (n+1) e c s = sbind (Fn.evalE n a c s) fun va s1 => .ok (f va) s1)
    (iha : ∀ σ, Inv σ → SimE R n a sc σ) (σ : FnM.St) (hI : Inv σ) : SimE R (n+1) e sc σ := by
  rw [SimE, hm, hs]
  exact (iha σ hI).bind htr fun va σ1 h1 => .ok _ (hrefl σ1)

include hpres in
theorem sim_cond {n : Nat} {t a b : Fn.FE}
    (iht : ∀ σ, Inv σ → SimE R n t sc σ) (iha : ∀ σ, Inv σ → SimE R n a sc σ) (ihb : ∀ σ, Inv σ → SimE R n b sc σ)
    (σ : FnM.St) (hI : Inv σ) : SimE R (n+1) (.cond t a b) sc σ := by
  rw [SimE, evalV_cond, spec_cond]
  refine (iht σ hI).bind htr fun tv σ1 h1 => ?_
  cases Fn.truthy tv
  · exact ihb σ1 (hpres hI h1)
  · exact iha σ1 (hpres hI h1)

include hrefl in
theorem sim_typeof {n : Nat} {a : Fn.FE} (hlw : lw a = true) (hnv : ∀ x, a ≠ .var x)
    (iha : ∀ σ, Inv σ → SimE R n a sc σ) (σ : FnM.St) (hI : Inv σ) : SimE R (n+1) (.typeof a) sc σ := by
  rw [SimE, evalV_typeof n a hlw hnv, spec_typeof n a hnv]
  refine (iha σ hI).bind htr fun v σ1 h1 => ?_
  rw [← typeofV_spec]
  exact .ok _ (hrefl σ1)

include hpres in
theorem sim_log (htrace : ∀ σ t, R σ { σ with trace := t }) (hro : ∀ ⦃σ⦄, Inv σ → ROInv σ xs) {n : Nat} {a : Fn.FE}
    (iha : ∀ σ, Inv σ → SimE R n a sc σ) (σ : FnM.St) (hI : Inv σ) : SimE R (n+1) (.log a) sc σ := by
  rw [SimE, evalV_log, spec_log]
  refine (iha σ hI).bind htr fun v σ1 h1 => ?_
  have hI1 := hro (hpres hI h1)
  simp only [bind_run, tokV_spec σ1 v hI1.cls hI1.ew, modifySt_run, pure_run]
  exact .ok v (htrace σ1 _)

include hpres in
/-- **the evaluator simulation for the fragment `lw`**, for any invariant `Inv` that gives the read-only invariant and
    the current scope, and any relation `R` on states that is transitive, lets the host log grow and preserves `Inv`;
    `hasg` is what is asked of an assignment -/
theorem sim_expr (htrace : ∀ σ t, R σ { σ with trace := t }) (hro : ∀ ⦃σ⦄, Inv σ → ROInv σ xs)
    (hscp : ∀ ⦃σ⦄, Inv σ → σ.scopes = sc :: rest) (ys : List String)
    (hasg : ∀ n x e1, x ∈ xs → x ∈ ys → (∀ σ, Inv σ → SimE R n e1 sc σ) → ∀ σ, Inv σ → SimE R (n+1) (.assign x e1) sc σ) :
    ∀ (n : Nat) (e : Fn.FE), lw e = true → (∀ x ∈ reads e, x ∈ xs) → (∀ y ∈ writes e, y ∈ ys) →
      ∀ σ, Inv σ → SimE R n e sc σ := by
  have hrefl : ∀ σ, R σ σ := fun σ => htrace σ σ.trace
  intro n
  induction n with
  | zero => intro e _ _ _ σ _; exact .inl (by simp [evalV, FnM.evalE, FnM.outOfFuel])
  | succ n ih =>
    intro e hlw hrd hwr σ hI
    cases e with
    | lit v => exact .inr (.inl ⟨Fn.ofPV v, σ, by simp [evalV, FnM.evalE], rfl, hrefl σ⟩)
    | this => exact .inr (.inl ⟨.ref sc.this, σ, by simp [evalV, FnM.evalE, curScope_run σ sc rest (hscp hI)], rfl, hrefl σ⟩)
    | var x => exact sim_var hrefl n x (hrd x List.mem_cons_self) σ (hro hI) (hscp hI)
    | add a b =>
      simp only [lw, Bool.and_eq_true, reads, writes, List.forall_mem_append] at hlw hrd hwr
      exact sim_bin htr hrefl hpres (evalV_bin (by rw [FnM.evalE])) (spec_add n a b)
        (ih a hlw.1 hrd.1 hwr.1) (ih b hlw.2 hrd.2 hwr.2) σ hI
    | sub a b =>
      simp only [lw, Bool.and_eq_true, reads, writes, List.forall_mem_append] at hlw hrd hwr
      exact sim_bin htr hrefl hpres (evalV_bin (by rw [FnM.evalE])) (spec_sub n a b)
        (ih a hlw.1 hrd.1 hwr.1) (ih b hlw.2 hrd.2 hwr.2) σ hI
    | lt a b =>
      simp only [lw, Bool.and_eq_true, reads, writes, List.forall_mem_append] at hlw hrd hwr
      exact sim_bin htr hrefl hpres (evalV_bin (by rw [FnM.evalE])) (spec_lt n a b)
        (ih a hlw.1 hrd.1 hwr.1) (ih b hlw.2 hrd.2 hwr.2) σ hI
    | seq a b =>
      simp only [lw, Bool.and_eq_true, reads, writes, List.forall_mem_append] at hlw hrd hwr
      exact sim_bin htr hrefl hpres (evalV_bin (by rw [FnM.evalE])) (spec_seq n a b)
        (ih a hlw.1 hrd.1 hwr.1) (ih b hlw.2 hrd.2 hwr.2) σ hI
    | not a => exact sim_un htr hrefl (evalV_un (by rw [FnM.evalE])) (spec_not n a) (ih a hlw hrd hwr) σ hI
    | val a => exact sim_un htr hrefl (f := fun v => v) (evalV_un (by rw [FnM.evalE])) (spec_val n a) (ih a hlw hrd hwr) σ hI
    | typeof a =>
      by_cases hv : ∃ x, a = .var x
      · obtain ⟨x, rfl⟩ := hv
        exact sim_typeof_var hrefl n x (hrd x List.mem_cons_self) σ (hro hI) (hscp hI)
      · exact sim_typeof htr hrefl (a := a) hlw (fun x h => hv ⟨x, h⟩) (ih a hlw hrd hwr) σ hI
    | log a => exact sim_log htr hpres htrace hro (ih a hlw hrd hwr) σ hI
    | cond t a b =>
      simp only [lw, Bool.and_eq_true, reads, writes, List.forall_mem_append] at hlw hrd hwr
      exact sim_cond htr hpres (ih t hlw.1.1 hrd.1.1 hwr.1.1) (ih a hlw.1.2 hrd.1.2 hwr.1.2) (ih b hlw.2 hrd.2 hwr.2) σ hI
    | assign x e1 =>
      exact hasg n x e1 (hrd x List.mem_cons_self) (hwr x List.mem_cons_self)
        (ih e1 hlw (fun y hy => hrd y (List.mem_cons_of_mem _ hy)) (fun y hy => hwr y (List.mem_cons_of_mem _ hy))) σ hI
    | _ => cases hlw

end

/-- **expr_refines_partial** — the evaluator simulation for the read-only identifier fragment (literals, `this`,
    identifiers, + − < === !, typeof, `(0, e)`, `log(e)`, `?:`): in every state satisfying `ROInv`, with otto's current scope
    `sc`, otto's evaluation followed by GetValue and ES5's evaluation in the context read off `sc` give the same value
    (or the same error), extend the host log by the same tokens and change nothing else – unless otto runs out of
    fuel.  FULL STATEMENT (open): the same for every FE and FS, with the states related by an address-renaming
    relation instead of `absSt` (the two sides allocate in different orders), by induction on fuel. -/
theorem expr_refines_partial (sc : FnM.Scope) (rest : List FnM.Scope) (xs : List String) :
    ∀ (n : Nat) (e : Fn.FE), ro e = true → (∀ x ∈ idents e, x ∈ xs) →
      ∀ σ, ROInv σ xs → σ.scopes = sc :: rest → ROSim n e sc σ := by
  intro n e hro hid σ hI hsc
  obtain ⟨hlw, hrd, hwr⟩ := ro_lw e hro
  refine ROSim.of_simE (sim_expr (Inv := fun σ => ROInv σ xs ∧ σ.scopes = sc :: rest) (rest := rest)
    (fun _ _ _ ⟨_, h⟩ ⟨t', h'⟩ => ⟨t', by rw [h', h]⟩) (fun _ _ hI ⟨t, h⟩ => h ▸ ⟨hI.1.trace t, hI.2⟩) (fun σ t => ⟨t, rfl⟩)
    (fun _ h => h.1) (fun _ h => h.2) [] (fun _ _ _ _ hy => absurd hy List.not_mem_nil) n e hlw (hrd ▸ hid) (hwr ▸ fun _ h => h) σ ⟨hI, hsc⟩)

end OttoVerif.C01.FnRefine
