/-
  C01/ForInTheorems — otto's for-in evaluator (nested loops over the prototype chain, stopped through
  the flags `obj = nil` / `return false`, two value accumulators, a `visited` set kept only when the
  object has a prototype) IS the ES5 §12.6.4 loop (one loop over all properties of the chain in turn;
  not deleted, enumerable, not shadowed, name not visited before; an abrupt completion ends the
  statement), for every chain, every property list, every `has` (deletions and additions by the body
  included) and every behaviour of the body: `forin_refines`, no hypothesis, values included.
  `forin_refines_static`: when shadowing does not change during the enumeration (`Stable`), this is
  also the reading in which what shadows what is fixed at the start (the one FnSpec executes).
  What in otto's source each lemma rests on: `outer_rec` on an exit stopping BOTH loops (`obj = nil`,
  fix cfa3e2e) and on the value kept on break; `inner_rec` on the shadow test (fix cb72f5e) and on the
  `visited` set.
-/
import OttoVerif.C01.ForInModel
namespace OttoVerif.C01.ForInThm
open OttoVerif.C01.ForIn

section
variable {κ σ ρ ν : Type} [DecidableEq κ]

omit [DecidableEq κ] in
theorem orV_assoc (a b c : Option ν) : orV a (orV b c) = orV (orV a b) c := by
  cases a <;> rfl

/-- one object of a chain that has a second object (`rc = true`: the visited set is kept): otto's inner
    loop is the corresponding stretch of the flat loop -/
theorem inner_rec (has : σ → Nat → κ → Bool) (body : κ → σ → Out σ ρ ν) (i : Nat)
    (tail : List (Nat × κ × Bool)) (res : Option ν) :
    ∀ (ps : List (κ × Bool)) (s : σ) (ev : Option ν) (vis : List κ),
      specLoop has body ((ps.map fun p => (i, p.1, p.2)) ++ tail) s (orV ev res) vis =
        match inner has body i true res ps s ev vis with
        | .finished ev' s' vis' => specLoop has body tail s' (orV ev' res) vis'
        | .stopped r s' => .broke r s'
        | .exited x s' => .abrupt x s' := by
  intro ps
  induction ps with
  | nil => intro s ev vis; simp [inner]
  | cons p r ih =>
    intro s ev vis
    obtain ⟨k, en⟩ := p
    simp only [List.map_cons, List.cons_append, specLoop, inner, Bool.true_and, if_true]
    split
    · cases hb : body k s with
      | normal v s' => simp only []; rw [orV_assoc]; exact ih s' (orV v ev) (k :: vis)
      | cont v s' => simp only []; rw [orV_assoc]; exact ih s' (orV v ev) (k :: vis)
      | brk v s' => simp only []; rw [orV_assoc]
      | exit x s' => rfl
    · exact ih s ev vis

theorem outer_rec (has : σ → Nat → κ → Bool) (body : κ → σ → Out σ ρ ν) :
    ∀ (rest : List (Obj κ)) (i : Nat) (s : σ) (res : Option ν) (vis : List κ),
      outer has body true i rest s res vis = specLoop has body (flatAll i rest) s res vis := by
  intro rest
  induction rest with
  | nil => intro i s res vis; simp [outer, flatAll, specLoop]
  | cons o rest ih =>
    intro i s res vis
    have hi := inner_rec has body i (flatAll (i+1) rest) res o.props s none vis
    have hnone : orV (none : Option ν) res = res := rfl
    rw [hnone] at hi
    simp only [flatAll, outer]
    rw [hi]
    cases hin : inner has body i true res o.props s none vis with
    | finished ev' s' vis' => simp only []; exact ih (i+1) s' (orV ev' res) vis'
    | stopped r s' => rfl
    | exited x s' => rfl

/-- the chain is a single object (`rc = false`): otto keeps no visited set, and the spec's visited test
    never fires because the names of one object are distinct -/
theorem inner_norec (has : σ → Nat → κ → Bool) (body : κ → σ → Out σ ρ ν) (i : Nat) (res : Option ν) :
    ∀ (ps : List (κ × Bool)), (ps.map (·.1)).Nodup →
    ∀ (s : σ) (ev : Option ν) (vis ov : List κ), (∀ k ∈ ps.map (·.1), k ∉ vis) →
      specLoop has body (ps.map fun p => (i, p.1, p.2)) s (orV ev res) vis =
        match inner has body i false res ps s ev ov with
        | .finished ev' s' _ => .exhausted (orV ev' res) s'
        | .stopped r s' => .broke r s'
        | .exited x s' => .abrupt x s' := by
  intro ps
  induction ps with
  | nil => intro _ s ev vis ov _; rfl
  | cons p r ih =>
    obtain ⟨k, en⟩ := p
    intro hnd s ev vis ov hvis
    rw [List.map_cons, List.nodup_cons] at hnd
    rw [List.map_cons, List.forall_mem_cons] at hvis
    have hkv : vis.contains k = false := Bool.eq_false_iff.2 fun h => hvis.1 (List.contains_iff_mem.1 h)
    simp only [List.map_cons, specLoop, inner, hkv, Bool.not_false, Bool.and_true, Bool.false_and, if_false,
      Bool.false_eq_true]
    split
    · have hvis' : ∀ k' ∈ r.map (·.1), k' ∉ k :: vis :=
        fun k' hk' hmem => (List.mem_cons.1 hmem).elim (fun h => hnd.1 (h ▸ hk')) (hvis.2 k' hk')
      cases body k s with
      | normal v s' => simp only []; rw [orV_assoc]; exact ih hnd.2 s' (orV v ev) (k :: vis) ov hvis'
      | cont v s' => simp only []; rw [orV_assoc]; exact ih hnd.2 s' (orV v ev) (k :: vis) ov hvis'
      | brk v s' => simp only []; rw [orV_assoc]
      | exit x s' => rfl
    · exact ih hnd.2 s ev vis ov hvis.2

/-- **forin_refines**: for every chain, every property list, every `has` and every behaviour of the
    body, otto's for-in ends the way §12.6.4 says (all visited / break / the same abrupt completion),
    in the same state, with the same completion value. -/
theorem forin_refines (has : σ → Nat → κ → Bool) (body : κ → σ → Out σ ρ ν) (chain : List (Obj κ)) (s : σ) :
    ottoForIn has body chain s = specForIn has body chain s := by
  match chain with
  | [] => simp [ottoForIn, specForIn, outer, flatAll, specLoop]
  | [o] =>
    have h := inner_norec has body 0 none o.props o.nodup s none [] [] (fun _ _ h => nomatch h)
    have hnone : orV (none : Option ν) none = none := rfl
    rw [hnone] at h
    simp only [ottoForIn, specForIn, flatAll, List.append_nil, List.length_singleton, Nat.lt_irrefl, decide_false, outer]
    rw [h]
    cases inner has body 0 false none o.props s none [] with
    | finished ev' s' vis' => cases ev' <;> rfl
    | stopped r s' => rfl
    | exited x s' => rfl
  | o1 :: o2 :: rest =>
    have : decide (1 < (o1 :: o2 :: rest).length) = true := by simp
    simp only [ottoForIn, specForIn, this]
    exact outer_rec has body (o1 :: o2 :: rest) 0 s none []

/-- the shadow test made when a property's turn comes gives what the list of names of the objects
    nearer the start says, for every object from position `i` on -/
def ShadowOK (has : σ → Nat → κ → Bool) : Nat → List (Obj κ) → List κ → Prop
  | _, [], _ => True
  | i, o :: rest, seen =>
    (∀ k ∈ o.names, ∀ s, shadowNow has s i k = seen.contains k) ∧ ShadowOK has (i+1) rest (seen ++ o.names)

/-- one object: under the static shadow test the visited test never fires.  `seen` holds the names of the
    objects nearer the start; `bound` (⊇ `seen` and this object's names) keeps the visited names inside the
    names met so far, which is all the tail's hypothesis `hk` asks of them -/
theorem inner_static (has : σ → Nat → κ → Bool) (body : κ → σ → Out σ ρ ν) (i : Nat) (seen bound : List κ)
    (tailA : List (Nat × κ × Bool)) (tailS : List (Nat × κ))
    (hk : ∀ (s : σ) (V : Option ν) (vis : List κ), vis ⊆ bound →
      specLoop has body tailA s V vis = staticLoop has body tailS s V) :
    ∀ (ps : List (κ × Bool)), (ps.map (·.1)).Nodup →
      (∀ k ∈ ps.map (·.1), ∀ s, shadowNow has s i k = seen.contains k) →
      (∀ k ∈ ps.map (·.1), k ∈ bound) →
    ∀ (s : σ) (V : Option ν) (vis : List κ),
      (∀ k ∈ ps.map (·.1), seen.contains k = false → k ∉ vis) → vis ⊆ bound →
      specLoop has body ((ps.map fun p => (i, p.1, p.2)) ++ tailA) s V vis =
        staticLoop has body (((ps.filter fun p => p.2 && !seen.contains p.1).map fun p => (i, p.1)) ++ tailS) s V := by
  intro ps
  induction ps with
  | nil => intro _ _ _ s V vis _ hG; exact hk s V vis hG
  | cons p r ih =>
    obtain ⟨k, en⟩ := p
    intro hnd hsh hb s V vis hH hG
    rw [List.map_cons, List.nodup_cons] at hnd
    rw [List.map_cons, List.forall_mem_cons] at hsh hb hH
    have ih := ih hnd.2 hsh.2 hb.2
    simp only [List.map_cons, List.cons_append, specLoop, hsh.1 s, List.filter_cons]
    -- the test of the flat loop is `has s i k && (en && !seen.contains k) && !vis.contains k`
    rw [Bool.and_assoc (has s i k)]
    cases hkeep : en && !seen.contains k
    · simp only [Bool.and_false, Bool.false_and, Bool.false_eq_true, if_false]
      exact ih s V vis hH.2 hG
    · have hkv : vis.contains k = false := by
        rw [Bool.and_eq_true, Bool.not_eq_true'] at hkeep
        exact Bool.eq_false_iff.2 fun h => hH.1 hkeep.2 (List.contains_iff_mem.1 h)
      have hH' : ∀ k' ∈ r.map (·.1), seen.contains k' = false → k' ∉ k :: vis :=
        fun k' hk' hs' hmem => (List.mem_cons.1 hmem).elim (fun h => hnd.1 (h ▸ hk')) (hH.2 k' hk' hs')
      have hG' : k :: vis ⊆ bound := List.cons_subset.2 ⟨hb.1, hG⟩
      simp only [hkv, Bool.and_true, Bool.not_false, if_true, List.map_cons, List.cons_append, staticLoop]
      split
      · cases body k s with
        | normal v s' => exact ih s' (orV v V) (k :: vis) hH' hG'
        | cont v s' => exact ih s' (orV v V) (k :: vis) hH' hG'
        | brk v s' => rfl
        | exit x s' => rfl
      · exact ih s V vis hH.2 hG

theorem chain_static (has : σ → Nat → κ → Bool) (body : κ → σ → Out σ ρ ν) :
    ∀ (rest : List (Obj κ)) (i : Nat) (seen : List κ), ShadowOK has i rest seen →
    ∀ (s : σ) (V : Option ν) (vis : List κ), vis ⊆ seen →
      specLoop has body (flatAll i rest) s V vis = staticLoop has body (flat i rest seen) s V := by
  intro rest
  induction rest with
  | nil => intro i seen _ s V vis _; rfl
  | cons o rest ih =>
    intro i seen hok s V vis hvis
    exact inner_static has body i seen (seen ++ o.names) (flatAll (i+1) rest) (flat (i+1) rest (seen ++ o.names))
      (ih (i+1) (seen ++ o.names) hok.2) o.props o.nodup hok.1 (fun k hk => List.mem_append_right _ hk) s V vis
      (fun k _ hns hmem => Bool.eq_false_iff.1 hns (List.contains_iff_mem.2 (hvis hmem)))
      (List.subset_append_of_subset_left _ hvis)

theorem shadowOK_of_stable (has : σ → Nat → κ → Bool) :
    ∀ (rest pre : List (Obj κ)), Stable has (pre ++ rest) → ShadowOK has pre.length rest (pre.map Obj.names).flatten := by
  intro rest
  induction rest with
  | nil => intro pre _; trivial
  | cons o rest ih =>
    intro pre hst
    refine ⟨?_, ?_⟩
    · intro k hk s
      have hget : (pre ++ o :: rest)[pre.length]? = some o := by simp
      rw [Bool.eq_iff_iff]
      simp only [shadowNow, List.any_eq_true, List.mem_range, List.contains_iff_mem, List.mem_flatten,
        List.mem_map]
      constructor
      · rintro ⟨j, hj, hhas⟩
        obtain ⟨o', ho', hko'⟩ := (hst s pre.length j k hj ⟨o, hget, hk⟩).1 hhas
        have hgj : (pre ++ o :: rest)[j]? = some pre[j] := by simp [List.getElem?_append_left hj]
        rw [hgj] at ho'
        cases ho'
        exact ⟨pre[j].names, ⟨pre[j], List.getElem_mem hj, rfl⟩, hko'⟩
      · rintro ⟨l, ⟨o', ho', rfl⟩, hkl⟩
        obtain ⟨j, hj, rfl⟩ := List.mem_iff_getElem.1 ho'
        refine ⟨j, hj, ?_⟩
        have hgj : (pre ++ o :: rest)[j]? = some pre[j] := by simp [List.getElem?_append_left hj]
        exact (hst s pre.length j k hj ⟨o, hget, hk⟩).2 ⟨pre[j], hgj, hkl⟩
    · have := ih (pre ++ [o]) (by simpa using hst)
      simpa using this

/-- the two readings of §12.6.4 coincide when shadowing does not change during the enumeration -/
theorem spec_eq_static (has : σ → Nat → κ → Bool) (body : κ → σ → Out σ ρ ν) (chain : List (Obj κ)) (s : σ)
    (hst : Stable has chain) : specForIn has body chain s = specStatic has body chain s := by
  have := shadowOK_of_stable has chain [] (by simpa using hst)
  exact chain_static has body chain 0 [] (by simpa using this) s none [] (by simp)

/-- **forin_refines_static**: otto's for-in against the reading FnSpec executes (properties to visit and
    what shadows what fixed when the statement starts) -/
theorem forin_refines_static (has : σ → Nat → κ → Bool) (body : κ → σ → Out σ ρ ν) (chain : List (Obj κ)) (s : σ)
    (hst : Stable has chain) : ottoForIn has body chain s = specStatic has body chain s :=
  (forin_refines has body chain s).trans (spec_eq_static has body chain s hst)

end

/- Instances checked by `decide`: state = (log of visited names, "own a has been deleted"),
   values = Nat, exits = Nat. -/

abbrev S := List String × Bool

/-- chain: object 0 = {a (enumerable), h (not enumerable)}, object 1 = {a, h, b} all enumerable -/
def chain1 : List (Obj String) :=
  [⟨[("a", true), ("h", false)], by decide⟩, ⟨[("a", true), ("h", true), ("b", true)], by decide⟩]

def hasStatic : S → Nat → String → Bool := fun _ j k =>
  match chain1[j]? with
  | some o => o.names.contains k
  | none => false

/-- logs the name, value 7 -/
def bodyLog : String → S → Out S Nat Nat := fun k s => .normal (some 7) (s.1 ++ [k], s.2)

-- the visit is: own a, then inherited b (a and h are shadowed, h by a NON-enumerable property)
example : ottoForIn hasStatic bodyLog chain1 ([], false) = .exhausted (some 7) (["a", "b"], false) := by decide
example : specStatic hasStatic bodyLog chain1 ([], false) = .exhausted (some 7) (["a", "b"], false) := by decide

/-- `Stable` is satisfiable: nothing deleted, nothing added -/
theorem stable_hasStatic : Stable hasStatic chain1 := by
  intro s i j k _ _
  simp only [hasStatic]
  cases h : chain1[j]? with
  | none => simp
  | some o => simp

/-- return in the first iteration: the prototype is not enumerated -/
def bodyRet : String → S → Out S Nat Nat := fun k s => .exit 1 (s.1 ++ [k], s.2)
example : ottoForIn hasStatic bodyRet chain1 ([], false) = .abrupt 1 (["a"], false) := by decide

/-- value 7, then break: the value is the statement's value -/
def bodyBrk : String → S → Out S Nat Nat := fun k s => .brk (some 7) (s.1 ++ [k], s.2)
example : ottoForIn hasStatic bodyBrk chain1 ([], false) = .broke (some 7) (["a"], false) := by decide

/-- the body deletes the own `a` (flag in the state): the name `a` is not visited again on the
    prototype, although it is no longer shadowed there -/
def hasDel : S → Nat → String → Bool := fun s j k => if j = 0 ∧ k = "a" ∧ s.2 then false else hasStatic s j k
def bodyDel : String → S → Out S Nat Nat := fun k s => .normal none (s.1 ++ [k], true)
example : ottoForIn hasDel bodyDel chain1 ([], false) = .exhausted none (["a", "b"], true) := by decide
example : specStatic hasDel bodyDel chain1 ([], false) = .exhausted none (["a", "b"], true) := by decide

end OttoVerif.C01.ForInThm
