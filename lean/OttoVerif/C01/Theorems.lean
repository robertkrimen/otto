/-
  C01/Theorems — the statement layer's results: `stmt_refines_trace` and its readings on whole programs.

  `Sim L iter mr sr` (Refine.lean): model and spec results have the same final state (which contains
  the host-call trace), the same completion kind (normal / break t / continue t / return v / throw v,
  with the same returned or thrown value) AND the same completion VALUE (`KindRel = KindRelT … ∧ ovVal o = c.v`:
  otto's emptyValue / value / the value a break or continue result carries is ES5's `c.v`).  When either side
  runs out of fuel `Sim` holds trivially: the theorems speak about evaluations that end on both sides.
  There is no Dev region: the model transcribes otto with the completion-value repairs 2145201, 1304643
  and b27edd1 (per-pass value of loops, label reset of if and with).
-/
import OttoVerif.C01.RefineProof
namespace OttoVerif.C01.Thm
open OttoVerif.C01
variable {St : Type}

/-- C01.stmt_refines_trace: for EVERY statement, every expression semantics `S`, every state, every
    amount of fuel on either side: otto's label-stack evaluation and ES5's completion-record
    evaluation are in the simulation relation, provided `continue` targets are well formed
    (ES5 §12.7 early error) and the model's pending labels `L` are exactly the label set `ls`
    (as sets) and contain none of the enclosing iteration labels. -/
theorem stmt_refines_trace (S : Sem St) (n m : Nat) (s : Stmt) (L ls iter : List String) (σ : St)
    (H1 : ∀ t ∈ ls, t ∈ L) (H1' : ∀ t ∈ L, t ∈ ls) (H2 : ∀ t ∈ L, t ∉ iter) (hwl : wlS iter ls s = true) :
    Sim L iter (ottoS S n s L σ) (specS S m ls s σ) :=
  (pall_all S n).1 m σ ⟨H1, H1'⟩ hwl

/-- C01.program_refines_trace: whole programs (statement list from rest). -/
theorem program_refines_trace (S : Sem St) (n m : Nat) (ss : Stmts) (σ : St) (hwl : wlList [] ss = true) :
    Sim [] [] (ottoProgram S n ss σ) (specProgram S m ss σ) := by
  have := (pall_all S n).2.1 m σ .empty rfl hwl
  rwa [ovVal_empty, listWrap_none] at this

/-- C01.program_refines_value: for EVERY program, every expression semantics, every state and fuel: when both
    evaluations end without an uncaught exception, otto's completion value (emptyValue = none, or the value; for an
    abrupt completion the value it carries) is the value of ES5's completion record. -/
theorem program_refines_value (S : Sem St) (n m : Nat) (ss : Stmts) (σ σ1 σ2 : St) (o : OV) (c : Comp) (L' : List String)
    (hwl : wlList [] ss = true)
    (hm : ottoProgram S n ss σ = .ok o L' σ1) (hs : specProgram S m ss σ = .ok c σ2) :
    ovVal o = c.v := by
  have h : Sim [] [] (.ok o L' σ1) (.ok c σ2) := hm ▸ hs ▸ program_refines_trace S n m ss σ hwl
  exact h.2.2.2

/-- Readable corollary: if both evaluations terminate normally-or-abruptly without throwing, the final
    states coincide, `rt.labels` is back to rest, and otto yields a `valueResult` exactly when ES5's
    completion is abrupt. -/
theorem program_ok_ok (S : Sem St) (n m : Nat) (ss : Stmts) (σ σ1 σ2 : St) (o : OV) (c : Comp) (L' : List String)
    (hwl : wlList [] ss = true)
    (hm : ottoProgram S n ss σ = .ok o L' σ1) (hs : specProgram S m ss σ = .ok c σ2) :
    σ1 = σ2 ∧ L' = [] ∧ (isResult o = true ↔ c.abrupt = true) := by
  have h : Sim [] [] (.ok o L' σ1) (.ok c σ2) := hm ▸ hs ▸ program_refines_trace S n m ss σ hwl
  refine ⟨h.1, labok_of_nil h.2.1, fun hr => kindrel_result_abrupt hr h.2.2, fun ha => ?_⟩
  cases hr : isResult o with
  | true => rfl
  | false => rw [abrupt_of_normal (kindrel_nil_normal hr h.2.2)] at ha; cases ha

/-- An uncaught exception on one side is the same uncaught exception on the other. -/
theorem program_throw_throw (S : Sem St) (n m : Nat) (ss : Stmts) (σ σ1 σ2 : St) (v1 v2 : Val) (L' : List String)
    (hwl : wlList [] ss = true)
    (hm : ottoProgram S n ss σ = .throw v1 L' σ1) (hs : specProgram S m ss σ = .throw v2 σ2) :
    v1 = v2 ∧ σ1 = σ2 ∧ L' = [] := by
  have h : Sim [] [] (.throw v1 L' σ1) (.throw v2 σ2) := hm ▸ hs ▸ program_refines_trace S n m ss σ hwl
  exact ⟨h.1, h.2.1, labok_of_nil h.2.2⟩

/-- The two sides can never disagree on whether the program throws. -/
theorem program_no_mixed (S : Sem St) (n m : Nat) (ss : Stmts) (σ : St) (hwl : wlList [] ss = true) :
    (∀ o L' σ1 v σ2, ottoProgram S n ss σ = .ok o L' σ1 → specProgram S m ss σ ≠ .throw v σ2) ∧
    (∀ v L' σ1 c σ2, ottoProgram S n ss σ = .throw v L' σ1 → specProgram S m ss σ ≠ .ok c σ2) := by
  have h := program_refines_trace S n m ss σ hwl
  constructor
  · intro o L' σ1 v σ2 hm hs; rw [hm, hs] at h; exact h
  · intro v L' σ1 c σ2 hm hs; rw [hm, hs] at h; exact h

/-- C01.labels_at_rest (used by C18): after any terminating program – normal, abrupt or throwing –
    `rt.labels` is empty again, whenever the ES5 evaluation of the same program terminates. -/
theorem labels_at_rest (S : Sem St) (n m : Nat) (ss : Stmts) (σ : St) (hwl : wlList [] ss = true)
    (hs : specProgram S m ss σ ≠ .fuel) :
    match ottoProgram S n ss σ with
    | .ok _ L' _ => L' = []
    | .throw _ L' _ => L' = []
    | .fuel => True := by
  revert hs
  refine (program_refines_trace S n m ss σ hwl).elim ?_ ?_ ?_ ?_
  · intro sr _; exact True.intro
  · intro mr hs; exact absurd rfl hs
  · intro o L' σ1 c hl _ _; exact labok_of_nil hl
  · intro v L' σ1 hl _; exact labok_of_nil hl

end OttoVerif.C01.Thm
