/-
  C01/FnRefineLW — the evaluator simulation for expressions that ASSIGN to existing bindings.  The states are still
  related by `absSt` (no allocation in this fragment) but they change; what stays fixed is the shape of a state
  (FnRefineShape), and every invariant the bottom-up lemmas need is a property of the shape.
-/
import OttoVerif.C01.FnRefineEval
import OttoVerif.C01.FnRefinePut
namespace OttoVerif.C01.FnRefine
open OttoVerif.C01

theorem StashNodup.shape {σ σ' : FnM.St} (hn : StashNodup σ) (h : Shape σ σ') : StashNodup σ' := by
  intro j
  have key : ∀ l : List (String × FnM.DclProp), l.map (·.1) = (l.map fun kp => (kp.1, eraseP kp.2)).map (·.1) := by
    intro l; simp [List.map_map, Function.comp_def]
  rw [key, h.dclProps j, ← key]
  exact hn j

theorem WritableWF.shape {σ σ' : FnM.St} (hw : WritableWF σ) (h : Shape σ σ') : WritableWF σ' := by
  intro a o' k p' ho' hl' hh'
  obtain ⟨o, ho, he⟩ := h.symm.obj_some a o' ho'
  obtain ⟨p, hl, hpw, _, _⟩ := erase_lookup_some he k p' hl'
  rw [← hpw, ← erase_val he]
  exact hw a o k p ho hl (by rw [erase_val he]; exact hh')

theorem ProtoDesc.shape {σ σ' : FnM.St} (hd : ProtoDesc σ) (h : Shape σ σ') : ProtoDesc σ' := by
  intro a o' q ho' hq
  obtain ⟨o, ho, he⟩ := h.symm.obj_some a o' ho'
  exact hd a o q ho (by rw [erase_proto he]; exact hq)

/-- the identifier `y` resolves, from the scope's lexical stash, to a binding that EXISTS and whose update keeps the
    shape: a binding of a declarative stash (not the global one), or an own property of the object of an object stash
    (a global variable, a property of a `with` object) that is neither an arguments nor a String object; and it is
    not `name` (whose value on Error objects is part of the shape) -/
def Assignable (σ : FnM.St) (sc : FnM.Scope) (y : String) : Prop :=
  y ≠ "name" ∧ ∃ j, Fn.envResolve (absSt σ) (σ.stashes.length + 1) sc.lexical y = some j ∧
    ((j ≠ 0 ∧ ∃ p, Fn.lookupA y (FnM.dclProps σ j) = some p) ∨
     (∃ outer o ob p, σ.stash? j = some (.obj outer o) ∧ σ.obj? o = some ob ∧ Fn.lookupA y ob.props = some p ∧
        (∀ ipn st, ob.val ≠ .arguments ipn st) ∧ (∀ s, ob.val ≠ .string s)))

theorem Assignable.shape {σ σ' : FnM.St} {sc : FnM.Scope} {y : String} (ha : Assignable σ sc y) (h : Shape σ σ') :
    Assignable σ' sc y := by
  obtain ⟨hn, j, hr, hcase⟩ := ha
  refine ⟨hn, j, by rw [h.len, h.envResolve y, hr], ?_⟩
  rcases hcase with ⟨hj, p, hl⟩ | ⟨outer, o, ob, p, hs, ho, hl, hna, hstr⟩
  · obtain ⟨p', hl', _, _, _⟩ := h.lookup_some j y p hl
    exact Or.inl ⟨hj, p', hl'⟩
  · obtain ⟨ob', ho', he⟩ := h.obj_some o ob ho
    obtain ⟨p', hl', _, _, _⟩ := erase_lookup_some he y p hl
    refine Or.inr ⟨outer, o, ob', p', h.stash_obj j outer o hs, ho', hl', ?_, ?_⟩
    · rw [erase_val he]; exact hna
    · rw [erase_val he]; exact hstr

/-- what the simulation needs of a state: the read-only invariant for the identifiers that occur, the current scope,
    no duplicate names in a stash, `WritableWF` and `ProtoDesc` (for [[Put]] on an object record), and every assigned
    identifier is `Assignable` -/
structure LWInv (σ : FnM.St) (sc : FnM.Scope) (rest : List FnM.Scope) (xs ys : List String) : Prop where
  ro : ROInv σ xs
  scp : σ.scopes = sc :: rest
  nd : StashNodup σ
  ww : WritableWF σ
  pd : ProtoDesc σ
  asg : ∀ y ∈ ys, Assignable σ sc y

theorem LWInv.shape {σ σ' : FnM.St} {sc : FnM.Scope} {rest : List FnM.Scope} {xs ys : List String}
    (hI : LWInv σ sc rest xs ys) (h : Shape σ σ') : LWInv σ' sc rest xs ys :=
  ⟨hI.ro.shape h, by rw [h.scopes]; exact hI.scp, hI.nd.shape h, hI.ww.shape h, hI.pd.shape h, fun y hy => (hI.asg y hy).shape h⟩

/-- the outcome of an expression of the fragment: out of fuel, or the same value / the same error on both sides, in
    states that correspond again and have the shape of the initial one -/
def LWSim (n : Nat) (e : Fn.FE) (sc : FnM.Scope) (σ : FnM.St) : Prop :=
  evalV n e σ = .fuel ∨
  (∃ v σ', evalV n e σ = .ok v σ' ∧ Fn.evalE n e (ctxOf sc) (absSt σ) = .ok v (absSt σ') ∧ Shape σ σ') ∨
  (∃ nm σ', evalV n e σ = .throw (.err nm) σ' ∧ Fn.evalE n e (ctxOf sc) (absSt σ) = Fn.throwErr (absSt σ') nm ∧ Shape σ σ')

/-- [[Put]] on an existing own property of an ordinary object: the value is replaced (or, read-only, nothing happens) -/
theorem objPut_update_run (σ : FnM.St) (a : Nat) (x : String) (v : Fn.V) (ob : FnM.Obj) (p : FnM.Pty)
    (ho : σ.obj? a = some ob) (hl : Fn.lookupA x ob.props = some p)
    (hna : ∀ ipn st, ob.val ≠ .arguments ipn st) (hstr : ∀ s, ob.val ≠ .string s) (hx : x ≠ "name") :
    ∃ σ', FnM.objPut a x v false σ = .ok () σ' ∧ Shape σ σ' := by
  have hm : mapGetP σ ob x = none := mapGetP_none_of_not_args σ ob x hna
  have hown : ownP σ a x = some p := by rw [ownP_of_unmapped σ a ob x ho hstr hm, hl]
  unfold FnM.objPut
  simp only [bind_run, canPutDetails_own σ a x p hown]
  cases hw : p.w with
  | false => exact ⟨σ, by simp [FnM.typeErrorResult], Shape.refl σ⟩
  | true =>
    simp only [Bool.not_true, Bool.false_eq_true, if_false, bind_run]
    have hd : ({ value := v, w := true, e := p.e, c := p.c } : FnM.Pty) = { p with value := v } := by
      cases p; simp_all
    rw [hd, defineOwnProperty_nonargs σ a ob x _ false ho hna,
      odop_update σ a ob x { p with value := v } p false ho hl rfl rfl (Or.inr hw)]
    refine ⟨_, rfl, map_setNth_of_eq eraseObj _ a _ _ ho ?_, rfl, rfl⟩
    simp only [eraseObj, FnM.Obj.mk.injEq, true_and, and_true]
    exact updateA_mapk_same eraseV x { p with value := v } p (by simp [eraseV, hx]) ob.props hl

theorem evalV_assign (n : Nat) (x : String) (e1 : Fn.FE) (sc : FnM.Scope) (rest : List FnM.Scope) (σ : FnM.St)
    (hsc : σ.scopes = sc :: rest) (hv : Visible σ x) (h0 : WF0 σ) :
    evalV (n+2) (.assign x e1) σ = (do
      let v ← evalV (n+1) e1
      FnM.rtPutValue (refOf σ x (Fn.envResolve (absSt σ) (σ.stashes.length + 1) sc.lexical x)) v
      pure v) σ := by
  rw [evalV, FnM.evalE, bind_assoc, bind_run, evalE_var_run n x sc rest σ hsc hv h0]
  simp only [evalV, bind_assoc, pure_bind, resolve_val]

theorem spec_assign (n : Nat) (x : String) (e1 : Fn.FE) (c : Fn.Ctx) (s : Fn.St) :
    Fn.evalE (n+1) (.assign x e1) c s =
      sbind (Fn.evalE n e1 c s) fun v s1 =>
        sbind (Fn.putIdent s1 (Fn.envResolve s (s.envs.length + 1) c.env x) x v) fun _ s2 => .ok v s2 := by
  rw [Fn.evalE]
  cases Fn.evalE n e1 c s with
  | fuel => rfl
  | throw t s1 => rfl
  | ok v s1 => simp only [sbind]; cases Fn.putIdent s1 (Fn.envResolve s (s.envs.length + 1) c.env x) x v <;> rfl

/-- §11.13.1 for an `Assignable` identifier: the reference is made first (and stays valid: the right-hand side
    cannot change the shape), the value is stored in the binding it names -/
theorem lw_assign (n : Nat) (x : String) (e1 : Fn.FE) (sc : FnM.Scope) (rest : List FnM.Scope) (xs ys : List String)
    (hx : x ∈ xs) (hy : x ∈ ys)
    (ih : ∀ σ, LWInv σ sc rest xs ys → SimE Shape n e1 sc σ)
    (σ : FnM.St) (hI : LWInv σ sc rest xs ys) : SimE Shape (n+1) (.assign x e1) sc σ := by
  cases n with
  | zero => exact .inl (by simp [evalV, FnM.evalE, FnM.outOfFuel])
  | succ n =>
    obtain ⟨hxn, j, hr, hcase⟩ := hI.asg x hy
    rw [SimE, evalV_assign n x e1 sc rest σ hI.scp (hI.ro.vis x hx) hI.ro.wf0, spec_assign]
    simp only [ctxOf, absSt_envs_length, hr]
    refine (ih σ hI).bind (R := Shape) (fun _ _ _ h h' => h.trans h') fun v σ1 hsh => ?_
    have hI1 := hI.shape hsh
    -- the put, in the state the right-hand side left: it keeps the shape and abstracts to ES5's PutValue
    have hput : ∃ σ2, FnM.rtPutValue (refOf σ x (some j)) v σ1 = .ok () σ2 ∧ Shape σ1 σ2 ∧
        Fn.putIdent (absSt σ1) (some j) x v = .ok () (absSt σ2) := by
      rcases hcase with ⟨hj, p, hl⟩ | ⟨outer, o, ob, p, hst, ho, hl, hna, hstr⟩
      · have href : refOf σ x (some j) = .stash j x := by
          simp only [refOf]
          rcases dclProps_of_stash σ j x p hl with ⟨o, hs⟩ | ⟨o, ar, hs⟩ <;> simp [FnM.newReference, hs]
        obtain ⟨p', hl', _, _, _⟩ := hsh.lookup_some j x p hl
        rw [href]
        exact putValue_dcl_spec σ1 j x v p' hj hI1.nd hl'
      · have href : refOf σ x (some j) = .prop (some o) x := by
          simp only [refOf, newReference_obj σ j x outer o hst]
        have hst1 := hsh.stash_obj j outer o hst
        obtain ⟨ob', ho', he⟩ := hsh.obj_some o ob ho
        obtain ⟨p', hl', _, _, _⟩ := erase_lookup_some he x p hl
        have hna' : ∀ ipn st, ob'.val ≠ .arguments ipn st := by rw [erase_val he]; exact hna
        have hstr' : ∀ s, ob'.val ≠ .string s := by rw [erase_val he]; exact hstr
        obtain ⟨σ2, hrun, hsh2⟩ := objPut_update_run σ1 o x v ob' p' ho' hl' hna' hstr' hxn
        have hrt : FnM.rtPutValue (.prop (some o) x) v σ1 = .ok () σ2 := by
          simp only [FnM.rtPutValue, FnM.refPutValue, bind_run, objPutA_run σ1 x (hI1.ro.vis x hx), hrun, pure_run]
          rfl
        have hspec := putValue_obj_spec σ1 j outer o x v hst1 hI1.ro.wf0 (hI1.ro.vis x hx) hI1.ww hI1.pd
          (by intro ob1 ho1; rw [ho'] at ho1; cases ho1; exact hna')
        rw [newReference_obj σ1 j x outer o hst1, hrt] at hspec
        simp only [absR] at hspec
        exact ⟨σ2, by rw [href]; exact hrt, hsh2, hspec.symm⟩
    obtain ⟨σ2, hrun, hsh2, hspec⟩ := hput
    rw [bind_run, hrun, hspec]
    exact .ok v hsh2

/-- **expr_refines_assign** — the evaluator simulation for the read-only fragment extended by assignments to local
    bindings: in every state satisfying `LWInv` (the read-only invariant for the identifiers that occur, no duplicate
    names in a stash, `WritableWF`, `ProtoDesc`, and every assigned identifier is `Assignable`: it resolves to a binding of a declarative stash other
    than the global one, or to an existing own property of the object of an object stash), otto's
    evaluation followed by GetValue and ES5's evaluation give the same value or the same error, and they end in states
    that correspond again (`absSt`) and have the shape of the initial state – so the invariant holds again. -/
theorem expr_refines_assign (sc : FnM.Scope) (rest : List FnM.Scope) (xs ys : List String) :
    ∀ (n : Nat) (e : Fn.FE), lw e = true → (∀ x ∈ reads e, x ∈ xs) → (∀ y ∈ writes e, y ∈ ys) →
      ∀ σ, LWInv σ sc rest xs ys → LWSim n e sc σ :=
  sim_expr (Inv := fun σ => LWInv σ sc rest xs ys) (R := Shape) (rest := rest) (fun _ _ _ h h' => h.trans h') (fun _ _ hI => hI.shape) Shape.trace
    (fun _ hI => hI.ro) (fun _ hI => hI.scp) ys (fun n x e1 hx hy => lw_assign n x e1 sc rest xs ys hx hy)

end OttoVerif.C01.FnRefine
