/-
  C01/CallTheorems — entering function code, over CallModel's abstract slots: otto's binding order
  (cmplCallNodeFunction) against ES5 §10.5, and its parameter map against §10.6 step 11.  `binding_instantiation`
  compares the two environments name by name through the `lookup_*` characterisations; `arguments_map` shows that
  both maps are `noLaterDup`, the map read from the front.
-/
import OttoVerif.C01.CallModel
namespace OttoVerif.C01.CallThm
open OttoVerif.C01.Call

theorem lookup_setValue (x y : String) (v : Slot) (e : EnvL) :
    lookup x (setValue y v e) = if x = y then some v else lookup x e := by
  induction e with
  | nil => simp [setValue, lookup, eq_comm]
  | cons h t ih =>
    obtain ⟨k, w⟩ := h
    by_cases hk : k = y
    · subst hk
      by_cases hx : x = k <;> simp [setValue, lookup, hx, eq_comm]
    · by_cases hkx : k = x
      · subst hkx; simp [setValue, lookup, hk]
      · simp [setValue, lookup, hk, hkx, ih]

theorem lookup_append (x : String) (e f : EnvL) :
    lookup x (e ++ f) = match lookup x e with | some s => some s | none => lookup x f := by
  induction e with
  | nil => rfl
  | cons h t ih =>
    obtain ⟨k, w⟩ := h
    simp only [List.cons_append, lookup]
    by_cases hk : k = x <;> simp [hk, ih]

theorem lookup_createIfAbsent (x y : String) (v : Slot) (e : EnvL) :
    lookup x (createIfAbsent y v e) =
      match lookup x e with | some s => some s | none => if x = y then some v else none := by
  unfold createIfAbsent
  cases hy : lookup y e with
  | some s =>
    cases hx : lookup x e with
    | some t => rfl
    | none =>
      have : x ≠ y := fun h => by rw [h, hy] at hx; cases hx
      simp [this]
  | none =>
    simp only [lookup_append, lookup]
    cases lookup x e <;> simp [eq_comm]

/-- index of the LAST declaration of `x` among `fs` (numbered from `j`) -/
def fnIdx (x : String) : List String → Nat → Option Nat
  | [], _ => none
  | f :: fs, j => match fnIdx x fs (j+1) with
    | some k => some k
    | none => if f = x then some j else none

theorem lookup_bindFns (x : String) : ∀ (fs : List String) (j : Nat) (e : EnvL),
    lookup x (bindFns fs j e) = match fnIdx x fs j with | some k => some (.fn k) | none => lookup x e := by
  intro fs
  induction fs with
  | nil => intro j e; rfl
  | cons f fs ih =>
    intro j e
    simp only [bindFns, fnIdx, ih, lookup_setValue]
    cases fnIdx x fs (j+1) with
    | some k => rfl
    | none =>
      simp only
      by_cases hf : f = x
      · subst hf; simp
      · have : ¬ x = f := fun h => hf h.symm
        simp [hf, this]

theorem lookup_bindVars (x : String) : ∀ (vs : List String) (e : EnvL),
    lookup x (bindVars vs e) =
      match lookup x e with | some s => some s | none => if vs.contains x then some .undef else none := by
  intro vs
  induction vs with
  | nil => intro e; cases h : lookup x e <;> simp [bindVars, h]
  | cons v vs ih =>
    intro e
    simp only [bindVars, ih, lookup_createIfAbsent]
    cases lookup x e with
    | some s => rfl
    | none =>
      simp only
      by_cases hxv : x = v
      · subst hxv; simp
      · simp [hxv]

theorem lookup_bindParams (nargs : Nat) (x : String) : ∀ (ps : List String) (i : Nat) (e : EnvL),
    (lookup x (bindParams nargs ps i e)).isSome = (ps.contains x || (lookup x e).isSome) := by
  intro ps
  induction ps with
  | nil => intro i e; simp [bindParams]
  | cons p ps ih =>
    intro i e
    simp only [bindParams, ih, lookup_setValue]
    by_cases hxp : x = p
    · subst hxp; simp
    · simp [hxp]

theorem lookup_specArgs (x : String) (e : EnvL) :
    lookup x (specArgs e) =
      match lookup x e with | some s => some s | none => if x = "arguments" then some .argumentsObj else none :=
  lookup_createIfAbsent x "arguments" .argumentsObj e

/-- C01.binding_instantiation: for EVERY parameter list (duplicates included), argument count, list
    of function declarations and list of variable declarations, every identifier resolves to the same
    binding in the environment otto builds (cmplCallNodeFunction) and in the one ES5 §10.5 builds –
    including a parameter, function or variable named `arguments`, functions over variables and
    parameters, and later duplicates over earlier ones. -/
theorem binding_instantiation (params : List String) (nargs : Nat) (fns vars : List String) (x : String) :
    lookup x (modelInst params nargs fns vars) = lookup x (specInst params nargs fns vars) := by
  simp only [modelInst, specInst, lookup_bindVars]
  have hcore : lookup x (bindFns fns 0 (modelArgs params (bindParams nargs params 0 []))) =
      lookup x (specArgs (bindFns fns 0 (bindParams nargs params 0 []))) := by
    have hp := lookup_bindParams nargs "arguments" params 0 []
    simp only [lookup, Option.isSome_none, Bool.or_false] at hp
    rw [lookup_bindFns, lookup_specArgs, lookup_bindFns]
    cases fnIdx x fns 0 with
    | some k => rfl   -- a function of the name wins on both sides
    | none =>
      simp only [modelArgs]
      by_cases hxa : x = "arguments"
      · -- otto asks whether a PARAMETER is called `arguments`, ES5 whether the name is bound: the same after step 4
        subst hxa
        cases hl : lookup "arguments" (bindParams nargs params 0 []) with
        | none =>
          have hc : params.contains "arguments" = false := by rw [← hp, hl]; rfl
          simp only [hc, Bool.false_eq_true, if_false, lookup_setValue, if_true]
        | some s =>
          have hc : params.contains "arguments" = true := by rw [← hp, hl]; rfl
          simp only [hc, if_true, hl]
      · -- another name: neither side touches it here
        have : lookup x (modelArgs params (bindParams nargs params 0 [])) = lookup x (bindParams nargs params 0 []) := by
          unfold modelArgs
          split
          · rfl
          · simp [lookup_setValue, hxa]
        simp only [modelArgs] at this
        rw [this]
        cases lookup x (bindParams nargs params 0 []) <;> simp [hxa]
  rw [hcore]

/-- non-vacuity: a parameter named like a later function, a var named `arguments`, a duplicate parameter -/
example : lookup "a" (modelInst ["a", "b", "a"] 2 ["b"] ["arguments", "c"]) = some .argUndef ∧
          lookup "b" (modelInst ["a", "b", "a"] 2 ["b"] ["arguments", "c"]) = some (.fn 0) ∧
          lookup "arguments" (modelInst ["a", "b", "a"] 2 ["b"] ["arguments", "c"]) = some .argumentsObj := by decide

theorem clearName_append (p : String) (a b : List (Option String)) :
    clearName p (a ++ b) = clearName p a ++ clearName p b := by
  induction a with
  | nil => rfl
  | cons x a ih => cases x <;> simp [clearName, ih]

theorem noLaterDup_snoc (q : List String) (p : String) :
    noLaterDup (q ++ [p]) = clearName p (noLaterDup q) ++ [some p] := by
  induction q with
  | nil => simp [noLaterDup, clearName]
  | cons x q ih =>
    simp only [List.cons_append, noLaterDup, ih]
    by_cases hq : x ∈ q
    · simp [hq, clearName]
    · by_cases hxp : x = p
      · subst hxp; simp [hq, clearName]
      · simp [hq, hxp, clearName]

theorem noLaterDup_getElem? : ∀ (q : List String) (i : Nat),
    (noLaterDup q)[i]? = (q[i]?).map fun name => if (q.drop (i+1)).contains name then none else some name := by
  intro q
  induction q with
  | nil => intro i; simp [noLaterDup]
  | cons p ps ih =>
    intro i
    cases i with
    | zero => simp [noLaterDup]
    | succ i => simp [noLaterDup, ih i]

theorem noLaterDup_length : ∀ q : List String, (noLaterDup q).length = q.length := by
  intro q; induction q with
  | nil => rfl
  | cons p ps ih => simp [noLaterDup, ih]

theorem mapGo_noLaterDup : ∀ (ps done : List String),
    mapGo ps (noLaterDup done) = noLaterDup (done ++ ps) := by
  intro ps
  induction ps with
  | nil => intro done; simp [mapGo]
  | cons p ps ih =>
    intro done
    simp only [mapGo]
    rw [← noLaterDup_snoc, ih]
    simp

theorem specMapped_cons (p : String) (q : List String) :
    specMapped (p :: q) = specStep p (specMapped q) := rfl

theorem specMapped_names (q : List String) : ∀ x : String, x ∈ (specMapped q).2 ↔ x ∈ q := by
  induction q with
  | nil => intro x; simp [specMapped]
  | cons p q ih =>
    intro x
    rw [specMapped_cons]
    unfold specStep
    by_cases h : p ∈ (specMapped q).2
    · -- `p` is there already: nothing is added, and `p :: q` has no new member either
      simp only [List.contains_eq_mem, h, decide_true, if_true, ih, List.mem_cons]
      exact ⟨Or.inr, fun hx => hx.elim (fun e => e ▸ (ih p).mp h) id⟩
    · simp only [List.contains_eq_mem, h, decide_false, if_false, Bool.false_eq_true, List.mem_cons, ih]

theorem specMapped_noLaterDup (q : List String) : (specMapped q).1 = noLaterDup q := by
  induction q with
  | nil => rfl
  | cons p q ih =>
    have hm := specMapped_names q p
    rw [specMapped_cons]
    unfold specStep
    simp only [noLaterDup, List.contains_eq_mem]
    by_cases h : p ∈ q
    · simp [hm.mpr h, h, ih]
    · have : ¬ p ∈ (specMapped q).2 := fun hh => h (hm.mp hh)
      simp [this, h, ih]

/-- C01.arguments_map: for EVERY parameter list (duplicates included) and every number of
    arguments, the parameter map otto builds is the one ES5 §10.6 step 11 builds.
    (Unconditional since fix c8023db; before it every position of a duplicated name was joined.) -/
theorem arguments_map (params : List String) (nargs : Nat) :
    modelMap params nargs = specMap params nargs := by
  unfold modelMap specMap
  rw [specMapped_noLaterDup]
  have := mapGo_noLaterDup (params.take nargs) []
  simp only [noLaterDup, List.nil_append] at this
  rw [this]

/-- non-vacuity / the repaired case: duplicated names, fewer arguments than parameters, more arguments -/
example : modelMap ["a", "a"] 2 = [none, some "a"] ∧ modelMap ["a", "a"] 1 = [some "a"] ∧
          modelMap ["a", "b", "a"] 4 = [none, some "b", some "a", none] := by decide

end OttoVerif.C01.CallThm
