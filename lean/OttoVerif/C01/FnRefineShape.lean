/-
  C01/FnRefineShape — a state up to the values it stores.  `Shape σ σ'`: the same objects up to the values of their
  properties, the same scopes, the same stashes up to the values bound; the host log is free.  Identifier resolution on the
  abstraction and the read-only invariant `ROInv` are properties of the shape, so whatever only stores values or writes
  to the host log keeps them.
-/
import OttoVerif.C01.FnRefineGet
namespace OttoVerif.C01.FnRefine
open OttoVerif.C01

/-- otto's class strings agree with the class data (`Function` ⇔ callable data, `Error`, `Arguments`) -/
def ClsWF (σ : FnM.St) : Prop :=
  ∀ a o, σ.obj? a = some o →
    (o.cls == "Function") = Fn.isFnKind (absKind o.val) ∧
    (o.cls == "Error") = (match o.val with | .error _ => true | _ => false) ∧
    (o.cls == "Arguments") = (match o.val with | .arguments .. => true | _ => false)

/-- everything the read-only simulation needs of a state; none of it mentions the host log -/
structure ROInv (σ : FnM.St) (xs : List String) : Prop where
  vis : ∀ x ∈ xs, Visible σ x
  wf0 : WF0 σ
  nap : NoArgsProto σ
  aw : ArgsWF σ
  ew : ErrWF σ
  sr : StashReadable σ
  cls : ClsWF σ

def eraseP (p : FnM.DclProp) : FnM.DclProp := { p with value := .undef }

def eraseStash : FnM.Stash → FnM.Stash
  | .obj outer o => .obj outer o
  | .dcl outer ps => .dcl outer (ps.map fun kp => (kp.1, eraseP kp.2))
  | .fn outer ps ar => .fn outer (ps.map fun kp => (kp.1, eraseP kp.2)) ar

/-- the value of a property is forgotten – except for `name`, which says what an Error object is (ErrWF) -/
def eraseV (k : String) (p : FnM.Pty) : FnM.Pty := if k = "name" then p else { p with value := .undef }

def eraseObj (o : FnM.Obj) : FnM.Obj := { o with props := o.props.map fun kp => (kp.1, eraseV kp.1 kp.2) }

theorem erase_val {o o' : FnM.Obj} (h : eraseObj o' = eraseObj o) : o'.val = o.val := (congrArg FnM.Obj.val h :)
theorem erase_proto {o o' : FnM.Obj} (h : eraseObj o' = eraseObj o) : o'.proto = o.proto := (congrArg FnM.Obj.proto h :)
theorem erase_accs {o o' : FnM.Obj} (h : eraseObj o' = eraseObj o) : o'.accs = o.accs := (congrArg FnM.Obj.accs h :)
theorem erase_cls {o o' : FnM.Obj} (h : eraseObj o' = eraseObj o) : o'.cls = o.cls := (congrArg FnM.Obj.cls h :)

theorem erase_lookup {o o' : FnM.Obj} (h : eraseObj o' = eraseObj o) (x : String) :
    (Fn.lookupA x o'.props).map (eraseV x) = (Fn.lookupA x o.props).map (eraseV x) := by
  have := congrArg FnM.Obj.props h
  simp only [eraseObj] at this
  rw [← lookupA_mapk eraseV x, ← lookupA_mapk eraseV x, this]

theorem erase_lookup_some {o o' : FnM.Obj} (h : eraseObj o' = eraseObj o) (x : String) (p : FnM.Pty)
    (hl : Fn.lookupA x o.props = some p) :
    ∃ p', Fn.lookupA x o'.props = some p' ∧ p'.w = p.w ∧ p'.e = p.e ∧ p'.c = p.c := by
  obtain ⟨p', hl', he⟩ := optMap_some (erase_lookup h x) hl
  refine ⟨p', hl', ?_⟩
  simp only [eraseV] at he
  by_cases hn : x = "name"
  · simp only [hn, if_true] at he; subst he; exact ⟨rfl, rfl, rfl⟩
  · simp only [hn, if_false, FnM.Pty.mk.injEq, true_and] at he; exact he

theorem erase_lookup_none {o o' : FnM.Obj} (h : eraseObj o' = eraseObj o) (x : String)
    (hl : Fn.lookupA x o.props = none) : Fn.lookupA x o'.props = none :=
  optMap_none (erase_lookup h x) hl

theorem erase_lookup_name {o o' : FnM.Obj} (h : eraseObj o' = eraseObj o) :
    Fn.lookupA "name" o'.props = Fn.lookupA "name" o.props := by
  have hid : eraseV "name" = id := funext fun _ => if_pos rfl
  simpa [hid] using erase_lookup h "name"

/-- same objects up to the values of their properties (names, order, attributes, class, prototype and internal value
    are the same), same scopes, the same stashes up to the values bound in declarative stashes; the host log is free -/
structure Shape (σ σ' : FnM.St) : Prop where
  heap : σ'.heap.map eraseObj = σ.heap.map eraseObj
  scopes : σ'.scopes = σ.scopes
  stashes : σ'.stashes.map eraseStash = σ.stashes.map eraseStash

theorem Shape.refl (σ : FnM.St) : Shape σ σ := ⟨rfl, rfl, rfl⟩
theorem Shape.symm {σ σ' : FnM.St} (h : Shape σ σ') : Shape σ' σ := ⟨h.heap.symm, h.scopes.symm, h.stashes.symm⟩
theorem Shape.trans {σ σ' σ'' : FnM.St} (h : Shape σ σ') (h' : Shape σ' σ'') : Shape σ σ'' :=
  ⟨h'.heap.trans h.heap, h'.scopes.trans h.scopes, h'.stashes.trans h.stashes⟩
theorem Shape.trace (σ : FnM.St) (t : List String) : Shape σ { σ with trace := t } := ⟨rfl, rfl, rfl⟩

theorem Shape.hlen {σ σ' : FnM.St} (h : Shape σ σ') : σ'.heap.length = σ.heap.length := by
  have := congrArg List.length h.heap
  simpa using this

theorem Shape.objE {σ σ' : FnM.St} (h : Shape σ σ') (a : Nat) : (σ'.obj? a).map eraseObj = (σ.obj? a).map eraseObj := by
  have := congrArg (fun l => l[a]?) h.heap
  simpa [FnM.St.obj?] using this

theorem Shape.obj_some {σ σ' : FnM.St} (h : Shape σ σ') (a : Nat) (o : FnM.Obj) (ho : σ.obj? a = some o) :
    ∃ o', σ'.obj? a = some o' ∧ eraseObj o' = eraseObj o :=
  optMap_some (h.objE a) ho

theorem Shape.obj_none {σ σ' : FnM.St} (h : Shape σ σ') (a : Nat) (ho : σ.obj? a = none) : σ'.obj? a = none :=
  optMap_none (h.objE a) ho

theorem Shape.len {σ σ' : FnM.St} (h : Shape σ σ') : σ'.stashes.length = σ.stashes.length := by
  have := congrArg List.length h.stashes
  simpa using this

theorem Shape.stash {σ σ' : FnM.St} (h : Shape σ σ') (j : Nat) :
    (σ'.stash? j).map eraseStash = (σ.stash? j).map eraseStash := by
  have := congrArg (fun l => l[j]?) h.stashes
  simpa [FnM.St.stash?] using this

theorem Shape.dclProps {σ σ' : FnM.St} (h : Shape σ σ') (j : Nat) :
    (FnM.dclProps σ' j).map (fun kp => (kp.1, eraseP kp.2)) = (FnM.dclProps σ j).map (fun kp => (kp.1, eraseP kp.2)) := by
  unfold FnM.dclProps
  cases h1 : σ.stash? j with
  | none => rw [optMap_none (h.stash j) h1]
  | some s =>
    obtain ⟨s', h2, he⟩ := optMap_some (h.stash j) h1
    rw [h2]
    cases s <;> cases s' <;> simp [eraseStash] at he ⊢
    · exact he.2
    · exact he.2.1

theorem Shape.lookup {σ σ' : FnM.St} (h : Shape σ σ') (j : Nat) (x : String) :
    (Fn.lookupA x (FnM.dclProps σ' j)).map eraseP = (Fn.lookupA x (FnM.dclProps σ j)).map eraseP := by
  rw [← lookupA_map eraseP x, ← lookupA_map eraseP x, h.dclProps j]

theorem Shape.lookup_some {σ σ' : FnM.St} (h : Shape σ σ') (j : Nat) (x : String) (p : FnM.DclProp)
    (hl : Fn.lookupA x (FnM.dclProps σ j) = some p) :
    ∃ p', Fn.lookupA x (FnM.dclProps σ' j) = some p' ∧ p'.mutable_ = p.mutable_ ∧ p'.readable = p.readable ∧
      p'.deletable = p.deletable := by
  obtain ⟨p', hl', he⟩ := optMap_some (h.lookup j x) hl
  simp only [eraseP, FnM.DclProp.mk.injEq, true_and] at he
  exact ⟨p', hl', he.1, he.2.2, he.2.1⟩

theorem Shape.stash_obj {σ σ' : FnM.St} (h : Shape σ σ') (j : Nat) (outer : Option Nat) (o : Nat)
    (hs : σ.stash? j = some (.obj outer o)) : σ'.stash? j = some (.obj outer o) := by
  obtain ⟨s', hs', he⟩ := optMap_some (h.stash j) hs
  cases s' <;> simp only [eraseStash, FnM.Stash.obj.injEq, reduceCtorEq] at he
  obtain ⟨rfl, rfl⟩ := he
  exact hs'

theorem absHas_erase {o o' : FnM.Obj} (h : eraseObj o' = eraseObj o) (x : String) :
    (Fn.lookupA x (absObj o').props).isSome = (Fn.lookupA x (absObj o).props).isSome := by
  cases hh : hidden o.val x with
  | true => rw [absObj_lookup_hidden o x hh, absObj_lookup_hidden o' x (by rw [erase_val h]; exact hh)]
  | false =>
    rw [absObj_lookup o x hh, absObj_lookup o' x (by rw [erase_val h]; exact hh)]
    simpa using congrArg Option.isSome (erase_lookup h x)

theorem Shape.hasProp {σ σ' : FnM.St} (h : Shape σ σ') (x : String) :
    ∀ (n a : Nat), Fn.hasProp (absSt σ') n a x = Fn.hasProp (absSt σ) n a x := by
  intro n
  simp only [hasProp_abs]
  induction n with
  | zero => intro a; rfl
  | succ n ih =>
    intro a
    simp only [Fn.hasPropD, absSt_obj]
    cases ho : σ.obj? a with
    | none => rw [h.obj_none a ho]; rfl
    | some o =>
      obtain ⟨o', ho', he⟩ := h.obj_some a o ho
      have hs := absHas_erase he x
      simp only [ho', Option.map_some, absObj_proto, erase_proto he]
      cases h1 : Fn.lookupA x (absObj o).props with
      | some v =>
        obtain ⟨v', h2⟩ := Option.isSome_iff_exists.1 (hs.trans (by rw [h1]; rfl))
        rw [h2]
      | none =>
        have h2 : Fn.lookupA x (absObj o').props = none := by simpa [h1] using hs
        rw [h2]
        cases o.proto with
        | none => rfl
        | some q => exact ih q

/-- what §10.2.2.1 looks at in an environment record: its kind, its outer record, whether it has the name -/
theorem Shape.envView {σ σ' : FnM.St} (h : Shape σ σ') (i : Nat) (x : String) :
    ((absSt σ').envs[i]?).map (fun e => (e.obj, e.outer, (Fn.lookupA x e.vars).isSome)) =
    ((absSt σ).envs[i]?).map (fun e => (e.obj, e.outer, (Fn.lookupA x e.vars).isSome)) := by
  -- the view of a record is already a function of the erased stash
  have key : ∀ s : FnM.Stash, ((absStash s).obj, (absStash s).outer, (Fn.lookupA x (absStash s).vars).isSome) =
      ((absStash (eraseStash s)).obj, (absStash (eraseStash s)).outer, (Fn.lookupA x (absStash (eraseStash s)).vars).isSome) := by
    intro s
    cases s <;> simp only [eraseStash, absStash, absDcl, lookupA_map (fun p : FnM.DclProp => p.value), lookupA_map eraseP, Option.isSome_map]
  rw [absSt_env, absSt_env]
  cases h1 : σ.stash? i with
  | none => rw [optMap_none (h.stash i) h1]
  | some s =>
    obtain ⟨s', h2, he⟩ := optMap_some (h.stash i) h1
    simp only [h2, Option.map_some, Option.some.injEq]
    rw [key s', key s, he]

/-- identifier resolution is a function of the shape -/
theorem Shape.envResolve {σ σ' : FnM.St} (h : Shape σ σ') (x : String) :
    ∀ (n i : Nat), Fn.envResolve (absSt σ') n i x = Fn.envResolve (absSt σ) n i x := by
  intro n
  induction n with
  | zero => intro i; rfl
  | succ n ih =>
    intro i
    have hlen : (absSt σ').heap.length = (absSt σ).heap.length := by simp [h.hlen]
    simp only [Fn.envResolve, hlen, h.hasProp x]
    by_cases hi : i = 0
    · simp [hi]
    · simp only [hi, if_false]
      cases h1 : (absSt σ).envs[i]? with
      | none => rw [optMap_none (h.envView i x) h1]
      | some e =>
        obtain ⟨e', h2, he⟩ := optMap_some (h.envView i x) h1
        simp only [Prod.mk.injEq] at he
        simp only [h2, he.1, he.2.1, he.2.2]
        cases e.outer with
        | none => rfl
        | some j => simp only [ih j]

theorem ownP_name_shape {σ σ' : FnM.St} (h : Shape σ σ') (a : Nat)
    (hna : ∀ o, σ.obj? a = some o → ∀ ipn st, o.val ≠ .arguments ipn st) : ownP σ' a "name" = ownP σ a "name" := by
  unfold ownP
  cases ho : σ.obj? a with
  | none => rw [h.obj_none a ho]
  | some o =>
    obtain ⟨o', ho', he⟩ := h.obj_some a o ho
    rw [ho']
    simp only [erase_lookup_name he, erase_val he]
    cases hv : o.val with
    | arguments ipn st => exact absurd hv (hna o ho ipn st)
    | _ => rfl

theorem getPropertyP_name_shape {σ σ' : FnM.St} (h : Shape σ σ') (hnp : NoArgsProto σ) :
    ∀ (n a : Nat), (∀ o, σ.obj? a = some o → ∀ ipn st, o.val ≠ .arguments ipn st) →
      getPropertyP σ' n a "name" = getPropertyP σ n a "name" := by
  intro n
  induction n with
  | zero => intro a _; rfl
  | succ n ih =>
    intro a hna
    simp only [getPropertyP, ownP_name_shape h a hna]
    cases ownP σ a "name" with
    | some p => rfl
    | none =>
      simp only []
      cases ho : σ.obj? a with
      | none => rw [h.obj_none a ho]
      | some o =>
        obtain ⟨o', ho', he⟩ := h.obj_some a o ho
        rw [ho']
        simp only [erase_proto he]
        cases hq : o.proto with
        | none => rfl
        | some q =>
          simp only []
          exact ih q (fun oq hoq ipn st => hnp a o q oq ho hq hoq ipn st)

theorem ROInv.shape {σ σ' : FnM.St} {xs : List String} (hI : ROInv σ xs) (h : Shape σ σ') : ROInv σ' xs := by
  refine ⟨?_, ?_, ?_, ?_, ?_, ?_, ?_⟩
  · intro x hx a o' ho'
    obtain ⟨o, ho, he⟩ := h.symm.obj_some a o' ho'
    have h1 := hI.vis x hx a o ho
    rw [erase_val he, erase_accs he] at h1
    exact h1
  · exact h.stash_obj 0 none FnM.gObj hI.wf0
  · intro a o' q oq' ho' hq hoq'
    obtain ⟨o, ho, he⟩ := h.symm.obj_some a o' ho'
    obtain ⟨oq, hoq, heq⟩ := h.symm.obj_some q oq' hoq'
    rw [← erase_val heq]
    exact hI.nap a o q oq ho (by rw [erase_proto he]; exact hq) hoq
  · intro a o' ipn st ho' hv
    obtain ⟨o, ho, he⟩ := h.symm.obj_some a o' ho'
    obtain ⟨hst, hall⟩ := hI.aw a o ipn st ho (by rw [erase_val he]; exact hv)
    refine ⟨hst, ?_⟩
    intro i pn hpn hne
    obtain ⟨p, hl, hm⟩ := hall i pn hpn hne
    obtain ⟨p', hl', hm', _, _⟩ := h.lookup_some st pn p hl
    exact ⟨p', hl', by rw [hm', hm]⟩
  · intro a o' n ho' hv'
    obtain ⟨o, ho, he⟩ := h.symm.obj_some a o' ho'
    have hv : o.val = .error n := by rw [erase_val he]; exact hv'
    have := hI.ew a o n ho hv
    have hna : ∀ o1, σ.obj? a = some o1 → ∀ ipn st, o1.val ≠ .arguments ipn st := by
      intro o1 ho1 ipn st hv1
      rw [ho] at ho1; cases ho1
      rw [hv] at hv1; cases hv1
    unfold getP at this ⊢
    rw [ho'] at ⊢
    rw [ho] at this
    have hm' : mapGetP σ' o' "name" = none := by simp [mapGetP, hv']
    have hm : mapGetP σ o "name" = none := by simp [mapGetP, hv]
    simp only [hm] at this
    simp only [hm', h.hlen, getPropertyP_name_shape h hI.nap _ a hna]
    exact this
  · intro j x p hl
    obtain ⟨p', hl', hm', hr', _⟩ := h.symm.lookup_some j x p hl
    rw [← hm', ← hr']
    exact hI.sr j x p' hl'
  · intro a o' ho'
    obtain ⟨o, ho, he⟩ := h.symm.obj_some a o' ho'
    rw [← erase_val he, ← erase_cls he]
    exact hI.cls a o ho

theorem ROInv.trace {σ : FnM.St} {xs : List String} (h : ROInv σ xs) (t : List String) : ROInv { σ with trace := t } xs :=
  h.shape (Shape.trace σ t)

theorem ROInv.mono {σ : FnM.St} {xs ys : List String} (h : ROInv σ xs) (hs : ∀ y ∈ ys, y ∈ xs) : ROInv σ ys :=
  ⟨fun y hy => h.vis y (hs y hy), h.wf0, h.nap, h.aw, h.ew, h.sr, h.cls⟩

end OttoVerif.C01.FnRefine
