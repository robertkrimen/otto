/-
  C01/FnRefineCall — entering function code.  Both sides are related to CallModel's abstract environment: FnSpec's
  fresh declarative record by `RelEnvS` (`instantiate_spec`, §10.5), otto's fresh function stash by `RelEnv`
  (`instantiateNode_real`, cmplCallNodeFunction before the body); CallThm.binding_instantiation joins the two.
  Each side is followed step by step through an invariant (`EnteringS`, `Entering`): the record being filled and the
  number of objects, which is where the next closure goes.
  Also here: the parameter map of the arguments object as a function (`specArgMap`), `this` of a call.
-/
import OttoVerif.C01.FnRefinePut
import OttoVerif.C01.CallTheorems
namespace OttoVerif.C01.FnRefine
open OttoVerif.C01

/-- FnSpec.mkArguments' parameter map (§10.6 step 11), as a function of the parameter list and the number of arguments -/
def specArgMap (params : List String) (nargs : Nat) : List (Option String) :=
  (List.range nargs).map fun i =>
    match params[i]? with
    | some name => if ((params.take nargs).drop (i+1)).contains name then none else some name
    | none => none

theorem specArgMap_eq (params : List String) (nargs : Nat) : specArgMap params nargs = Call.specMap params nargs := by
  unfold Call.specMap
  rw [CallThm.specMapped_noLaterDup]
  apply List.ext_getElem?
  intro i
  simp only [specArgMap, Call.padNone, List.getElem?_map, List.getElem?_append, CallThm.noLaterDup_length, List.length_take]
  by_cases hi : i < nargs
  · simp only [List.getElem?_range hi, Option.map_some]
    by_cases hp : i < params.length
    · have hm : i < min nargs params.length := by omega
      have hg : params[i]? = some params[i] := List.getElem?_eq_getElem hp
      simp only [hm, if_true, CallThm.noLaterDup_getElem?, List.getElem?_take, hi, if_true, hg, Option.map_some]
    · have hm : ¬ i < min nargs params.length := by omega
      have hn : params[i]? = none := by simp; omega
      simp only [hm, if_false, hn, List.getElem?_replicate]
      split
      · rfl
      · omega
  · have hr : (List.range nargs)[i]? = none := by simp; omega
    have hm : ¬ i < min nargs params.length := by omega
    simp only [hr, Option.map_none, hm, if_false, List.getElem?_replicate]
    split
    · omega
    · rfl

theorem specArgMap_entries (params : List String) (nargs : Nat) :
    ∀ o ∈ specArgMap params nargs, ∀ s, o = some s → s ∈ params := by
  intro o ho s hs
  simp only [specArgMap, List.mem_map, List.mem_range] at ho
  obtain ⟨i, _, hi⟩ := ho
  subst hs
  cases hp : params[i]? with
  | none => rw [hp] at hi; simp at hi
  | some name =>
    rw [hp] at hi
    simp only at hi
    split at hi
    · simp at hi
    · simp only [Option.some.injEq] at hi
      subst hi
      exact List.mem_of_getElem? hp

example : (FnM.indexOfParameterNames ["a", "a"] 1).map optName = [some "a"] ∧
    (FnM.indexOfParameterNames ["a", "a"] 2).map optName = [none, some "a"] ∧
    specArgMap ["a", "b", "a"] 4 = [none, some "b", some "a", none] := by decide

/-- the variable list of a declarative record IS the abstract environment -/
def RelEnvS (I : Call.Slot → Fn.V) (vars : List (String × Fn.V)) (e : Call.EnvL) : Prop :=
  vars = e.map fun ks => (ks.1, I ks.2)

/-- what `Fn.bindIn … overwrite` does to the variable list of a declarative record (`EnteringS.bindIn`) -/
def setVarS (x : String) (v : Fn.V) (vars : List (String × Fn.V)) (overwrite : Bool) : List (String × Fn.V) :=
  match Fn.lookupA x vars with
  | some _ => if overwrite then Fn.updateA x v vars else vars
  | none => vars ++ [(x, v)]

theorem relS_lookup (I : Call.Slot → Fn.V) (x : String) (e : Call.EnvL) :
    Fn.lookupA x (e.map fun ks => (ks.1, I ks.2)) = (Call.lookup x e).map I := by
  rw [callLookup_eq]; exact lookupA_map I x e

theorem relS_setValue (I : Call.Slot → Fn.V) (x : String) (sl : Call.Slot) (vars : List (String × Fn.V)) (e : Call.EnvL)
    (h : RelEnvS I vars e) : RelEnvS I (setVarS x (I sl) vars true) (Call.setValue x sl e) := by
  unfold RelEnvS at h ⊢
  subst h
  rw [setVarS, lookupA_map I, callSetValue_eq]
  cases Fn.lookupA x e with
  | none => simp
  | some s => exact (updateA_mapk (fun _ => I) x sl e).symm

theorem relS_createIfAbsent (I : Call.Slot → Fn.V) (x : String) (sl : Call.Slot) (vars : List (String × Fn.V)) (e : Call.EnvL)
    (h : RelEnvS I vars e) : RelEnvS I (setVarS x (I sl) vars false) (Call.createIfAbsent x sl e) := by
  unfold RelEnvS at h ⊢
  subst h
  unfold setVarS Call.createIfAbsent
  rw [relS_lookup]
  cases hl : Call.lookup x e with
  | none => simp
  | some s => simp

/-- the value a binding slot of CallModel stands for: `args` the actual arguments, `fa j` the address of the
    closure made for the j-th function declaration, `ao` the arguments object -/
def interp (args : List Fn.V) (fa : Nat → Nat) (ao : Fn.V) : Call.Slot → Fn.V
  | .arg i => args[i]?.getD .undef
  | .argUndef => .undef
  | .fn j => .ref (fa j)
  | .argumentsObj => ao
  | .undef => .undef

theorem interp_param (args : List Fn.V) (fa : Nat → Nat) (ao : Fn.V) (k : Nat) :
    interp args fa ao (Call.paramSlot args.length k) = args[k]?.getD .undef := by
  unfold Call.paramSlot
  split <;> simp [interp, *]

def declNames : Fn.FDecls → List String
  | .nil => []
  | .cons name _ r => name :: declNames r

/-- while `Fn.instantiate` fills the fresh declarative record `i` (`env0` before any binding): its variable list so far and
    the number of objects -/
structure EnteringS (i : Nat) (env0 : Fn.Env) (vars : List (String × Fn.V)) (h : Nat) (σ : Fn.St) : Prop where
  env : σ.envs[i]? = some { env0 with vars := vars }
  len : σ.heap.length = h

section
variable {i : Nat} {env0 : Fn.Env} {vars : List (String × Fn.V)} {h : Nat} {σ : Fn.St}

theorem EnteringS.bindIn (hE : EnteringS i env0 vars h σ) (hi : i ≠ 0) (x : String) (v : Fn.V) (ow : Bool) :
    EnteringS i env0 (setVarS x v vars ow) h (Fn.bindIn σ i x v ow) := by
  have hset : ∀ vars', EnteringS i env0 vars' h (σ.setEnv i { env0 with vars := vars' }) := fun vars' =>
    ⟨by simp only [Fn.St.setEnv, setNth_eq_set]; exact List.getElem?_set_self (List.getElem?_eq_some_iff.1 hE.env).1, hE.len⟩
  simp only [Fn.bindIn, hi, if_false, hE.env, setVarS]
  cases Fn.lookupA x vars with
  | none => exact hset _
  | some w =>
    cases ow with
    | true => exact hset _
    | false => exact hE

theorem EnteringS.mkFunc (hE : EnteringS i env0 vars h σ) (f : Fn.FE) (env : Nat) :
    ∃ σ', Fn.mkFunc σ f env = (.ref h, σ') ∧ EnteringS i env0 vars (h + 2) σ' := by
  obtain ⟨henv, rfl⟩ := hE
  exact ⟨_, rfl, henv, by simp [Fn.St.setObj, setNth_eq_set]⟩

theorem EnteringS.mkArguments (hE : EnteringS i env0 vars h σ) (ps : List String) (args : List Fn.V) (j : Nat) (fv : Fn.V) :
    ∃ σ', Fn.mkArguments σ ps args j fv = (.ref h, σ') ∧ EnteringS i env0 vars (h + 1) σ' := by
  obtain ⟨henv, rfl⟩ := hE
  exact ⟨_, rfl, henv, by simp⟩

variable (I : Call.Slot → Fn.V)

/-- §10.5 step 4 (the fold over the parameters in `Fn.instantiate`) = CallModel.bindParams -/
theorem paramsFold_spec (args : List Fn.V) (hi : i ≠ 0) (hI : ∀ k, I (Call.paramSlot args.length k) = args[k]?.getD .undef) :
    ∀ (ps : List String) (j : Nat) (σ : Fn.St) (vars : List (String × Fn.V)) (e : Call.EnvL),
      EnteringS i env0 vars h σ → RelEnvS I vars e →
      ∃ vars', EnteringS i env0 vars' h (((List.range' j ps.length).zip ps).foldl
          (fun s (kn : Nat × String) => Fn.bindIn s i kn.2 (args[kn.1]?.getD .undef) true) σ) ∧
        RelEnvS I vars' (Call.bindParams args.length ps j e) := by
  intro ps
  induction ps with
  | nil => intro j σ vars e hE hr; exact ⟨vars, hE, hr⟩
  | cons p r ih =>
    intro j σ vars e hE hr
    simp only [List.length_cons, List.range'_succ, List.zip_cons_cons, List.foldl_cons]
    exact ih (j+1) _ _ _ (hE.bindIn hi p _ true) (by rw [← hI j]; exact relS_setValue I p _ vars e hr)

/-- §10.5 step 8 = CallModel.bindVars -/
theorem varsFold_spec (hi : i ≠ 0) (hI : I .undef = .undef) :
    ∀ (vs : List String) (σ : Fn.St) (vars : List (String × Fn.V)) (e : Call.EnvL),
      EnteringS i env0 vars h σ → RelEnvS I vars e →
      ∃ vars', EnteringS i env0 vars' h (vs.foldl (fun s x => Fn.bindIn s i x .undef false) σ) ∧
        RelEnvS I vars' (Call.bindVars vs e) := by
  intro vs
  induction vs with
  | nil => intro σ vars e hE hr; exact ⟨vars, hE, hr⟩
  | cons x r ih =>
    intro σ vars e hE hr
    exact ih _ _ _ (hE.bindIn hi x .undef false) (by rw [← hI]; exact relS_createIfAbsent I x .undef vars e hr)

/-- §10.5 step 5 (FnSpec.bindDecls) = CallModel.bindFns: the j-th closure is the object at `h0 + 2·j` -/
theorem bindDecls_spec (hi : i ≠ 0) (c : Fn.Ctx) (h0 : Nat) (hI : ∀ j, I (.fn j) = .ref (h0 + 2 * j)) :
    ∀ (n : Nat) (ds : Fn.FDecls) (σ : Fn.St) (vars : List (String × Fn.V)) (e : Call.EnvL) (j : Nat),
      (declNames ds).length < n → EnteringS i env0 vars (h0 + 2 * j) σ → RelEnvS I vars e →
      ∃ vars' σ', Fn.bindDecls n ds i c σ = .ok () σ' ∧ EnteringS i env0 vars' (h0 + 2 * (j + (declNames ds).length)) σ' ∧
        RelEnvS I vars' (Call.bindFns (declNames ds) j e) := by
  intro n
  induction n with
  | zero => intro ds σ vars e j hn; omega
  | succ n ih =>
    intro ds σ vars e j hn hE hr
    cases ds with
    | nil => exact ⟨vars, σ, rfl, hE, hr⟩
    | cons name f r =>
      obtain ⟨σ1, hmk, hE1⟩ := hE.mkFunc f c.env
      obtain ⟨vars', σ', hrun, hE', hr'⟩ := ih r _ _ _ (j+1) (by simp [declNames] at hn; omega) (hE1.bindIn hi name (.ref (h0 + 2 * j)) true)
        (by rw [← hI j]; exact relS_setValue I name (.fn j) vars e hr)
      exact ⟨vars', σ', by rw [Fn.bindDecls, hmk]; exact hrun, by simpa [declNames, Nat.add_assoc, Nat.add_comm 1] using hE',
        by simpa [declNames, Call.bindFns] using hr'⟩

end

/-- **§10.5 on FnSpec's record**: after `Fn.instantiate` the new declarative record holds exactly CallModel.specInst,
    each slot standing for: the i-th argument, the closure allocated for the j-th declaration (`h0 + 2·j`), the
    arguments object (allocated after the closures) -/
theorem instantiate_spec (n i : Nat) (c : Fn.Ctx) (ps : List String) (args : List Fn.V) (fv : Fn.V) (ds : Fn.FDecls)
    (vs : List String) (σ1 : Fn.St) (env0 : Fn.Env) (hi : i ≠ 0) (hn : (declNames ds).length < n)
    (he : σ1.envs[i]? = some env0) (hv0 : env0.vars = []) :
    ∃ σ5 vars', Fn.instantiate n i c ps args fv ds vs σ1 = .ok () σ5 ∧ σ5.envs[i]? = some { env0 with vars := vars' } ∧
      RelEnvS (interp args (fun j => σ1.heap.length + 2 * j) (.ref (σ1.heap.length + 2 * (declNames ds).length))) vars'
        (Call.specInst ps args.length (declNames ds) vs) := by
  let I := interp args (fun j => σ1.heap.length + 2 * j) (.ref (σ1.heap.length + 2 * (declNames ds).length))
  have hE1 : EnteringS i env0 [] (σ1.heap.length + 2 * 0) σ1 := ⟨by rw [he, ← hv0], rfl⟩
  -- steps 4 and 5
  obtain ⟨v2, hE2, hrel2⟩ := paramsFold_spec I args hi (interp_param args _ _) ps 0 σ1 [] [] hE1 rfl
  obtain ⟨v3, σ3, hrun3, hE3, hrel3⟩ := bindDecls_spec I hi c σ1.heap.length (fun j => rfl) n ds _ v2 _ 0 hn hE2 hrel2
  -- steps 6–7: `arguments` is bound to the arguments object unless the name is taken (`Call.specArgs` is createIfAbsent)
  have hrelA := relS_createIfAbsent I "arguments" .argumentsObj v3 _ hrel3
  have hl3 := relS_lookup I "arguments" (Call.bindFns (declNames ds) 0 (Call.bindParams args.length ps 0 []))
  rw [← show v3 = _ from hrel3] at hl3
  unfold Fn.instantiate
  simp only [List.range_eq_range', hrun3, hE3.env]
  cases hla : Call.lookup "arguments" (Call.bindFns (declNames ds) 0 (Call.bindParams args.length ps 0 [])) with
  | some s =>
    rw [hla] at hl3
    simp only [setVarS, hl3, Option.map_some] at hrelA ⊢
    obtain ⟨v5, hE5, hrel5⟩ := varsFold_spec I hi rfl vs σ3 v3 _ hE3 hrelA
    exact ⟨_, v5, rfl, hE5.env, hrel5⟩
  | none =>
    rw [hla] at hl3
    have hE3' : EnteringS i env0 v3 (σ1.heap.length + 2 * (declNames ds).length) σ3 := by simpa using hE3
    obtain ⟨σ4, hmk, hE4⟩ := hE3'.mkArguments ps args i fv
    have hE4' := hE4.bindIn hi "arguments" (I .argumentsObj) true
    simp only [setVarS, hl3, Option.map_none] at hrelA hE4' ⊢
    obtain ⟨v5, hE5, hrel5⟩ := varsFold_spec I hi rfl vs _ _ _ hE4' hrelA
    refine ⟨_, v5, rfl, ?_, hrel5⟩
    rw [hmk]
    exact hE5.env

/-- dclStash.setValue on the property list: overwrite the value in place, or append a new mutable,
    non-deletable binding (stash.go: dclStash.setValue, createBinding, setBinding) -/
def setValueL (x : String) (v : Fn.V) : List (String × FnM.DclProp) → List (String × FnM.DclProp)
  | [] => [(x, ⟨v, true, false, false⟩)]
  | (k, p) :: r => if k = x then (k, { p with value := v }) :: r else (k, p) :: setValueL x v r

/-- `if !hasBinding { createBinding(name, false, value) }` on the property list (cmplVariableDeclaration) -/
def createIfAbsentL (x : String) (v : Fn.V) (ps : List (String × FnM.DclProp)) : List (String × FnM.DclProp) :=
  match Fn.lookupA x ps with
  | some _ => ps
  | none => ps ++ [(x, ⟨v, true, false, false⟩)]

theorem setValueL_absent (x : String) (v : Fn.V) : ∀ ps : List (String × FnM.DclProp), Fn.lookupA x ps = none →
    setValueL x v ps = ps ++ [(x, ⟨v, true, false, false⟩)] := by
  intro ps
  induction ps with
  | nil => intro _; rfl
  | cons e r ih =>
    intro h
    obtain ⟨k, p⟩ := e
    by_cases hk : k = x
    · subst hk; simp [Fn.lookupA] at h
    · simp only [Fn.lookupA, hk, if_false] at h
      simp [setValueL, hk, ih h]

theorem setValueL_present (x : String) (v : Fn.V) : ∀ (ps : List (String × FnM.DclProp)) (p : FnM.DclProp),
    Fn.lookupA x ps = some p → setValueL x v ps = Fn.updateA x { p with value := v } ps := by
  intro ps
  induction ps with
  | nil => intro p h; simp [Fn.lookupA] at h
  | cons e r ih =>
    intro p h
    obtain ⟨k, q⟩ := e
    by_cases hk : k = x
    · subst hk; simp only [Fn.lookupA, if_true, Option.some.injEq] at h; subst h; simp [setValueL, Fn.updateA]
    · simp only [Fn.lookupA, hk, if_false] at h
      simp [setValueL, Fn.updateA, hk, ih p h]

/-- every binding of the list is mutable (true of a function stash while its code is being entered) -/
def AllMutable (ps : List (String × FnM.DclProp)) : Prop := ∀ kp ∈ ps, kp.2.mutable_ = true

theorem createBinding_fn_run {σ : FnM.St} {st : Nat} {outer ar : Option Nat} {ps : List (String × FnM.DclProp)}
    (hs : σ.stash? st = some (.fn outer ps ar)) (x : String) (v : Fn.V) :
    FnM.createBinding st x false v σ =
      .ok () { σ with stashes := Fn.setNth σ.stashes st (.fn outer (ps ++ [(x, ⟨v, true, false, false⟩)]) ar) } := by
  have hd : FnM.dclProps σ st = ps := by simp [FnM.dclProps, hs]
  simp only [FnM.createBinding, bind_run, getSt_run, hs, FnM.dclCreateBinding, hd, FnM.setDclProps, setStash_run]

theorem setBinding_fn_run {σ : FnM.St} {st : Nat} {outer ar : Option Nat} {ps : List (String × FnM.DclProp)}
    (hs : σ.stash? st = some (.fn outer ps ar)) {x : String} {p : FnM.DclProp} (hl : Fn.lookupA x ps = some p)
    (hm : p.mutable_ = true) (v : Fn.V) :
    FnM.setBinding st x v false σ =
      .ok () { σ with stashes := Fn.setNth σ.stashes st (.fn outer (Fn.updateA x { p with value := v } ps) ar) } := by
  have hd : FnM.dclProps σ st = ps := by simp [FnM.dclProps, hs]
  simp only [FnM.setBinding, bind_run, getSt_run, hs, FnM.dclSetBinding, hd, hl, hm, if_true, FnM.setDclProps, setStash_run]

theorem setValue_fn_run (σ : FnM.St) (st : Nat) (outer : Option Nat) (ps : List (String × FnM.DclProp)) (ar : Option Nat)
    (x : String) (v : Fn.V) (hs : σ.stash? st = some (.fn outer ps ar)) (hm : AllMutable ps) :
    FnM.setValue st x v false σ = .ok () { σ with stashes := Fn.setNth σ.stashes st (.fn outer (setValueL x v ps) ar) } := by
  simp only [FnM.setValue, bind_run, getSt_run, hasBinding_run, hasBindingP, hs]
  cases hl : Fn.lookupA x ps with
  | none =>
    simp only [Option.isSome_none, Bool.not_false, if_true, createBinding_fn_run hs, setValueL_absent x v ps hl]
  | some p =>
    simp only [Option.isSome_some, Bool.not_true, Bool.false_eq_true, if_false,
      setBinding_fn_run hs hl (hm (x, p) (lookupA_mem x ps p hl)), setValueL_present x v ps p hl]

theorem allMutable_setValueL (x : String) (v : Fn.V) : ∀ ps, AllMutable ps → AllMutable (setValueL x v ps) := by
  intro ps
  induction ps with
  | nil => intro _; simp [AllMutable, setValueL]
  | cons e r ih =>
    intro hm
    have ⟨h1, h2⟩ := List.forall_mem_cons.1 hm
    simp only [setValueL]
    split
    · exact List.forall_mem_cons.2 ⟨h1, h2⟩
    · exact List.forall_mem_cons.2 ⟨h1, ih h2⟩

/-- the property list of the stash IS the abstract environment: same names in the same order, each value the
    one its slot stands for -/
def RelEnv (I : Call.Slot → Fn.V) (ps : List (String × FnM.DclProp)) (e : Call.EnvL) : Prop :=
  RelEnvS I (ps.map fun kp => (kp.1, kp.2.value)) e

theorem vals_setValueL (x : String) (v : Fn.V) (ps : List (String × FnM.DclProp)) :
    (setValueL x v ps).map (fun kp => (kp.1, kp.2.value)) = setVarS x v (ps.map fun kp => (kp.1, kp.2.value)) true := by
  unfold setVarS
  rw [lookupA_map (fun p : FnM.DclProp => p.value)]
  cases hl : Fn.lookupA x ps with
  | none => simp [setValueL_absent x v ps hl]
  | some p => rw [setValueL_present x v ps p hl]; exact updateA_mapk (fun _ (q : FnM.DclProp) => q.value) x _ ps

theorem vals_createIfAbsentL (x : String) (v : Fn.V) (ps : List (String × FnM.DclProp)) :
    (createIfAbsentL x v ps).map (fun kp => (kp.1, kp.2.value)) = setVarS x v (ps.map fun kp => (kp.1, kp.2.value)) false := by
  unfold setVarS createIfAbsentL
  rw [lookupA_map (fun p : FnM.DclProp => p.value)]
  cases Fn.lookupA x ps <;> simp

theorem rel_setValue (I : Call.Slot → Fn.V) (x : String) (sl : Call.Slot) (e : Call.EnvL) (ps : List (String × FnM.DclProp))
    (h : RelEnv I ps e) : RelEnv I (setValueL x (I sl) ps) (Call.setValue x sl e) := by
  rw [RelEnv, vals_setValueL]; exact relS_setValue I x sl _ e h

theorem rel_createIfAbsent (I : Call.Slot → Fn.V) (x : String) (sl : Call.Slot) (e : Call.EnvL)
    (ps : List (String × FnM.DclProp)) (h : RelEnv I ps e) :
    RelEnv I (createIfAbsentL x (I sl) ps) (Call.createIfAbsent x sl e) := by
  rw [RelEnv, vals_createIfAbsentL]; exact relS_createIfAbsent I x sl _ e h

/-- stashes, scopes and the number of objects stay, and no object changes its `value` (class data); the objects'
    properties (and the host log, the labels) are free -/
structure HeapOnly (σ σ' : FnM.St) : Prop where
  stashes : σ'.stashes = σ.stashes
  scopes : σ'.scopes = σ.scopes
  len : σ'.heap.length = σ.heap.length
  val : ∀ a, (σ'.obj? a).map (·.val) = (σ.obj? a).map (·.val)

theorem HeapOnly.refl (σ : FnM.St) : HeapOnly σ σ := ⟨rfl, rfl, rfl, fun _ => rfl⟩

theorem HeapOnly.trans {σ1 σ2 σ3 : FnM.St} (h1 : HeapOnly σ1 σ2) (h2 : HeapOnly σ2 σ3) : HeapOnly σ1 σ3 :=
  ⟨h2.stashes.trans h1.stashes, h2.scopes.trans h1.scopes, h2.len.trans h1.len, fun a => (h2.val a).trans (h1.val a)⟩

theorem heapOnly_setObj (σ : FnM.St) (a : Nat) (o o' : FnM.Obj) (ho : σ.obj? a = some o) (hv : o'.val = o.val) :
    HeapOnly σ { σ with heap := Fn.setNth σ.heap a o' } := by
  refine ⟨rfl, rfl, by simp [setNth_eq_set], fun b => ?_⟩
  have := congrArg (·[b]?) (map_setNth_of_eq (·.val) σ.heap a o o' ho hv)
  simpa [FnM.St.obj?] using this

theorem odop_frame (σ : FnM.St) (a : Nat) (x : String) (d : FnM.Pty) :
    ∃ b σ', FnM.objectDefineOwnProperty a x d false σ = .ok b σ' ∧ HeapOnly σ σ' := by
  unfold FnM.objectDefineOwnProperty
  simp only [bind_run, getSt_run]
  cases ho : σ.obj? a with
  | none => exact ⟨false, σ, rfl, HeapOnly.refl σ⟩
  | some o =>
    simp only []
    cases hl : Fn.lookupA x o.props with
    | none =>
      simp only [bind_run, setObj_run, pure_run]
      exact ⟨true, _, rfl, heapOnly_setObj σ a o _ ho rfl⟩
    | some p =>
      simp only []
      split
      · exact ⟨false, σ, rfl, HeapOnly.refl σ⟩
      · split
        · exact ⟨false, σ, rfl, HeapOnly.refl σ⟩
        · simp only [bind_run, setObj_run, pure_run]
          exact ⟨true, _, rfl, heapOnly_setObj σ a o _ ho rfl⟩

theorem mapGetP_nonindex (σ : FnM.St) (o : FnM.Obj) (x : String) (h : Fn.idx? x = none) : mapGetP σ o x = none := by
  unfold mapGetP
  cases o.val <;> simp [FnM.arrayIndex, h]

/-- defining a property under a name that is not a mapped index of an arguments object touches nothing but the
    heap's objects -/
theorem defineProperty_frame (σ : FnM.St) (a : Nat) (x : String) (d : FnM.Pty)
    (hm : ∀ o, σ.obj? a = some o → mapGetP σ o x = none) :
    ∃ b σ', FnM.defineProperty a x d false σ = .ok b σ' ∧ HeapOnly σ σ' := by
  cases ho : σ.obj? a with
  | none => exact ⟨false, σ, by simp [FnM.defineProperty, FnM.defineOwnProperty, ho], HeapOnly.refl σ⟩
  | some o =>
    obtain ⟨b, σ', h, hf⟩ := odop_frame σ a x d
    exact ⟨b, σ', by rw [FnM.defineProperty, defineOwnProperty_unmapped σ a o x d false ho (hm o ho), h], hf⟩

theorem defineUnmapped_frame (a : Nat) (ipn : List String) (stash : Nat) (args : List Fn.V) :
    ∀ (k index : Nat) (σ : FnM.St), (σ.obj? a).map (·.val) = some (.arguments ipn stash) → index + k < 4294967295 →
      ∃ σ', FnM.defineUnmapped a ipn args k index σ = .ok () σ' ∧ HeapOnly σ σ' := by
  intro k
  induction k with
  | zero => intro index σ _ _; exact ⟨σ, rfl, HeapOnly.refl σ⟩
  | succ k ih =>
    intro index σ hv hb
    rw [FnM.defineUnmapped]
    by_cases hm : (ipn[index]?.getD "" != "") = true
    · simp only [hm, if_true, bind_run, pure_run]
      exact ih (index + 1) σ hv (by omega)
    · simp only [hm, Bool.false_eq_true, if_false, bind_run]
      -- the index is not joined to a parameter: its name is no mapped index
      have hmg : ∀ o, σ.obj? a = some o → mapGetP σ o (toString index) = none := by
        intro o ho
        rw [ho] at hv
        simp only [Option.map_some, Option.some.injEq] at hv
        simp only [mapGetP, hv, FnM.arrayIndex, idx_toString index (by omega)]
        cases hp : ipn[index]? with
        | none => rfl
        | some pn =>
          rw [hp] at hm
          simp only [Option.getD_some, bne_iff_ne, ne_eq, Decidable.not_not] at hm
          simp [hm]
      obtain ⟨b, σ1, hrun, hf⟩ := defineProperty_frame σ a (toString index) (FnM.p111 (args[index]?.getD .undef)) hmg
      rw [hrun]
      simp only [pure_run]
      obtain ⟨σ', hrun', hf'⟩ := ih (index + 1) σ1 (by rw [hf.val]; exact hv) (by omega)
      exact ⟨σ', hrun', hf.trans hf'⟩

/-- while cmplCallNodeFunction fills the fresh function stash `st`: the current scope, the stash with its bindings so far
    (all mutable) and its `arguments` field, the number of objects -/
structure Entering (st : Nat) (outer : Option Nat) (sc : FnM.Scope) (rest : List FnM.Scope)
    (ps : List (String × FnM.DclProp)) (ar : Option Nat) (h : Nat) (σ : FnM.St) : Prop where
  scopes : σ.scopes = sc :: rest
  stash : σ.stash? st = some (.fn outer ps ar)
  len : σ.heap.length = h
  allMut : AllMutable ps

section
variable {st : Nat} {outer : Option Nat} {sc : FnM.Scope} {rest : List FnM.Scope} {ps : List (String × FnM.DclProp)}
  {ar : Option Nat} {h : Nat} {σ : FnM.St}

theorem Entering.setStash (hE : Entering st outer sc rest ps ar h σ) {ps' : List (String × FnM.DclProp)} (ar' : Option Nat)
    (hm : AllMutable ps') : Entering st outer sc rest ps' ar' h { σ with stashes := Fn.setNth σ.stashes st (.fn outer ps' ar') } :=
  ⟨hE.scopes, by
    simp only [FnM.St.stash?, setNth_eq_set]
    exact List.getElem?_set_self (List.getElem?_eq_some_iff.1 hE.stash).1, hE.len, hm⟩

theorem Entering.alloc (hE : Entering st outer sc rest ps ar h σ) (o : FnM.Obj) :
    Entering st outer sc rest ps ar (h + 1) { σ with heap := σ.heap ++ [o] } :=
  ⟨hE.scopes, hE.stash, by simp [hE.len], hE.allMut⟩

theorem Entering.heapOnly {σ' : FnM.St} (hE : Entering st outer sc rest ps ar h σ) (hf : HeapOnly σ σ') :
    Entering st outer sc rest ps ar h σ' :=
  ⟨hf.scopes.trans hE.scopes, by simp only [FnM.St.stash?, hf.stashes]; exact hE.stash, hf.len.trans hE.len, hE.allMut⟩

/-- dclStash.setValue on the stash being filled -/
theorem Entering.setValue (hE : Entering st outer sc rest ps ar h σ) (x : String) (v : Fn.V) :
    ∃ σ', FnM.setValue st x v false σ = .ok () σ' ∧ Entering st outer sc rest (setValueL x v ps) ar h σ' ∧ σ'.heap = σ.heap :=
  ⟨_, setValue_fn_run σ st outer ps ar x v hE.stash hE.allMut, hE.setStash ar (allMutable_setValueL x v ps hE.allMut), rfl⟩

theorem Entering.newNodeFunction (hE : Entering st outer sc rest ps ar h σ) (node : Fn.FE) (s : Nat) :
    ∃ σ', FnM.newNodeFunction node s σ = .ok h σ' ∧ Entering st outer sc rest ps ar (h + 2) σ' := by
  -- after the two allocations both definitions are under names that are no indices: they touch only the heap's objects
  obtain ⟨b1, σ1, h1, f1⟩ := defineProperty_frame
    { σ with heap := σ.heap ++ [FnM.fnObject node s] ++ [FnM.plainObject] } h "prototype"
    (FnM.p100 (.ref (h + 1))) (fun o _ => mapGetP_nonindex _ o "prototype" (by decide))
  obtain ⟨b2, σ2, h2, f2⟩ := defineProperty_frame σ1 (h + 1) "constructor" (FnM.p101 (.ref h))
    (fun o _ => mapGetP_nonindex _ o "constructor" (by decide))
  refine ⟨σ2, ?_, (((hE.alloc _).alloc _).heapOnly f1).heapOnly f2⟩
  unfold FnM.newNodeFunction
  simp only [bind_run, allocObj_run, FnM.newObject, List.length_append, List.length_singleton, hE.len, h1, h2, pure_run]

theorem Entering.newArgumentsObject (hE : Entering st outer sc rest ps ar h σ) (ipn : List String) (s len : Nat) :
    ∃ σ', FnM.newArgumentsObject ipn s len σ = .ok h σ' ∧ Entering st outer sc rest ps ar (h + 1) σ' ∧
      (σ'.obj? h).map (·.val) = some (.arguments ipn s) := by
  obtain ⟨b, σ', hrun, hf⟩ := defineProperty_frame { σ with heap := σ.heap ++ [FnM.argumentsObject ipn s] } h
    "length" (FnM.p101 (.num len)) (fun o _ => mapGetP_nonindex _ o "length" (by decide))
  refine ⟨σ', ?_, (hE.alloc _).heapOnly hf, ?_⟩
  · simp only [FnM.newArgumentsObject, bind_run, allocObj_run, hE.len, hrun, pure_run]
  · rw [hf.val, ← hE.len]
    simp [FnM.St.obj?, FnM.argumentsObject]

variable (I : Call.Slot → Fn.V)

/-- the parameter loop of cmplCallNodeFunction on the real stash = CallModel.bindParams on the abstract environment -/
theorem bindParams_real (args : List Fn.V) (hI : ∀ i, I (Call.paramSlot args.length i) = args[i]?.getD .undef) :
    ∀ (params : List String) (i : Nat) (σ : FnM.St) (ps : List (String × FnM.DclProp)) (e : Call.EnvL),
      Entering st outer sc rest ps ar h σ → RelEnv I ps e →
      ∃ σ' ps', FnM.bindParams st params args i σ = .ok () σ' ∧ Entering st outer sc rest ps' ar h σ' ∧
        RelEnv I ps' (Call.bindParams args.length params i e) := by
  intro params
  induction params with
  | nil => intro i σ ps e hE hr; exact ⟨σ, ps, rfl, hE, hr⟩
  | cons p r ih =>
    intro i σ ps e hE hr
    obtain ⟨σ1, h1, hE1, _⟩ := hE.setValue p (args[i]?.getD .undef)
    obtain ⟨σ', ps', hrun, hE', hr'⟩ := ih (i+1) σ1 _ _ hE1 (by rw [← hI i]; exact rel_setValue I p _ e ps hr)
    exact ⟨σ', ps', by simp only [FnM.bindParams, bind_run, h1, hrun], hE', hr'⟩

/-- cmplVariableDeclaration on the real stash = CallModel.bindVars -/
theorem variableDeclaration_real (hv : sc.variable_ = st) (hI : I .undef = .undef) :
    ∀ (vs : List String) (σ : FnM.St) (ps : List (String × FnM.DclProp)) (e : Call.EnvL),
      Entering st outer sc rest ps ar h σ → RelEnv I ps e →
      ∃ σ' ps', FnM.variableDeclaration vs false σ = .ok () σ' ∧ Entering st outer sc rest ps' ar h σ' ∧
        RelEnv I ps' (Call.bindVars vs e) := by
  intro vs
  induction vs with
  | nil => intro σ ps e hE hr; exact ⟨σ, ps, rfl, hE, hr⟩
  | cons x r ih =>
    intro σ ps e hE hr
    have hr1 : RelEnv I (createIfAbsentL x .undef ps) (Call.createIfAbsent x .undef e) := by
      rw [← hI]; exact rel_createIfAbsent I x .undef e ps hr
    rw [FnM.variableDeclaration]
    simp only [bind_run, curScope_run σ sc rest hE.scopes, hv, hasBinding_run, hasBindingP, hE.stash]
    cases hl : Fn.lookupA x ps with
    | none =>
      simp only [createIfAbsentL, hl] at hr1
      simp only [Option.isSome_none, Bool.not_false, if_true, bind_run, createBinding_fn_run hE.stash]
      exact ih _ _ _ (hE.setStash ar (by rw [← setValueL_absent x .undef ps hl]; exact allMutable_setValueL x _ ps hE.allMut)) hr1
    | some p =>
      simp only [createIfAbsentL, hl] at hr1
      simp only [Option.isSome_some, Bool.not_true, Bool.false_eq_true, if_false]
      exact ih σ ps _ hE hr1

/-- cmplFunctionDeclaration on the real stash = CallModel.bindFns: the j-th declaration's
    closure is the object allocated at `h0 + 2·j` (a function object and its prototype object per declaration) -/
theorem functionDeclaration_real (hv : sc.variable_ = st) (hst0 : st ≠ 0) (h0 : Nat) (hI : ∀ j, I (.fn j) = .ref (h0 + 2 * j)) :
    ∀ (n : Nat) (ds : Fn.FDecls) (σ : FnM.St) (ps : List (String × FnM.DclProp)) (e : Call.EnvL) (j : Nat),
      (declNames ds).length < n → Entering st outer sc rest ps ar (h0 + 2 * j) σ → RelEnv I ps e →
      ∃ σ' ps', FnM.functionDeclaration n ds false σ = .ok () σ' ∧
        Entering st outer sc rest ps' ar (h0 + 2 * (j + (declNames ds).length)) σ' ∧
        RelEnv I ps' (Call.bindFns (declNames ds) j e) := by
  intro n
  induction n with
  | zero => intro ds σ ps e j hn; omega
  | succ n ih =>
    intro ds σ ps e j hn hE hr
    cases ds with
    | nil => exact ⟨σ, ps, rfl, hE, hr⟩
    | cons name f r =>
      obtain ⟨σ1, h1, hE1⟩ := hE.newNodeFunction f sc.lexical
      -- in a function stash other than the global one, what cmplFunctionDeclaration does to the binding is `setValue`
      obtain ⟨σ2, h2, hE2, _⟩ := hE1.setValue name (.ref (h0 + 2 * j))
      obtain ⟨σ', ps', hrun, hE', hr'⟩ := ih r σ2 _ _ (j+1) (by simp [declNames] at hn; omega) hE2
        (by rw [← hI j]; exact rel_setValue I name (.fn j) e ps hr)
      refine ⟨σ', ps', ?_, by simpa [declNames, Nat.add_assoc, Nat.add_comm 1] using hE', by simpa [declNames, Call.bindFns] using hr'⟩
      have hb0 : (st == 0) = false := by simp [hst0]
      rw [← hrun, FnM.functionDeclaration]
      simp only [FnM.setValue, bind_run, getSt_run, hasBinding_run, hE1.stash] at h2
      simp only [bind_run, curScope_run σ sc rest hE.scopes, h1, hv, hb0, hasBinding_run, Bool.false_eq_true, if_false]
      cases hb : hasBindingP σ1 st name <;> simp only [hb, Bool.not_false, Bool.not_true, Bool.false_eq_true, if_true, if_false, bind_run] at h2 ⊢ <;>
        rw [h2]

/-- **§10.5 on otto's function stash**: what cmplCallNodeFunction does before the body runs leaves, in the fresh
    function stash, exactly CallModel.modelInst — each slot standing for the i-th argument, the closure allocated
    for the j-th declaration, the arguments object (allocated BEFORE the closures, unlike ES5's order) -/
theorem instantiateNode_real (n function : Nat) (params vs : List String) (ds : Fn.FDecls) (args : List Fn.V)
    (hE : Entering st outer sc rest [] none h σ) (hlex : sc.lexical = st) (hvar : sc.variable_ = st) (hst0 : st ≠ 0)
    (hn : (declNames ds).length < n) (hlen : args.length < 4294967295) :
    ∃ σ' ps' ar', FnM.instantiateNode n function st params vs ds args σ = .ok () σ' ∧
      σ'.stash? st = some (.fn outer ps' ar') ∧
      RelEnv (interp args (fun j => h + (if params.contains "arguments" then 0 else 1) + 2 * j) (.ref h)) ps'
        (Call.modelInst params args.length (declNames ds) vs) := by
  let hF := h + (if params.contains "arguments" then 0 else 1)
  let I := interp args (fun j => hF + 2 * j) (.ref h)
  have hIf : ∀ j, I (.fn j) = .ref (hF + 2 * j) := fun j => rfl
  obtain ⟨σ1, ps1, hrun1, hE1, hrel1⟩ := bindParams_real I args (interp_param args _ _) params 0 σ [] [] hE rfl
  unfold FnM.instantiateNode
  simp only [bind_run, curScope_run σ sc rest hE.scopes, hlex, hrun1]
  cases hc : params.contains "arguments" with
  | true =>
    have hF0 : h = hF + 2 * 0 := by simp only [hF, hc, if_true, Nat.add_zero, Nat.mul_zero]
    obtain ⟨σ2, ps2, hrun2, hE2, hrel2⟩ := functionDeclaration_real I hvar hst0 hF hIf n ds σ1 ps1 _ 0 hn (hF0 ▸ hE1) hrel1
    obtain ⟨σ3, ps3, hrun3, hE3, hrel3⟩ := variableDeclaration_real I hvar rfl vs σ2 ps2 _ hE2 hrel2
    refine ⟨σ3, ps3, none, by simp only [Bool.not_true, Bool.false_eq_true, if_false, bind_run, hrun2, hrun3], hE3.stash, ?_⟩
    have hmem : "arguments" ∈ params := by simpa using hc
    simpa [Call.modelInst, Call.modelArgs, hc, I, hF, hmem] using hrel3
  | false =>
    have hF1 : h + 1 = hF + 2 * 0 := by simp only [hF, hc, Bool.false_eq_true, if_false, Nat.mul_zero, Nat.add_zero]
    -- the arguments object, its `callee`, the stash's `arguments` field, the binding `arguments`, the unmapped indices
    obtain ⟨σ2, hrun2, hE2, hval2⟩ := hE1.newArgumentsObject (FnM.indexOfParameterNames params args.length) st args.length
    obtain ⟨b3, σ3, hrun3, hf3⟩ := defineProperty_frame σ2 h "callee" (FnM.p101 (.ref function))
      (fun o _ => mapGetP_nonindex σ2 o "callee" (by decide))
    have hE3 := hE2.heapOnly hf3
    obtain ⟨σ5, hrun5, hE5, hh5⟩ := (hE3.setStash (some h) hE3.allMut).setValue "arguments" (.ref h)
    obtain ⟨σ6, hrun6, hf6⟩ := defineUnmapped_frame h (FnM.indexOfParameterNames params args.length) st args args.length 0 σ5
      (by simp only [FnM.St.obj?, hh5]; exact (hf3.val h).trans hval2) (by omega)
    obtain ⟨σ7, ps7, hrun7, hE7, hrel7⟩ := functionDeclaration_real I hvar hst0 hF hIf n ds σ6 _ _ 0 hn (hF1 ▸ hE5.heapOnly hf6)
      (rel_setValue I "arguments" .argumentsObj _ ps1 hrel1)
    obtain ⟨σ8, ps8, hrun8, hE8, hrel8⟩ := variableDeclaration_real I hvar rfl vs σ7 ps7 _ hE7 hrel7
    refine ⟨σ8, ps8, some h, ?_, hE8.stash, ?_⟩
    · simp only [Bool.not_false, if_true, bind_run, hrun2, hrun3, getSt_run, hE3.stash, setStash_run, hrun5, hrun6, hrun7, hrun8]
    · have hnm : "arguments" ∉ params := by simpa using hc
      simpa [Call.modelInst, Call.modelArgs, hc, I, hF, hnm] using hrel8

end

/-- the this value of a call through the reference `r`, without the `noThis` flag that a reference made by the
    global stash carries (type_reference.go thisValue; `FnM.evalE` on `.call` has the flag): the flag turns the global
    object into undefined, which `effThis` turns back, so `this_refines` – stated under `effThis` – does not see it -/
def modelThis (r : FnM.Ref) : Fn.V :=
  match r with
  | .prop (some b) _ => .ref b
  | _ => .undef

/-- §10.4.3 step 2 / runtime.go enterFunctionScope: undefined or null become the global object -/
def effThis (v : Fn.V) : Fn.V :=
  match v with
  | .undef => .ref Fn.gObj
  | .null => .ref Fn.gObj
  | t => t

end OttoVerif.C01.FnRefine
