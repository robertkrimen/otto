/-
  C01/RefineRel — the simulation relations under the result transformers of Model and Spec: completion
  values, pending label sets, how each relation is taken apart (`Sim.elim` …), and every wrapper of the
  model (blockWrap, labelWrap, catchPhase, finallyPhase, loopStep, switchWrap …) against its counterpart
  of the spec; `bodyWrap` / `clauseWrap` are what a loop / a switch makes of the completion of a statement
  list.  `Sim`, `KindRel` come from Refine.lean; the relations that only the proof needs are defined
  first.  Nothing here mentions the evaluators.
-/
import OttoVerif.C01.Refine
namespace OttoVerif.C01
variable {St : Type} {L L' L1 iter labels : List String} {o r : OV} {c : Comp} {mr : MR St} {sr : SR St}

/-- the hypothesis of the statement-level simulation: the model's pending labels `L` are the spec's
    label set `ls` (as sets) -/
structure Pending (L ls : List String) : Prop where
  sub : ls ⊆ L
  sup : L ⊆ ls

/-- `Sim` with the stronger postcondition `rt.labels = nil` (what blocks, loops and switch leave) -/
def SimN (L iter : List String) : MR St → SR St → Prop
  | .ok o L' σ, .ok c σ' => σ = σ' ∧ L' = [] ∧ KindRel L iter o c
  | .throw v L' σ, .throw v' σ' => v = v' ∧ σ = σ' ∧ L' = []
  | .fuel, _ => True
  | _, .fuel => True
  | _, _ => False

/-- what a switch has made of its clauses so far vs the CaseBlock's completion so far (value included) -/
def ClauseRel (labels iter : List String) : BR St → SR St → Prop
  | .next r L' σ, .ok c σ' => σ = σ' ∧ L' = [] ∧ c.t = .normal ∧ isResult r = false ∧ ovVal r = c.v
  | .brk r L' σ, .ok c σ' => σ = σ' ∧ L' = [] ∧ (∃ t, c.t = .brk t ∧ t ∈ labels) ∧ isResult r = false ∧ ovVal r = c.v
  | .retv o L' σ, .ok c σ' => σ = σ' ∧ L' = [] ∧ KindRel [] iter o c ∧ isResult o = true ∧
        (∀ t x, o = .brk t x → t ∉ labels)
  | .throw v L' σ, .throw v' σ' => v = v' ∧ σ = σ' ∧ L' = []
  | .fuel, _ => True
  | _, .fuel => True
  | _, _ => False

theorem pick_none (x : Option Val) : pick none x = x := rfl
theorem pick_none_r (a : Option Val) : pick a none = a := by cases a <;> rfl
theorem pick_assoc (a b c : Option Val) : pick (pick a b) c = pick a (pick b c) := by
  cases a <;> rfl

theorem listWrap_listWrap (a b : Option Val) (sr : SR St) :
    listWrap b (listWrap a sr) = listWrap (pick a b) sr := by
  cases sr <;> simp [listWrap, pick_assoc]

theorem listWrap_none (sr : SR St) : listWrap none sr = sr := by
  cases sr <;> simp [listWrap, pick_none_r]

theorem abrupt_of_normal (h : c.t = .normal) : c.abrupt = false := by simp [Comp.abrupt, h]

theorem ovVal_empty : ovVal .empty = none := rfl

theorem ovVal_nextResult (h : isResult o = false) : ovVal (nextResult o r) = pick (ovVal o) (ovVal r) := by
  cases o <;> simp [isResult] at h <;> rfl

theorem nextResult_notResult {o result : OV} (h1 : isResult o = false) (h2 : isResult result = false) :
    isResult (nextResult o result) = false := by
  cases o with
  | empty => exact h2
  | val v => rfl
  | _ => simp [isResult] at h1

theorem ovVal_carrying (ho : isResult o = true) (hr : isResult r = false) :
    ovVal (carrying o r) = pick (ovVal o) (ovVal r) := by
  cases o with
  | empty => simp [isResult] at ho
  | val v => simp [isResult] at ho
  | ret v => cases r <;> rfl
  | brk t c =>
    cases c with
    | some w => rfl
    | none =>
      cases r with
      | empty => rfl
      | val w => rfl
      | _ => simp [isResult] at hr
  | cont t c =>
    cases c with
    | some w => rfl
    | none =>
      cases r with
      | empty => rfl
      | val w => rfl
      | _ => simp [isResult] at hr

theorem ovVal_carried (ho : isResult o = true) (hn : ∀ v, o ≠ .ret v) :
    ovVal (carried o r) = pick (ovVal o) (ovVal r) := by
  cases o with
  | empty => simp [isResult] at ho
  | val v => simp [isResult] at ho
  | ret v => exact absurd rfl (hn v)
  | brk t c => cases c <;> rfl
  | cont t c => cases c <;> rfl

theorem carried_nonresult (hr : isResult r = false) : isResult (carried o r) = false := by
  cases o with
  | brk t c =>
    cases c with
    | none => exact hr
    | some w => rfl
  | cont t c =>
    cases c with
    | none => exact hr
    | some w => rfl
  | _ => exact hr

/-- `carrying` fills in a value and nothing else: the kind and the target stay -/
theorem carrying_cases (o r : OV) :
    carrying o r = o ∨ (∃ t w, o = .brk t none ∧ carrying o r = .brk t (some w)) ∨
      ∃ t w, o = .cont t none ∧ carrying o r = .cont t (some w) := by
  cases o with
  | brk t c =>
    cases c with
    | some w => exact Or.inl rfl
    | none =>
      cases r with
      | val w => exact Or.inr (Or.inl ⟨t, w, rfl, rfl⟩)
      | _ => exact Or.inl rfl
  | cont t c =>
    cases c with
    | some w => exact Or.inl rfl
    | none =>
      cases r with
      | val w => exact Or.inr (Or.inr ⟨t, w, rfl, rfl⟩)
      | _ => exact Or.inl rfl
  | _ => exact Or.inl rfl

theorem carrying_isResult (o r : OV) : isResult (carrying o r) = isResult o := by
  rcases carrying_cases o r with h | ⟨t, w, rfl, h⟩ | ⟨t, w, rfl, h⟩ <;> rw [h] <;> rfl

theorem nextResult_assoc (o p r : OV) : nextResult o (nextResult p r) = nextResult (nextResult o p) r := by
  cases o <;> rfl

theorem nextResult_empty_r {p : OV} (hp : isResult p = false) : nextResult p .empty = p := by
  cases p <;> first | rfl | cases hp

theorem carrying_empty (o : OV) : carrying o .empty = o := by
  rcases carrying_cases o .empty with h | ⟨t, w, rfl, h⟩ | ⟨t, w, rfl, h⟩
  · exact h
  · cases h
  · cases h

/-- the value a consumed break / continue brings along, once the list's older value `p` has been filled in -/
theorem carried_carrying {o p : OV} (r : OV) (ho : isResult o = true) (hn : ∀ v, o ≠ .ret v) (hp : isResult p = false) :
    carried (carrying o p) r = carried o (nextResult p r) := by
  cases o with
  | empty => cases ho
  | val v => cases ho
  | ret v => exact absurd rfl (hn v)
  | brk t x => cases x <;> cases p <;> first | rfl | cases hp
  | cont t x => cases x <;> cases p <;> first | rfl | cases hp

theorem isBreakIn_true (h : isBreakIn labels o = true) :
    ∃ t x, o = .brk t x ∧ t ∈ labels := by
  cases o <;> simp only [isBreakIn, Bool.false_eq_true] at h
  exact ⟨_, _, rfl, List.contains_iff_mem.1 h⟩

theorem isBreakIn_false (h : isBreakIn labels o = false) :
    ∀ t x, o = .brk t x → t ∉ labels := by
  rintro t x rfl ht
  rw [isBreakIn, List.contains_iff_mem.2 ht] at h
  cases h

theorem isBreakIn_nonresult (h : isResult o = false) : isBreakIn labels o = false := by
  cases o <;> simp [isResult] at h <;> rfl

theorem isBreakIn_carrying (labels : List String) (o r : OV) : isBreakIn labels (carrying o r) = isBreakIn labels o := by
  rcases carrying_cases o r with h | ⟨t, w, rfl, h⟩ | ⟨t, w, rfl, h⟩ <;> rw [h] <;> rfl

theorem evalBC_carrying (labels : List String) (o r : OV) : evalBC labels (carrying o r) = evalBC labels o := by
  rcases carrying_cases o r with h | ⟨t, w, rfl, h⟩ | ⟨t, w, rfl, h⟩ <;> rw [h] <;> rfl

theorem evalBC_ret (h : evalBC labels o = .ret) :
    (∀ t x, o = .brk t x → t ∉ labels) ∧ (∀ t x, o = .cont t x → t ∉ labels) := by
  constructor <;> rintro t x rfl ht <;> simp [evalBC, ht] at h

theorem evalBC_brk (h : evalBC labels o = .brk) :
    ∃ t x, o = .brk t x ∧ t ∈ labels := by
  cases o with
  | brk t x =>
    by_cases ht : t ∈ labels
    · exact ⟨t, x, rfl, ht⟩
    · simp [evalBC, ht] at h
  | cont t x => by_cases ht : t ∈ labels <;> simp [evalBC, ht] at h
  | _ => simp [evalBC] at h

theorem evalBC_cont (h : evalBC labels o = .cont) :
    ∃ t x, o = .cont t x ∧ t ∈ labels := by
  cases o with
  | cont t x =>
    by_cases ht : t ∈ labels
    · exact ⟨t, x, rfl, ht⟩
    · simp [evalBC, ht] at h
  | brk t x => by_cases ht : t ∈ labels <;> simp [evalBC, ht] at h
  | _ => simp [evalBC] at h

theorem labok_refl (L : List String) : LabOK L L := Or.inl rfl
theorem labok_nil (L : List String) : LabOK L [] := Or.inr rfl
theorem labok_of_nil (h : LabOK [] L') : L' = [] := by
  cases h <;> assumption

theorem labok_trans {L L1 L2 : List String} (h1 : LabOK L L1) (h2 : LabOK L1 L2) : LabOK L L2 := by
  cases h1 with
  | inl h => subst h; exact h2
  | inr h => subst h; exact Or.inr (labok_of_nil h2)

theorem labok_sub (h : LabOK L L1) : L1 ⊆ L := by
  cases h with
  | inl h => subst h; exact List.Subset.refl _
  | inr h => subst h; exact List.nil_subset _

theorem popLabel_snoc (L : List String) (l : String) : popLabel (L ++ [l]) = L := by
  simp [popLabel]

theorem popLabel_nil : popLabel ([] : List String) = [] := rfl

theorem labok_pop {l : String} (h : LabOK (L ++ [l]) L') : LabOK L (popLabel L') := by
  cases h with
  | inl h => subst h; rw [popLabel_snoc]; exact labok_refl L
  | inr h => subst h; exact labok_nil L

theorem Pending.nil : Pending [] [] :=
  ⟨List.Subset.refl _, List.Subset.refl _⟩

theorem Pending.label {L ls : List String} {l : String} (h : Pending L ls) :
    Pending (L ++ [l]) (l :: ls) where
  sub := List.cons_subset.2 ⟨List.mem_append_right _ (List.mem_singleton.2 rfl),
    fun _ ht => List.mem_append_left _ (h.sub ht)⟩
  sup := List.append_subset.2 ⟨fun _ ht => List.mem_cons_of_mem _ (h.sup ht),
    List.cons_subset.2 ⟨List.mem_cons_self, List.nil_subset _⟩⟩

/-- a loop or a switch adds the empty label to what is pending: `L ++ [""]` in otto, `"" :: ls` in ES5 -/
theorem Pending.mem_own {L ls : List String} (h : Pending L ls) {t : String} :
    ("" :: ls).contains t = true ↔ t ∈ L ++ [""] := by
  rw [List.contains_iff_mem, List.mem_cons, List.mem_append, List.mem_singleton, or_comm]
  exact or_congr_left ⟨(h.sub ·), (h.sup ·)⟩

theorem Pending.not_own {L ls : List String} (h : Pending L ls) {t : String} (ht : t ∉ L ++ [""]) :
    ("" :: ls).contains t = false :=
  Bool.eq_false_iff.2 fun hc => ht (h.mem_own.1 hc)

/-- for emptyValue and values the completion is normal, or a break otto has already consumed -/
theorem kindrelT_nonresult (hr : isResult o = false) :
    KindRelT L iter o c ↔ c.t = .normal ∨ ∃ t, c.t = .brk t ∧ t ∈ L := by
  cases o <;> simp [isResult] at hr <;> exact Iff.rfl

theorem kindrelT_result (hr : isResult o = true)
    (h : KindRelT L iter o c) : KindRelT L' iter o c := by
  cases o <;> simp [isResult] at hr <;> exact h

/-- `KindRelT` does not look at the completion's value -/
theorem kindrelT_value (v : Option Val) (h : KindRelT L iter o c) : KindRelT L iter o ⟨c.t, v⟩ := by
  cases o <;> exact h

theorem kindrel_weaken
    (hs : L1 ⊆ L) (h : KindRel L1 iter o c) : KindRel L iter o c := by
  refine ⟨?_, h.2⟩
  cases hr : isResult o with
  | true => exact kindrelT_result hr h.1
  | false =>
    rw [kindrelT_nonresult hr]
    exact ((kindrelT_nonresult hr).1 h.1).imp_right fun ⟨t, h1, h2⟩ => ⟨t, h1, hs h2⟩

theorem kindrel_nil_normal (hr : isResult o = false)
    (h : KindRel [] iter o c) : c.t = .normal :=
  ((kindrelT_nonresult hr).1 h.1).resolve_right fun ⟨_, _, ht⟩ => nomatch ht

theorem kindrel_result_abrupt (hr : isResult o = true)
    (h : KindRel L iter o c) : c.abrupt = true := by
  have h := h.1
  cases o <;> simp [isResult] at hr <;> simp [KindRelT] at h <;> simp [Comp.abrupt, h]

theorem kindrel_nonresult_normal (hr : isResult r = false)
    (hc : c.t = .normal) (hv : ovVal r = c.v) : KindRel L iter r c :=
  ⟨(kindrelT_nonresult hr).2 (Or.inl hc), hv⟩

theorem carrying_kind (h : KindRelT L iter o c) :
    KindRelT L iter (carrying o r) c := by
  rcases carrying_cases o r with h' | ⟨t, w, rfl, h'⟩ | ⟨t, w, rfl, h'⟩ <;> rw [h'] <;> exact h

/-- an abrupt completion handed on by a statement list: the list's older value `r` is filled in -/
theorem kindrel_carrying (x : Option Val) (ho : isResult o = true)
    (hr : isResult r = false) (hk : KindRel [] iter o c) (hx : ovVal r = x) :
    KindRel [] iter (carrying o r) ⟨c.t, pick c.v x⟩ :=
  ⟨kindrelT_value _ (carrying_kind hk.1), by rw [ovVal_carrying ho hr, hk.2, hx]⟩

theorem sim_fuel_r (L iter : List String) (mr : MR St) : Sim L iter mr .fuel := by
  cases mr <;> exact True.intro

theorem sim_ok (σ : St)
    (h1 : LabOK L L') (h2 : KindRel L iter o c) : Sim L iter (.ok o L' σ) (.ok c σ) := ⟨rfl, h1, h2⟩

theorem sim_throw (v : Val) (σ : St)
    (h1 : LabOK L L') : Sim L iter (.throw v L' σ) (.throw v σ) := ⟨rfl, rfl, h1⟩

@[elab_as_elim]
theorem Sim.elim {motive : MR St → SR St → Prop}
    (h : Sim L iter mr sr) (fuelM : ∀ sr, motive .fuel sr) (fuelS : ∀ mr, motive mr .fuel)
    (ok : ∀ o L' σ c, LabOK L L' → KindRel L iter o c → motive (.ok o L' σ) (.ok c σ))
    (throw : ∀ v L' σ, LabOK L L' → motive (.throw v L' σ) (.throw v σ)) : motive mr sr := by
  cases sr with
  | fuel => exact fuelS _
  | ok c σ' =>
    cases mr with
    | fuel => exact fuelM _
    | ok o L' σ => obtain ⟨rfl, h1, h2⟩ := h; exact ok _ _ _ _ h1 h2
    | throw v L' σ => exact False.elim h
  | throw v' σ' =>
    cases mr with
    | fuel => exact fuelM _
    | ok o L' σ => exact False.elim h
    | throw v L' σ => obtain ⟨rfl, rfl, h1⟩ := h; exact throw _ _ _ h1

/-- a statement run with nothing pending leaves nothing pending; its completion is normal with the
    statement's value, or abrupt on both sides -/
@[elab_as_elim]
theorem Sim.elim_rest {motive : MR St → SR St → Prop}
    (h : Sim [] iter mr sr) (fuelM : ∀ sr, motive .fuel sr) (fuelS : ∀ mr, motive mr .fuel)
    (normal : ∀ o σ c, isResult o = false → c.t = .normal → ovVal o = c.v → motive (.ok o [] σ) (.ok c σ))
    (abrupt : ∀ o σ c, isResult o = true → c.abrupt = true → KindRel [] iter o c → motive (.ok o [] σ) (.ok c σ))
    (throw : ∀ v σ, motive (.throw v [] σ) (.throw v σ)) : motive mr sr := by
  refine h.elim fuelM fuelS ?_ ?_
  · intro o L' σ c hl hk
    cases labok_of_nil hl
    cases hr : isResult o with
    | false => exact normal o σ c hr (kindrel_nil_normal hr hk) hk.2
    | true => exact abrupt o σ c hr (kindrel_result_abrupt hr hk) hk
  · intro v L' σ hl
    cases labok_of_nil hl
    exact throw v σ

theorem simN_fuel_r (L iter : List String) (mr : MR St) : SimN L iter mr .fuel := by
  cases mr <;> exact True.intro

@[elab_as_elim]
theorem SimN.elim {motive : MR St → SR St → Prop}
    (h : SimN L iter mr sr) (fuelM : ∀ sr, motive .fuel sr) (fuelS : ∀ mr, motive mr .fuel)
    (ok : ∀ o σ c, KindRel L iter o c → motive (.ok o [] σ) (.ok c σ))
    (throw : ∀ v σ, motive (.throw v [] σ) (.throw v σ)) : motive mr sr := by
  cases sr with
  | fuel => exact fuelS _
  | ok c σ' =>
    cases mr with
    | fuel => exact fuelM _
    | ok o L' σ => obtain ⟨rfl, rfl, h2⟩ := h; exact ok _ _ _ h2
    | throw v L' σ => exact False.elim h
  | throw v' σ' =>
    cases mr with
    | fuel => exact fuelM _
    | ok o L' σ => exact False.elim h
    | throw v L' σ => obtain ⟨rfl, rfl, rfl⟩ := h; exact throw _ _

theorem simN_sim (h : SimN L iter mr sr) : Sim L iter mr sr := by
  refine h.elim ?_ ?_ ?_ ?_
  · intro sr; exact True.intro
  · intro mr; exact sim_fuel_r _ _ _
  · intro o σ c hk; exact sim_ok σ (labok_nil _) hk
  · intro v σ; exact sim_throw v σ (labok_nil _)

theorem sim_nil_simN {iter : List String} {mr : MR St} {sr : SR St} (h : Sim [] iter mr sr) : SimN [] iter mr sr := by
  refine h.elim ?_ ?_ ?_ ?_
  · intro sr; exact True.intro
  · intro mr; exact simN_fuel_r _ _ _
  · intro o L' σ c hl hk; exact ⟨rfl, labok_of_nil hl, hk⟩
  · intro v L' σ hl; exact ⟨rfl, rfl, labok_of_nil hl⟩

theorem simN_weaken_nil (h : SimN [] iter mr sr) :
    SimN L iter mr sr := by
  refine h.elim ?_ ?_ ?_ ?_
  · intro sr; exact True.intro
  · intro mr; exact simN_fuel_r _ _ _
  · intro o σ c hk; exact ⟨rfl, rfl, kindrel_weaken (List.nil_subset _) hk⟩
  · intro v σ; exact ⟨rfl, rfl, rfl⟩

theorem clauserel_fuel_r (labels iter : List String) (br : BR St) : ClauseRel labels iter br .fuel := by
  cases br <;> exact True.intro

@[elab_as_elim]
theorem ClauseRel.elim {motive : BR St → SR St → Prop}
    {br : BR St} (h : ClauseRel labels iter br sr)
    (fuelM : ∀ sr, motive .fuel sr) (fuelS : ∀ br, motive br .fuel)
    (next : ∀ r σ c, c.t = .normal → isResult r = false → ovVal r = c.v → motive (.next r [] σ) (.ok c σ))
    (brk : ∀ r σ c t, c.t = .brk t → t ∈ labels → isResult r = false → ovVal r = c.v →
      motive (.brk r [] σ) (.ok c σ))
    (retv : ∀ o σ c, KindRel [] iter o c → isResult o = true → (∀ t x, o = .brk t x → t ∉ labels) →
      motive (.retv o [] σ) (.ok c σ))
    (throw : ∀ v σ, motive (.throw v [] σ) (.throw v σ)) : motive br sr := by
  cases sr with
  | fuel => exact fuelS _
  | ok c σ' =>
    cases br with
    | fuel => exact fuelM _
    | next r L' σ => obtain ⟨rfl, rfl, h1, h2, h3⟩ := h; exact next _ _ _ h1 h2 h3
    | brk r L' σ => obtain ⟨rfl, rfl, ⟨t, h1, h2⟩, h3, h4⟩ := h; exact brk _ _ _ t h1 h2 h3 h4
    | retv o L' σ => obtain ⟨rfl, rfl, h1, h2, h3⟩ := h; exact retv _ _ _ h1 h2 h3
    | _ => exact False.elim h
  | throw v' σ' =>
    cases br with
    | fuel => exact fuelM _
    | throw v L' σ => obtain ⟨rfl, rfl, rfl⟩ := h; exact throw _ _
    | _ => exact False.elim h

/-- block: captured labels `L` consume their breaks early -/
theorem block_simN (h : Sim [] iter mr sr) :
    SimN L iter (blockWrap L mr) sr := by
  refine h.elim ?_ ?_ ?_ ?_
  · intro sr; exact True.intro
  · intro mr; exact simN_fuel_r _ _ _
  · intro o L' σ c hl hk
    cases labok_of_nil hl
    simp only [blockWrap]
    cases hb : isBreakIn L o with
    | false => exact ⟨rfl, rfl, kindrel_weaken (List.nil_subset _) hk⟩
    | true =>
      obtain ⟨t, x, rfl, ht⟩ := isBreakIn_true hb
      exact ⟨rfl, rfl, (kindrelT_nonresult (carried_nonresult rfl)).2 (Or.inr ⟨t, hk.1, ht⟩),
        (ovVal_carried (o := .brk t x) rfl nofun).trans ((pick_none_r x).trans hk.2)⟩
  · intro v L' σ hl; exact ⟨rfl, rfl, labok_of_nil hl⟩

/-- labelled statement: the label is popped on every exit, and a break to `l` ends here on both sides
    (otto: cmplEvaluateNodeStatement's `nodeLabelledStatement` case as of fix a0ba018; ES5 §12.12) -/
theorem label_sim {l : String}
    (h : Sim (L ++ [l]) iter mr sr) : Sim L iter (labelWrap l mr) (sLabelWrap l sr) := by
  refine h.elim ?_ ?_ ?_ ?_
  · intro sr; exact True.intro
  · intro mr; exact sim_fuel_r _ _ _
  · intro o L' σ c hl hk
    simp only [labelWrap, sLabelWrap]
    cases hb : isBreakIn [l] o with
    | true =>
      -- otto consumes the break here, and so does §12.12
      obtain ⟨t, x, rfl, ht⟩ := isBreakIn_true hb
      cases List.mem_singleton.1 ht
      have hc : c.t = .brk l := hk.1
      simp only [hc, if_true]
      exact sim_ok σ (labok_pop hl) (kindrel_nonresult_normal (carried_nonresult rfl) rfl
        ((ovVal_carried (o := .brk l x) rfl nofun).trans ((pick_none_r x).trans hk.2)))
    | false =>
      simp only [Bool.false_eq_true, if_false]
      cases hr : isResult o with
      | false =>
        -- a break to `l` that otto consumed further in (`l` was pending) ends here in ES5
        have h' := (kindrelT_nonresult hr).1 hk.1
        by_cases hc : c.t = .brk l
        · simp only [hc, if_true]
          exact sim_ok σ (labok_pop hl) (kindrel_nonresult_normal hr rfl hk.2)
        · simp only [hc, if_false]
          refine sim_ok σ (labok_pop hl) ⟨(kindrelT_nonresult hr).2 (h'.imp_right ?_), hk.2⟩
          rintro ⟨t, h1, h2⟩
          refine ⟨t, h1, (List.mem_append.1 h2).resolve_right fun h3 => hc ?_⟩
          rw [h1, List.mem_singleton.1 h3]
      | true =>
        have hc : ¬ c.t = .brk l := by
          intro hc
          cases o <;> simp [isResult] at hr
          · have h1 : c.t = .brk _ := hk.1
            rw [hc] at h1; cases h1
            exact isBreakIn_false hb _ _ rfl (List.mem_singleton.2 rfl)
          · have h1 : c.t = .cont _ := hk.1.1
            rw [hc] at h1; cases h1
          · have h1 : c.t = .ret := hk.1
            rw [hc] at h1; cases h1
        simp only [hc, if_false]
        exact sim_ok σ (labok_pop hl) ⟨kindrelT_result hr hk.1, hk.2⟩
  · intro v L' σ hl; exact sim_throw v σ (labok_pop hl)

theorem exit_simN (S : Sem St) (h : SimN L iter mr sr) :
    SimN L iter (exitWrap S mr) (sExitWrap S sr) := by
  refine h.elim ?_ ?_ ?_ ?_
  · intro sr; exact True.intro
  · intro mr; exact simN_fuel_r _ _ _
  · intro o σ c hk; exact ⟨rfl, rfl, hk⟩
  · intro v σ; exact ⟨rfl, rfl, rfl⟩

theorem withExit_sim (S : Sem St) (h : Sim L iter mr sr) :
    Sim L iter (withExitWrap S mr) (sWithExitWrap S sr) := by
  refine h.elim ?_ ?_ ?_ ?_
  · intro sr; exact True.intro
  · intro mr; exact sim_fuel_r _ _ _
  · intro o L' σ c hl hk; exact ⟨rfl, hl, hk⟩
  · intro v L' σ hl; exact ⟨rfl, rfl, hl⟩

theorem catch_simN (S : Sem St) (hasCatch : Bool) (param : String)
    {runC : List String → St → MR St} {srunC : St → SR St} {r1 : MR St} {s1 : SR St}
    (h : SimN L iter r1 s1) (hc : ∀ σ1, SimN L iter (runC [] σ1) (srunC σ1)) :
    SimN L iter (catchPhase S hasCatch param runC r1) (sCatchPhase S hasCatch param srunC s1) := by
  refine h.elim ?_ ?_ ?_ ?_
  · intro sr; exact True.intro
  · intro mr; exact simN_fuel_r _ _ _
  · intro o σ c hk; exact ⟨rfl, rfl, hk⟩
  · intro v σ
    cases hasCatch with
    | false => exact ⟨rfl, rfl, rfl⟩
    | true => exact exit_simN S (hc _)

/-- the finally block `rf` after a completion: it overrides exactly when it ends abruptly, on both sides -/
theorem finOver_simN {rf : MR St} {sf : SR St}
    (hk : KindRel L iter o c) (hf : SimN [] iter rf sf) : SimN L iter (finOver o rf) (sFinOver c sf) := by
  refine (simN_sim hf).elim_rest ?_ ?_ ?_ ?_ ?_
  · intro sr; exact True.intro
  · intro mr; exact simN_fuel_r _ _ _
  · intro fo σ F hr hn _
    simp only [finOver, sFinOver, hr, hn, Bool.false_eq_true, if_false, if_true]
    exact ⟨rfl, rfl, hk⟩
  · intro fo σ F hr ha hF
    have hn : ¬ F.t = .normal := fun hn => by rw [abrupt_of_normal hn] at ha; cases ha
    simp only [finOver, sFinOver, hr, hn, if_false, if_true]
    exact ⟨rfl, rfl, kindrel_weaken (List.nil_subset _) hF⟩
  · intro v σ; exact ⟨rfl, rfl, rfl⟩

theorem finOverThrow_simN (v : Val) {rf : MR St} {sf : SR St}
    (hf : SimN [] iter rf sf) : SimN L iter (finOverThrow v rf) (sFinOverThrow v sf) := by
  refine (simN_sim hf).elim_rest ?_ ?_ ?_ ?_ ?_
  · intro sr; exact True.intro
  · intro mr; exact simN_fuel_r _ _ _
  · intro fo σ F hr hn _
    simp only [finOverThrow, sFinOverThrow, hr, hn, Bool.false_eq_true, if_false, if_true]
    exact ⟨rfl, rfl, rfl⟩
  · intro fo σ F hr ha hF
    have hn : ¬ F.t = .normal := fun hn => by rw [abrupt_of_normal hn] at ha; cases ha
    simp only [finOverThrow, sFinOverThrow, hr, hn, if_false, if_true]
    exact ⟨rfl, rfl, kindrel_weaken (List.nil_subset _) hF⟩
  · intro v' σ; exact ⟨rfl, rfl, rfl⟩

theorem finally_simN (hasFin : Bool)
    {runF : List String → St → MR St} {srunF : St → SR St} {r2 : MR St} {s2 : SR St}
    (h : SimN L iter r2 s2) (hf : ∀ σ2, SimN [] iter (runF [] σ2) (srunF σ2)) :
    SimN L iter (finallyPhase hasFin runF r2) (sFinallyPhase hasFin srunF s2) := by
  refine h.elim ?_ ?_ ?_ ?_
  · intro sr; exact True.intro
  · intro mr; exact simN_fuel_r _ _ _
  · intro o σ c hk
    cases hasFin with
    | false => exact ⟨rfl, rfl, hk⟩
    | true => exact finOver_simN hk (hf σ)
  · intro v σ
    cases hasFin with
    | false => exact ⟨rfl, rfl, rfl⟩
    | true => exact finOverThrow_simN v (hf σ)

/- What a loop and a switch make of the completion of a statement list (`ottoBody_eq`, `ottoClause_eq` in
   RefineProof say that this is how the model runs a loop body and a clause). -/

/-- what a loop makes of its body's completion; `result` is the loop's value before the pass -/
def bodyWrap (labels : List String) (result : OV) : MR St → BR St
  | .ok o L' σ' => if isResult o then bodyResult labels o result .empty L' σ' else .next (nextResult o result) L' σ'
  | .throw v L' σ' => .throw v L' σ'
  | .fuel => .fuel

/-- what a switch makes of a clause's completion (the list was started with the value so far) -/
def clauseWrap (labels : List String) : MR St → BR St
  | .ok o L' σ' =>
    if isResult o then (if isBreakIn labels o then .brk (carried o .empty) L' σ' else .retv o L' σ')
    else .next o L' σ'
  | .throw v L' σ' => .throw v L' σ'
  | .fuel => .fuel

/-- the common step of the three iteration statements: what the loop does with the completion of its body -/
theorem loop_pass_sim {L ls iter : List String} (hp : Pending L ls) {result : OV} (hres : isResult result = false)
    {mr : MR St} {sr : SR St}
    {again : OV → List String → St → MR St} {sagain : Option Val → St → SR St}
    (h : Sim [] (ls ++ iter) mr sr)
    (hagain : ∀ r σ2 V', isResult r = false → ovVal r = V' → Sim L iter (again r [] σ2) (sagain V' σ2)) :
    Sim L iter (loopStep again (bodyWrap (L ++ [""]) result mr)) (sLoopStep ("" :: ls) (ovVal result) sagain sr) := by
  refine h.elim_rest ?_ ?_ ?_ ?_ ?_
  · intro sr; exact True.intro
  · intro mr; exact sim_fuel_r _ _ _
  · intro o σ c hr hn hv
    simp only [bodyWrap, hr, Bool.false_eq_true, if_false, loopStep, sLoopStep, hn]
    exact hagain _ σ _ (nextResult_notResult hr hres) (by rw [ovVal_nextResult hr, hv])
  · intro o σ c hr _ hk
    simp only [bodyWrap, hr, if_true, bodyResult, carrying_empty]
    -- a break / continue of the loop's own label set is consumed, with the value it brings along; any other
    -- abrupt completion leaves the loop as it is (§12.6.x "return stmt")
    have hown : ∀ (hn : ∀ v, o ≠ .ret v), isResult (carried o result) = false ∧
        ovVal (carried o result) = pick c.v (ovVal result) :=
      fun hn => ⟨carried_nonresult hres, by rw [ovVal_carried hr hn, hk.2]⟩
    cases o with
    | empty => cases hr
    | val v => cases hr
    | ret v =>
      have hk1 : c.t = .ret := hk.1
      simp only [evalBC, loopStep, sLoopStep, hk1]
      exact sim_ok σ (labok_nil _) ⟨hk1, hk.2⟩
    | brk t x =>
      have hk1 : c.t = .brk t := hk.1
      by_cases ht : t ∈ L ++ [""]
      · simp only [evalBC, List.contains_iff_mem.2 ht, if_true, loopStep, sLoopStep, hk1, hp.mem_own.2 ht]
        exact sim_ok σ (labok_nil _) (kindrel_nonresult_normal (hown nofun).1 rfl (hown nofun).2)
      · simp only [evalBC, Bool.eq_false_iff.2 (mt List.contains_iff_mem.1 ht), Bool.false_eq_true, if_false, loopStep,
          sLoopStep, hk1, hp.not_own ht]
        exact sim_ok σ (labok_nil _) ⟨hk1, hk.2⟩
    | cont t x =>
      have hk1 : c.t = .cont t ∧ (t = "" ∨ t ∈ ls ++ iter) := hk.1
      by_cases ht : t ∈ L ++ [""]
      · simp only [evalBC, List.contains_iff_mem.2 ht, if_true, loopStep, sLoopStep, hk1.1, hp.mem_own.2 ht]
        exact hagain _ σ _ (hown nofun).1 (hown nofun).2
      · simp only [evalBC, Bool.eq_false_iff.2 (mt List.contains_iff_mem.1 ht), Bool.false_eq_true, if_false, loopStep,
          sLoopStep, hk1.1, hp.not_own ht]
        refine sim_ok σ (labok_nil _) ⟨⟨hk1.1, hk1.2.imp_right fun h => ?_⟩, hk.2⟩
        exact (List.mem_append.1 h).resolve_left fun h => ht (List.mem_append_left _ (hp.sub h))
  · intro v σ; exact sim_throw v σ (labok_nil _)

/-- the completion of a clause's statement list (run from the CaseBlock's value so far), read by the switch -/
theorem clauseWrap_rel (h : Sim [] iter mr sr) : ClauseRel labels iter (clauseWrap labels mr) sr := by
  refine h.elim_rest ?_ ?_ ?_ ?_ ?_
  · intro sr; exact True.intro
  · intro mr; exact clauserel_fuel_r _ _ _
  · intro o σ c hr hn hv
    simp only [clauseWrap, hr, Bool.false_eq_true, if_false]
    exact ⟨rfl, rfl, hn, hr, hv⟩
  · intro o σ c hr _ hk
    simp only [clauseWrap, hr, if_true]
    cases hb : isBreakIn labels o with
    | false => exact ⟨rfl, rfl, hk, hr, isBreakIn_false hb⟩
    | true =>
      obtain ⟨t, x, rfl, ht⟩ := isBreakIn_true hb
      exact ⟨rfl, rfl, ⟨t, hk.1, ht⟩, carried_nonresult rfl,
        (ovVal_carried (o := .brk t x) rfl nofun).trans ((pick_none_r x).trans hk.2)⟩
  · intro v σ; exact ⟨rfl, rfl, rfl⟩

theorem switch_sim {L ls iter : List String} (hp : Pending L ls)
    {br : BR St} (h : ClauseRel (L ++ [""]) iter br sr) :
    Sim L iter (switchWrap br) (sSwitchWrap ("" :: ls) sr) := by
  refine h.elim ?_ ?_ ?_ ?_ ?_ ?_
  · intro sr; exact True.intro
  · intro br; exact sim_fuel_r _ _ _
  · intro r σ c hc hr hv
    simp only [switchWrap, sSwitchWrap, hc]
    exact sim_ok σ (labok_nil _) (kindrel_nonresult_normal hr hc hv)
  · intro r σ c t hc ht hr hv
    simp only [switchWrap, sSwitchWrap, hc, hp.mem_own.2 ht, if_true]
    exact sim_ok σ (labok_nil _) (kindrel_nonresult_normal hr rfl hv)
  · intro o σ c hk hres hb
    cases o with
    | empty => simp [isResult] at hres
    | val v => simp [isResult] at hres
    | ret v =>
      have hk1 : c.t = .ret := hk.1
      simp only [switchWrap, sSwitchWrap, hk1]
      exact sim_ok σ (labok_nil _) ⟨hk1, hk.2⟩
    | cont t x =>
      have hk1 : c.t = .cont t ∧ (t = "" ∨ t ∈ iter) := hk.1
      simp only [switchWrap, sSwitchWrap, hk1.1]
      exact sim_ok σ (labok_nil _) ⟨hk1, hk.2⟩
    | brk t x =>
      have hk1 : c.t = .brk t := hk.1
      simp only [switchWrap, sSwitchWrap, hk1, hp.not_own (hb t x rfl), Bool.false_eq_true, if_false]
      exact sim_ok σ (labok_nil _) ⟨hk1, hk.2⟩
  · intro v σ; exact sim_throw v σ (labok_nil _)

end OttoVerif.C01
