/-
  C09/Lemmas — the UTF-8 / UTF-16 round trips of Base/Str on whole strings: decodeRunes ∘ encodeRunes on scalar
  values, the code-unit view `U` of ASCII and BMP strings, well-paired code units.  The facts about a single rune come from Base/StrLemmas; C05/StrKindTheorems builds on these too.
-/
import OttoVerif.C09.Spec
import OttoVerif.Base.StrLemmas
namespace OttoVerif.C09.Lem
open OttoVerif.F64 OttoVerif.Str OttoVerif.C05 OttoVerif.C09

/-- a Unicode scalar value -/
def Scalar (r : Nat) : Prop := r < 0xD800 ∨ (0xE000 ≤ r ∧ r ≤ 0x10FFFF)

theorem Scalar.valid {r : Nat} (h : Scalar r) : r ≤ 0x10FFFF ∧ ¬(0xD800 ≤ r ∧ r ≤ 0xDFFF) := by
  unfold Scalar at h
  omega

theorem dec1 (b0 : Nat) (rest : List Nat) (h : b0 < 0x80) : decodeRune (b0 :: rest) = some (b0, 1) :=
  decodeRune_ascii b0 rest h

theorem decodeRunes_encodeRunes (rs : List Nat) (h : ∀ r ∈ rs, Scalar r) : decodeRunes (encodeRunes rs) = rs :=
  Str.decodeRunes_encodeRunes rs fun r hr => (h r hr).valid

theorem isASCII_iff (s : List Nat) : isASCII s = true ↔ ∀ b ∈ s, b < 0x80 := by
  simp [isASCII]

theorem decodeRune_scalar (bs : List Nat) (r w : Nat) (h : decodeRune bs = some (r, w)) : Scalar r ∧ 1 ≤ w := by
  have := decodeRune_valid bs (r, w) h
  unfold Scalar
  omega

theorem utf16Encode_bmp (rs : List Nat) (h : ∀ r ∈ rs, Scalar r ∧ r < 0x10000) : utf16Encode rs = rs := by
  induction rs with
  | nil => rfl
  | cons r rs ih =>
    have hr := h r List.mem_cons_self
    rw [utf16Encode_cons, utf16Encode_singleton hr.1.valid.1 hr.1.valid.2, if_pos hr.2,
      ih fun x hx => h x (List.mem_cons_of_mem _ hx)]
    rfl

/-- no code point above the BMP -/
def NoAstral (s : List Nat) : Prop := ∀ r ∈ decodeRunes s, r < 0x10000

theorem U_bmp (s : List Nat) (h : NoAstral s) : U s = decodeRunes s := by
  unfold U unitsOfBytes
  apply utf16Encode_bmp
  intro r hr
  have := decodeRunes_valid s r hr
  exact ⟨by unfold Scalar; omega, h r hr⟩

theorem ascii_noAstral (s : List Nat) (h : isASCII s = true) : NoAstral s := by
  intro r hr
  rw [decodeRunes_ascii s ((isASCII_iff s).1 h)] at hr
  have := (isASCII_iff s).1 h r hr
  omega

theorem U_ascii (s : List Nat) (h : isASCII s = true) : U s = s :=
  unitsOfBytes_ascii s ((isASCII_iff s).1 h)

theorem U_encodeRunes_bmp (rs : List Nat) (h : ∀ r ∈ rs, Scalar r ∧ r < 0x10000) : U (encodeRunes rs) = rs := by
  unfold U unitsOfBytes
  rw [decodeRunes_encodeRunes rs (fun r hr => (h r hr).1)]
  exact utf16Encode_bmp rs h

theorem U_encodeRune_unit (c : Nat) (h : Scalar c) (h' : c < 0x10000) : U (encodeRune c) = [c] := by
  have := U_encodeRunes_bmp [c] (by intro r hr; simp at hr; subst hr; exact ⟨h, h'⟩)
  simpa [encodeRunes] using this

/-- well-paired code units decode to scalar values and re-encode to themselves -/
theorem utf16_roundtrip : ∀ us : List Nat, wellPaired us = true → (∀ u ∈ us, u < 0x10000) →
    (∀ r ∈ utf16Decode us, Scalar r) ∧ utf16Encode (utf16Decode us) = us
  | [], _, _ => ⟨fun _ h => (nomatch h), rfl⟩
  | [u], hw, hu => by
    have h1 := hu u (by simp)
    simp only [wellPaired, decide_eq_true_eq] at hw
    rw [utf16Decode, if_neg (by omega)]
    refine ⟨fun r hr => ?_, ?_⟩
    · rw [List.mem_singleton.1 hr]
      unfold Scalar
      omega
    · rw [utf16Encode_singleton (by omega) (by omega), if_pos h1]
  | u :: v :: rest, hw, hu => by
    have h1 := hu u (by simp)
    have h2 := hu v (by simp)
    rw [wellPaired] at hw
    by_cases hn : u < 0xD800 ∨ u > 0xDFFF
    · -- `u` is no surrogate: it stands for itself
      rw [if_pos hn] at hw
      have ih := utf16_roundtrip (v :: rest) hw fun x hx => hu x (List.mem_cons_of_mem _ hx)
      rw [utf16Decode, if_neg (by omega), if_neg (by omega), utf16Encode_cons,
        utf16Encode_singleton (by omega) (by omega), if_pos h1, ih.2]
      refine ⟨fun r hr => ?_, rfl⟩
      rcases List.mem_cons.1 hr with rfl | hr
      · unfold Scalar
        omega
      · exact ih.1 r hr
    · -- `u`, `v` are a surrogate pair: one code point beyond the BMP, encoded as the same pair
      rw [if_neg hn] at hw
      split at hw
      · rename_i hp
        have ih := utf16_roundtrip rest hw fun x hx => hu x (List.mem_cons_of_mem _ (List.mem_cons_of_mem _ hx))
        rw [utf16Decode, if_pos (by omega), utf16Encode_cons, utf16Encode_singleton (by omega) (by omega),
          if_neg (by omega), ih.2]
        refine ⟨fun r hr => ?_, ?_⟩
        · rcases List.mem_cons.1 hr with rfl | hr
          · unfold Scalar
            omega
          · exact ih.1 r hr
        · rw [show 0xD800 + ((u - 0xD800) * 1024 + (v - 0xDC00) + 0x10000 - 0x10000) / 1024 = u by omega,
            show 0xDC00 + ((u - 0xD800) * 1024 + (v - 0xDC00) + 0x10000 - 0x10000) % 1024 = v by omega]
          rfl
      · exact nomatch hw

/-- code units without an unpaired surrogate survive the trip through their Go string (`utf16_roundtrip`, then the
    UTF-8 round trip) -/
theorem U_bytesOfUnits (us : List Nat) (hw : wellPaired us = true) (hu : ∀ u ∈ us, u < 0x10000) :
    U (bytesOfUnits us) = us := by
  obtain ⟨hs, he⟩ := utf16_roundtrip us hw hu
  unfold U unitsOfBytes bytesOfUnits
  rw [decodeRunes_encodeRunes _ hs, he]

/-- `utf16Value` sends well-paired units through a Go string and back; ill-paired units it returns as they are. -/
theorem utf16Value_id (us : List Nat) (hu : ∀ u ∈ us, u < 0x10000) : utf16Value us = us := by
  unfold utf16Value
  split
  · exact U_bytesOfUnits us ‹_› hu
  · rfl

end OttoVerif.C09.Lem
