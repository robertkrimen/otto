/-
  C09/CaseTheorems — ledger, part 2 (audited like Theorems.lean): the case-mapping tables.
  The two dumped tables are compared by one pass (`agree`) that is proved sound for arbitrary tables and then
  evaluated by the kernel on the dumped ones.
-/
import OttoVerif.C09.Spec
namespace OttoVerif.C09.Thm
open OttoVerif.C09

/-- the code units whose UCD mapping is not one-to-one (SpecialCasing.txt): region `case_special` -/
def specialUnits : List Nat :=
  CaseTables.specCase.filterMap fun e => if e.2.1.length = 1 ∧ e.2.2.length = 1 then none else some e.1

/-- the one-to-one part of the specification table -/
def specSimple : List (Nat × Nat × Nat) :=
  CaseTables.specCase.filterMap fun e =>
    if e.2.1.length = 1 ∧ e.2.2.length = 1 then some (e.1, e.2.1.headD 0, e.2.2.headD 0) else none

/-- The code units of `spec` increase strictly, starting at `lo` or above.
    (`Nat.ble`, `Nat.beq`, `Nat.blt` here and below: these the kernel computes on literals in one step.) -/
def ascending (lo : Nat) : List (Nat × List Nat × List Nat) → Bool
  | [] => true
  | s :: spec => Nat.ble lo s.1 && ascending (s.1 + 1) spec

/-- One pass down a specification table, consuming a Go table: a one-to-one row must be the next Go row and lie
    on the BMP; a SpecialCasing row lets Go rows of its unit pass; what is left of the Go table at the end lies
    beyond the BMP. -/
def agree : List (Nat × List Nat × List Nat) → List (Nat × Nat × Nat) → Bool
  | [], go => go.all fun g => !decide (g.1 < 0x10000)
  | s :: spec, go =>
    match s.2.1, s.2.2 with
    | [l], [u] =>
      match go with
      | g :: go => Nat.blt g.1 0x10000 && Nat.beq g.1 s.1 && Nat.beq g.2.1 l && Nat.beq g.2.2 u && agree spec go
      | [] => false
    | _, _ => agree spec (go.dropWhile fun g => Nat.beq g.1 s.1)

theorem le_of_ascending : ∀ spec lo, ascending lo spec = true → ∀ s ∈ spec, lo ≤ s.1
  | [], _, _, _, hs => nomatch hs
  | t :: spec, lo, h, s, hs => by
    simp only [ascending, Bool.and_eq_true, Nat.ble_eq] at h
    rcases List.mem_cons.1 hs with rfl | hs
    · exact h.1
    · have := le_of_ascending spec _ h.2 s hs
      omega

/-- In an ascending table a unit names its row. -/
theorem eq_of_ascending : ∀ spec lo, ascending lo spec = true → ∀ s ∈ spec, ∀ e ∈ spec, s.1 = e.1 → s = e
  | [], _, _, _, hs, _, _, _ => nomatch hs
  | t :: spec, lo, h, s, hs, e, he, hse => by
    simp only [ascending, Bool.and_eq_true, Nat.ble_eq] at h
    have above := le_of_ascending spec _ h.2
    rcases List.mem_cons.1 hs with rfl | hs' <;> rcases List.mem_cons.1 he with rfl | he'
    · rfl
    · have := above e he'
      omega
    · have := above s hs'
      omega
    · exact eq_of_ascending spec _ h.2 s hs' e he' hse

theorem filter_dropWhile {α} (p q : α → Bool) (h : ∀ a, q a = true → p a = false) :
    ∀ l : List α, (l.dropWhile q).filter p = l.filter p
  | [] => rfl
  | a :: l => by
    cases hq : q a
    · rw [List.dropWhile_cons_of_neg (by simp [hq])]
    · rw [List.dropWhile_cons_of_pos hq, List.filter_cons_of_neg (by simp [h a hq]), filter_dropWhile p q h l]

/-- If `p` tells the units of the one-to-one rows of `spec` from those of its other rows, a Go table that passes
    `agree` is, on the BMP and where `p` holds, the one-to-one part of `spec`. -/
theorem filter_eq_of_agree (p : Nat → Bool) : ∀ spec go, agree spec go = true →
    (∀ s ∈ spec, p s.1 = decide (s.2.1.length = 1 ∧ s.2.2.length = 1)) →
    go.filter (fun e => decide (e.1 < 0x10000) && p e.1) =
    spec.filterMap fun e =>
      if e.2.1.length = 1 ∧ e.2.2.length = 1 then some (e.1, e.2.1.headD 0, e.2.2.headD 0) else none
  | [], go, h, _ => by
    simp only [agree, List.all_eq_true, Bool.not_eq_true', decide_eq_false_iff_not] at h
    exact List.filter_eq_nil_iff.2 fun g hg => by simp [h g hg]
  | s :: spec, go, h, hp => by
    have ih := fun go h => filter_eq_of_agree p spec go h fun s hs => hp s (List.mem_cons_of_mem _ hs)
    have hs := hp s List.mem_cons_self
    unfold agree at h
    split at h
    · rename_i l u hl hu
      have h1 : s.2.1.length = 1 ∧ s.2.2.length = 1 := by rw [hl, hu]; exact ⟨rfl, rfl⟩
      match go, h with
      | g :: go, h =>
        simp only [Bool.and_eq_true] at h
        obtain ⟨⟨⟨⟨hlt, hk⟩, hgl⟩, hgu⟩, h⟩ := h
        have hg : g = (s.1, l, u) := by
          rw [← Nat.eq_of_beq_eq_true hk, ← Nat.eq_of_beq_eq_true hgl, ← Nat.eq_of_beq_eq_true hgu]
        rw [List.filterMap_cons, if_pos h1, ← ih go h, hl, hu, hg, List.filter_cons_of_pos]
        · rfl
        · rw [hs, ← Nat.eq_of_beq_eq_true hk]
          simp [h1, Nat.blt_eq ▸ hlt]
    · rename_i nope
      have h1 : ¬(s.2.1.length = 1 ∧ s.2.2.length = 1) := fun ⟨hl, hu⟩ => by
        obtain ⟨l, hl⟩ := List.length_eq_one_iff.1 hl
        obtain ⟨u, hu⟩ := List.length_eq_one_iff.1 hu
        exact nope l u hl hu
      rw [List.filterMap_cons, if_neg h1, ← ih _ h]
      refine (filter_dropWhile _ _ (fun g hg => ?_) go).symm
      rw [Nat.eq_of_beq_eq_true hg, hs]
      simp [h1]

/-- The comparison of the two tables, for arbitrary tables that pass the two checks: `sp` are the units of the rows
    of `spec` that are not one-to-one, `si` is its one-to-one part. -/
theorem filter_eq_filter_of_agree (spec : List (Nat × List Nat × List Nat)) (go : List (Nat × Nat × Nat))
    {sp : List Nat} {si : List (Nat × Nat × Nat)}
    (hsp : sp = spec.filterMap fun e => if e.2.1.length = 1 ∧ e.2.2.length = 1 then none else some e.1)
    (hsi : si = spec.filterMap fun e =>
      if e.2.1.length = 1 ∧ e.2.2.length = 1 then some (e.1, e.2.1.headD 0, e.2.2.headD 0) else none)
    (asc : ascending 0 spec = true) (ag : agree spec go = true) :
    go.filter (fun e => decide (e.1 < 0x10000) && !sp.contains e.1) = si.filter (fun e => !sp.contains e.1) := by
  have hp : ∀ s ∈ spec, (!sp.contains s.1) = decide (s.2.1.length = 1 ∧ s.2.2.length = 1) := fun s hs => by
    by_cases h1 : s.2.1.length = 1 ∧ s.2.2.length = 1
    · have : s.1 ∉ sp := fun hm => by
        obtain ⟨e, he, hes⟩ := List.mem_filterMap.1 (hsp ▸ hm)
        split at hes
        · exact nomatch hes
        · rename_i he1
          exact he1 (eq_of_ascending _ _ asc e he s hs (Option.some.inj hes) ▸ h1)
      simpa [h1] using this
    · have : s.1 ∈ sp := hsp ▸ List.mem_filterMap.2 ⟨s, hs, if_neg h1⟩
      simpa [h1] using this
  rw [filter_eq_of_agree (fun u => !sp.contains u) _ _ ag hp, ← hsi]
  refine (List.filter_eq_self.2 fun e he => ?_).symm
  obtain ⟨s, hs, hse⟩ := List.mem_filterMap.1 (hsi ▸ he)
  split at hse
  · cases hse
    rw [hp s hs]
    simpa
  · exact nomatch hse

/-- C09.case_simple: on the BMP, outside the SpecialCasing units, Go's unicode.ToLower/ToUpper table is
    exactly the Unicode Character Database's simple case mapping (entry-for-entry equality of the dumped tables) -/
theorem case_simple :
    CaseTables.goCase.filter (fun e => decide (e.1 < 0x10000) && !specialUnits.contains e.1) =
    specSimple.filter (fun e => !specialUnits.contains e.1) :=
  filter_eq_filter_of_agree CaseTables.specCase CaseTables.goCase rfl rfl (by decide +kernel) (by decide +kernel)
end OttoVerif.C09.Thm
