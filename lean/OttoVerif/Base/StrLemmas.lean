/-
  Base/StrLemmas — what the UTF-8 / UTF-16 stubs of Base/Str do on Unicode scalar values
  (`r ≤ 0x10FFFF`, not a surrogate) and on ASCII bytes: shared by the literals of C03, the string order of C05,
  the number syntax of C06, the string methods of C09, the RegExp protocol of C10 and the escape functions of C13.
-/
import OttoVerif.Base.Str
namespace OttoVerif.Str

theorem forall_some_ite {α : Type} {P : α → Prop} {c : Prop} [Decidable c] {a b : Option α}
    (ha : c → ∀ p, a = some p → P p) (hb : ¬c → ∀ p, b = some p → P p) :
    ∀ p, (if c then a else b) = some p → P p := by
  split
  · exact ha ‹_›
  · exact hb ‹_›

theorem forall_some_some {α : Type} {P : α → Prop} {a : α} (h : P a) : ∀ p, some a = some p → P p :=
  fun _ hp => Option.some.inj hp ▸ h

theorem isCont_iff (b : Nat) : isCont b = true ↔ 0x80 ≤ b ∧ b ≤ 0xBF := by simp [isCont]

/-- whatever `decodeRune` yields is a scalar value (U+FFFD for every ill-formed sequence) of positive width -/
theorem decodeRune_valid (bs : List Nat) : ∀ p, decodeRune bs = some p →
    (p.1 ≤ 0x10FFFF ∧ ¬(0xD800 ≤ p.1 ∧ p.1 ≤ 0xDFFF)) ∧ 1 ≤ p.2 := by
  have err : ∀ p, some (runeError, 1) = some p → (p.1 ≤ 0x10FFFF ∧ ¬(0xD800 ≤ p.1 ∧ p.1 ≤ 0xDFFF)) ∧ 1 ≤ p.2 :=
    forall_some_some (by decide)
  cases bs with
  | nil => intro p h; cases h
  | cons b0 rest =>
    unfold decodeRune
    -- the chain of tests on the lead byte, one per line; only the four well-formed shapes need an argument
    refine
      forall_some_ite (fun h0 => ?one) fun h0 =>      -- b0 < 0x80
      forall_some_ite (fun _ => err) fun h1 =>         -- b0 < 0xC2: a continuation byte or an overlong lead
      forall_some_ite (fun h2 => ?two) fun h2 =>      -- b0 < 0xE0
      forall_some_ite (fun h3 => ?three) fun h3 =>    -- b0 < 0xF0
      forall_some_ite (fun h4 => ?four) fun _ => err  -- b0 < 0xF5
    case one => refine forall_some_some ?_; dsimp only; omega
    case two =>
      cases rest with
      | nil => exact err
      | cons b1 _ =>
        refine forall_some_ite (fun hc => ?_) (fun _ => err)
        rw [isCont_iff] at hc
        refine forall_some_some ?_; dsimp only; omega
    case three =>
      cases rest with
      | nil => exact err
      | cons b1 t =>
      cases t with
      | nil => exact err
      | cons b2 _ =>
        refine forall_some_ite (fun hc => ?_) (fun _ => err)
        rw [isCont_iff] at hc
        refine forall_some_some ?_; dsimp only
        -- lead byte 0xED admits second bytes up to 0x9F only: the surrogates are excluded
        by_cases e : b0 = 0xED
        · rw [if_pos e] at hc; omega
        · rw [if_neg e] at hc; omega
    case four =>
      cases rest with
      | nil => exact err
      | cons b1 t =>
      cases t with
      | nil => exact err
      | cons b2 t =>
      cases t with
      | nil => exact err
      | cons b3 _ =>
        refine forall_some_ite (fun hc => ?_) (fun _ => err)
        rw [isCont_iff, isCont_iff] at hc
        refine forall_some_some ?_; dsimp only
        -- 0xF0 needs a second byte ≥ 0x90 (result ≥ 0x10000), 0xF4 one ≤ 0x8F (result ≤ 0x10FFFF)
        by_cases e0 : b0 = 0xF0
        · rw [if_pos e0, if_neg (by omega)] at hc; omega
        · rw [if_neg e0] at hc
          by_cases e4 : b0 = 0xF4
          · rw [if_pos e4] at hc; omega
          · rw [if_neg e4] at hc; omega

theorem decodeRunes_valid (bs : List Nat) : ∀ r ∈ decodeRunes bs, r ≤ 0x10FFFF ∧ ¬(0xD800 ≤ r ∧ r ≤ 0xDFFF) := by
  unfold decodeRunes
  generalize bs.length = fuel
  induction fuel generalizing bs with
  | zero => intro r hr; cases hr
  | succ n ih =>
    intro r hr
    rw [decodeRunesAux] at hr
    split at hr
    · cases hr
    · rename_i r0 w hd
      rcases List.mem_cons.1 hr with rfl | hr
      · exact (decodeRune_valid bs _ hd).1
      · exact ih _ r hr

theorem encodeRune_of_scalar {r : Nat} (h1 : r ≤ 0x10FFFF) (h2 : ¬(0xD800 ≤ r ∧ r ≤ 0xDFFF)) :
    encodeRune r =
      if r < 0x80 then [r]
      else if r < 0x800 then [0xC0 + r / 64, 0x80 + r % 64]
      else if r < 0x10000 then [0xE0 + r / 4096, 0x80 + (r / 64) % 64, 0x80 + r % 64]
      else [0xF0 + r / 262144, 0x80 + (r / 4096) % 64, 0x80 + (r / 64) % 64, 0x80 + r % 64] := by
  have hn : ¬((0xD800 ≤ r ∧ r ≤ 0xDFFF) ∨ r > 0x10FFFF) := by omega
  simp only [encodeRune, if_neg hn]

theorem encodeRune_ascii {r : Nat} (h : r < 0x80) : encodeRune r = [r] := by
  rw [encodeRune_of_scalar (by omega) (by omega), if_pos h]

/-- every byte of a multi-byte encoding (also that of U+FFFD, for an invalid rune) has the top bit set -/
theorem encodeRune_high {r : Nat} (h : 0x80 ≤ r) :
    ∃ c t, encodeRune r = c :: t ∧ ∀ b ∈ c :: t, 0x80 ≤ b ∧ b < 0x100 := by
  unfold encodeRune
  generalize hx : (if (0xD800 ≤ r ∧ r ≤ 0xDFFF) ∨ r > 0x10FFFF then runeError else r) = x
  have hx1 : 0x80 ≤ x ∧ x ≤ 0x10FFFF := by
    subst hx; split
    · decide
    · omega
  dsimp only
  rw [if_neg (by omega)]
  split
  · exact ⟨_, _, rfl, by simp only [List.mem_cons, List.not_mem_nil, or_false, forall_eq_or_imp, forall_eq]; omega⟩
  split
  · exact ⟨_, _, rfl, by simp only [List.mem_cons, List.not_mem_nil, or_false, forall_eq_or_imp, forall_eq]; omega⟩
  · exact ⟨_, _, rfl, by simp only [List.mem_cons, List.not_mem_nil, or_false, forall_eq_or_imp, forall_eq]; omega⟩

theorem encodeRune_length_pos (r : Nat) : 0 < (encodeRune r).length := by
  by_cases h : r < 0x80
  · rw [encodeRune_ascii h]; exact Nat.succ_pos _
  · obtain ⟨c, t, e, _⟩ := encodeRune_high (Nat.le_of_not_lt h)
    rw [e]; exact Nat.succ_pos _

theorem decodeRune_encodeRune {r : Nat} (h1 : r ≤ 0x10FFFF) (h2 : ¬(0xD800 ≤ r ∧ r ≤ 0xDFFF)) (rest : List Nat) :
    decodeRune (encodeRune r ++ rest) = some (r, (encodeRune r).length) := by
  have isCont_add : ∀ {d : Nat}, d < 64 → isCont (0x80 + d) = true := fun h => (isCont_iff _).2 (by omega)
  -- a lead byte `K + a` fails every test `< N` of `decodeRune` with `N ≤ K`
  have not_add_lt : ∀ {K N : Nat} (a : Nat), N ≤ K → ¬K + a < N := fun a h => by omega
  rw [encodeRune_of_scalar h1 h2]
  by_cases c1 : r < 0x80
  · rw [if_pos c1]; exact if_pos c1
  rw [if_neg c1]
  -- in each class name the base-64 digits of r, so that only linear facts about them remain
  have d0 := Nat.mod_lt r (by decide : 0 < 64)
  by_cases c2 : r < 0x800
  · rw [if_pos c2]
    have hr : r = r / 64 * 64 + r % 64 := by omega
    generalize r / 64 = a at *; generalize r % 64 = d at *; subst hr
    show decodeRune (_ :: _ :: rest) = _
    rw [decodeRune, if_neg (not_add_lt a (by decide)), if_neg (by omega), if_pos (by omega), if_pos (isCont_add d0)]
    simp only [Nat.add_sub_cancel_left]; rfl
  rw [if_neg c2]
  have d1 := Nat.mod_lt (r / 64) (by decide : 0 < 64)
  by_cases c3 : r < 0x10000
  · rw [if_pos c3]
    have hr : r = r / 4096 * 4096 + r / 64 % 64 * 64 + r % 64 := by omega
    generalize r / 4096 = a at *; generalize r / 64 % 64 = e at *; generalize r % 64 = d at *; subst hr
    show decodeRune (_ :: _ :: _ :: rest) = _
    rw [decodeRune, if_neg (not_add_lt a (by decide)), if_neg (not_add_lt a (by decide)), if_neg (not_add_lt a (by decide)),
      if_pos (by omega)]
    dsimp only
    rw [if_pos ⟨by split <;> omega, by split <;> omega, isCont_add d0⟩]
    simp only [Nat.add_sub_cancel_left]; rfl
  rw [if_neg c3]
  have d2 := Nat.mod_lt (r / 4096) (by decide : 0 < 64)
  have hr : r = r / 262144 * 262144 + r / 4096 % 64 * 4096 + r / 64 % 64 * 64 + r % 64 := by omega
  generalize r / 262144 = a at *; generalize r / 4096 % 64 = f at *; generalize r / 64 % 64 = e at *
  generalize r % 64 = d at *; subst hr
  show decodeRune (_ :: _ :: _ :: _ :: rest) = _
  rw [decodeRune, if_neg (not_add_lt a (by decide)), if_neg (not_add_lt a (by decide)), if_neg (not_add_lt a (by decide)),
    if_neg (not_add_lt a (by decide)), if_pos (by omega)]
  dsimp only
  rw [if_pos ⟨by split <;> omega, by split <;> omega, isCont_add d1, isCont_add d0⟩]
  simp only [Nat.add_sub_cancel_left]; rfl

theorem utf16Encode_cons (r : Nat) (rs : List Nat) : utf16Encode (r :: rs) = utf16Encode [r] ++ utf16Encode rs := by
  simp only [utf16Encode, List.flatMap_cons, List.flatMap_nil, List.append_nil]

theorem utf16Encode_singleton {r : Nat} (h1 : r ≤ 0x10FFFF) (h2 : ¬(0xD800 ≤ r ∧ r ≤ 0xDFFF)) :
    utf16Encode [r] =
      if r < 0x10000 then [r] else [0xD800 + (r - 0x10000) / 1024, 0xDC00 + (r - 0x10000) % 1024] := by
  have hn : ¬((0xD800 ≤ r ∧ r ≤ 0xDFFF) ∨ r > 0x10FFFF) := by omega
  simp only [utf16Encode, List.flatMap_cons, List.flatMap_nil, List.append_nil, if_neg hn]

theorem utf16Encode_lt (rs : List Nat) : ∀ u ∈ utf16Encode rs, u < 0x10000 := by
  intro u hu
  obtain ⟨r, -, hr⟩ := List.mem_flatMap.1 hu
  split at hr
  · rw [List.mem_singleton.1 hr]; decide
  · split at hr <;> simp only [List.mem_cons, List.not_mem_nil, or_false] at hr <;> omega

theorem decodeRune_ascii (c : Nat) (r : List Nat) (h : c < 0x80) : decodeRune (c :: r) = some (c, 1) := by
  unfold decodeRune
  exact if_pos h

theorem encodeRunes_cons (r : Nat) (rs : List Nat) : encodeRunes (r :: rs) = encodeRune r ++ encodeRunes rs :=
  List.flatMap_cons

/-- the UTF-8 round trip on a whole string of scalar values -/
theorem decodeRunes_encodeRunes (rs : List Nat) (h : ∀ r ∈ rs, r ≤ 0x10FFFF ∧ ¬(0xD800 ≤ r ∧ r ≤ 0xDFFF)) :
    decodeRunes (encodeRunes rs) = rs := by
  -- any fuel that covers the bytes will do
  suffices ∀ fuel, (encodeRunes rs).length ≤ fuel → decodeRunesAux fuel (encodeRunes rs) = rs from
    this _ (Nat.le_refl _)
  induction rs with
  | nil => intro fuel _; cases fuel <;> simp [encodeRunes, decodeRunesAux, decodeRune]
  | cons r rs ih =>
    intro fuel hf
    rw [encodeRunes_cons] at hf ⊢
    have hl := encodeRune_length_pos r
    simp only [List.length_append] at hf
    cases fuel with
    | zero => omega
    | succ f =>
      simp only [decodeRunesAux]
      rw [decodeRune_encodeRune (h r (by simp)).1 (h r (by simp)).2]
      simp only [List.drop_left]
      rw [ih (fun x hx => h x (by simp [hx])) f (by omega)]

theorem encodeRunes_ascii : ∀ s : List Nat, (∀ c ∈ s, c < 0x80) → encodeRunes s = s
  | [], _ => rfl
  | c :: r, h => by
    rw [encodeRunes_cons, encodeRune_ascii (h c List.mem_cons_self),
      encodeRunes_ascii r fun x hx => h x (List.mem_cons_of_mem _ hx)]
    rfl

theorem decodeRunesAux_ascii : ∀ (bs : List Nat) (fuel : Nat), (∀ b ∈ bs, b < 0x80) → bs.length ≤ fuel →
    decodeRunesAux fuel bs = bs
  | [], fuel, _, _ => by cases fuel <;> simp [decodeRunesAux, decodeRune]
  | b :: bs, 0, _, hl => by simp at hl
  | b :: bs, f + 1, ha, hl => by
    simp only [decodeRunesAux, decodeRune_ascii b bs (ha b List.mem_cons_self), List.drop_one, List.tail_cons]
    rw [decodeRunesAux_ascii bs f (fun x hx => ha x (List.mem_cons_of_mem _ hx)) (by simpa using hl)]

theorem decodeRunes_ascii (bs : List Nat) (h : ∀ b ∈ bs, b < 0x80) : decodeRunes bs = bs :=
  decodeRunesAux_ascii bs _ h (Nat.le_refl _)

theorem utf16Encode_ascii : ∀ rs : List Nat, (∀ r ∈ rs, r < 0x80) → utf16Encode rs = rs
  | [], _ => rfl
  | r :: rs, h => by
    have hr := h r List.mem_cons_self
    rw [utf16Encode_cons, utf16Encode_singleton (by omega) (by omega), if_pos (by omega),
      utf16Encode_ascii rs fun x hx => h x (List.mem_cons_of_mem _ hx)]
    rfl

theorem unitsOfBytes_ascii (bs : List Nat) (h : ∀ b ∈ bs, b < 0x80) : unitsOfBytes bs = bs := by
  rw [unitsOfBytes, decodeRunes_ascii bs h, utf16Encode_ascii bs h]

theorem utf16Decode_isEmpty (us : List Nat) : (utf16Decode us).isEmpty = us.isEmpty := by
  match us with
  | [] => rfl
  | [u] => simp only [utf16Decode]; split <;> rfl
  | u :: v :: rest => simp only [utf16Decode]; split <;> (try split) <;> rfl

theorem encodeRunes_isEmpty (rs : List Nat) : (encodeRunes rs).isEmpty = rs.isEmpty := by
  cases rs with
  | nil => rfl
  | cons r t =>
    have := encodeRune_length_pos r
    rw [encodeRunes_cons]
    cases h : encodeRune r with
    | nil => rw [h] at this; cases this
    | cons _ _ => rfl

/-- a code unit that is not a surrogate decodes to itself -/
theorem utf16Decode_cons_bmp (u : Nat) (hu : ¬(0xD800 ≤ u ∧ u ≤ 0xDFFF)) (rest : List Nat) :
    utf16Decode (u :: rest) = u :: utf16Decode rest := by
  cases rest with
  | nil => simp [utf16Decode]; omega
  | cons v rest' =>
    rw [utf16Decode]
    rw [if_neg (by omega), if_neg (by omega)]

end OttoVerif.Str
