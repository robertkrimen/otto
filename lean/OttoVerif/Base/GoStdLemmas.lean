/-
  Base/GoStdLemmas — strconv.ParseUint / ParseInt of Base/GoStd on a non-empty string of digits: the digit loop is a
  fold, and neither prefix, underscore nor sign interferes.  Shared by the numeric literals of C03, parseInt of C06
  and the array indices of C08.
-/
import OttoVerif.Base.GoStd
namespace OttoVerif.GoStd

theorem digitVal_digit (c : Nat) (h : 48 ≤ c ∧ c ≤ 57) : digitVal c = some (c - 48) := by
  simp [digitVal, isDigit, h]

/-- a fold whose step appends one digit of value `v c` in base `b` on every byte of `z` -/
theorem fold_digits (b : Nat) (v : Nat → Nat) (F : Option (Nat × Bool) → Nat → Option (Nat × Bool)) (z : List Nat)
    (hF : ∀ n, ∀ c ∈ z, F (some (n, false)) c = some (n * b + v c, false)) (n : Nat) :
    z.foldl F (some (n, false)) = some (z.foldl (fun n c => n * b + v c) n, false) := by
  induction z generalizing n with
  | nil => rfl
  | cons c t ih =>
    rw [List.foldl_cons, hF n c List.mem_cons_self, List.foldl_cons]
    exact ih (fun n x hx => hF n x (List.mem_cons_of_mem _ hx)) _

/-- strconv.ParseUint on a non-empty string of digits below the base `b`, the base given explicitly or (`b = 10`)
    left to the prefix, which a first byte other than `0` does not have -/
theorem parseUint_digits (b base : Nat) (hb : 2 ≤ b ∧ b ≤ 36) (v : Nat → Nat) (z : List Nat) (hne : z ≠ [])
    (hz : ∀ c ∈ z, digitVal c = some (v c) ∧ v c < b)
    (hbase : base = b ∨ (base = 0 ∧ b = 10 ∧ z.head? ≠ some 48)) :
    parseUint z base =
      if z.foldl (fun n c => n * b + v c) 0 ≥ 2 ^ 64 then .range else .ok (z.foldl (fun n c => n * b + v c) 0 : Nat) := by
  have hbr : ¬ (b < 2 ∨ b > 36) := by omega
  have hemp := List.isEmpty_eq_false_iff.mpr hne
  have hstep : ∀ (p : Prop) [Decidable p] (n : Nat), ∀ c ∈ z,
      (if c = ch '_' ∧ p then some (n, true)
        else match digitVal c with
          | none => none
          | some d => if d ≥ b then none else some (n * b + d, false)) = some (n * b + v c, false) := by
    intro p _ n c hc
    have hu : c ≠ ch '_' := fun h => by have := (hz c hc).1; rw [h, (by decide : digitVal (ch '_') = none)] at this; cases this
    rw [if_neg (fun h => hu h.1), (hz c hc).1]
    exact if_neg (by have := (hz c hc).2; omega)
  unfold parseUint
  simp only [hemp, Bool.false_eq_true, if_false]
  rcases hbase with rfl | ⟨rfl, rfl, h0⟩
  · have hb0 : ¬ base = 0 := by omega
    simp only [hb0, if_false, hbr]
    rw [fold_digits base v _ z (fun n c hc => hstep _ n c hc) 0]
    simp
  · obtain ⟨c, t, rfl⟩ := List.exists_cons_of_ne_nil hne
    have hc : c ≠ 48 := fun h => h0 (by rw [h]; rfl)
    simp only [if_true]
    split
    · rename_i heq; exact absurd (List.cons.inj heq).1 hc
    · dsimp only
      rw [if_neg (by decide), fold_digits 10 v _ _ (fun n x hx => hstep _ n x hx) 0]
      simp

/-- strconv.ParseInt on the same strings: no sign to strip, the bound is 2^63 -/
theorem parseInt_digits (b base : Nat) (hb : 2 ≤ b ∧ b ≤ 36) (v : Nat → Nat) (z : List Nat) (hne : z ≠ [])
    (hz : ∀ c ∈ z, digitVal c = some (v c) ∧ v c < b)
    (hbase : base = b ∨ (base = 0 ∧ b = 10 ∧ z.head? ≠ some 48)) :
    parseInt z base =
      if z.foldl (fun n c => n * b + v c) 0 ≥ 2 ^ 63 then .range else .ok (z.foldl (fun n c => n * b + v c) 0 : Nat) := by
  have hpu := parseUint_digits b base hb v z hne hz hbase
  obtain ⟨c, t, rfl⟩ := List.exists_cons_of_ne_nil hne
  have hd := (hz c List.mem_cons_self).1
  have hplus : c ≠ ch '+' := fun h => by
    rw [h, show digitVal (ch '+') = none by decide] at hd; cases hd
  have hminus : c ≠ ch '-' := fun h => by
    rw [h, show digitVal (ch '-') = none by decide] at hd; cases hd
  simp only [parseInt, List.isEmpty_cons, Bool.false_eq_true, if_false, hplus, hminus, hpu]
  generalize List.foldl (fun n c => n * b + v c) 0 (c :: t) = w
  by_cases h64 : w ≥ 2 ^ 64
  · have h63 : w ≥ 2 ^ 63 := by omega
    simp [h64, h63]
  · by_cases h63 : w ≥ 2 ^ 63
    · simp [h64, h63]; omega
    · simp [h64, h63]; omega

end OttoVerif.GoStd
