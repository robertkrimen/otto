/-
  Base/F64Lemmas — comparison in Base/F64: `cmpReal` on two finite values compares the significands aligned
  to the smaller exponent (`alignInt`) or to any exponent below both, and an aligned significand is zero exactly when
  the value is; SameValue on two doubles.  Then integers as doubles: `ofInt` below 2^53, `truncInt` of a signed
  magnitude, and what `roundPos` does to an integer.
-/
import OttoVerif.Base.F64
namespace OttoVerif.F64

theorem cmpReal_isNone (x y : FV) : (cmpReal x y).isNone = (isNaN x || isNaN y) := by
  cases x <;> cases y <;> rfl

theorem eqNum_true_not_nan (x y : FV) (h : eqNum x y = true) : isNaN x = false ∧ isNaN y = false := by
  have hn := cmpReal_isNone x y
  rw [of_decide_eq_true h] at hn
  exact Bool.or_eq_false_iff.1 hn.symm

theorem cmpReal_self (x : FV) (h : isNaN x = false) : cmpReal x x = some .eq := by
  cases x with
  | nan => cases h
  | inf s => simp [cmpReal]
  | fin s m e => simp [cmpReal]

theorem eqNum_self (x : FV) (h : isNaN x = false) : eqNum x x = true :=
  decide_eq_true (cmpReal_self x h)

/-- `eqNum` is already false on a NaN: a NaN test in front of it changes nothing -/
theorem eqNum_nan_guard (x y : FV) : (if isNaN x || isNaN y then false else eqNum x y) = eqNum x y := by
  cases x <;> cases y <;> rfl

theorem isZero_fin (s : Bool) (m : Nat) (e : Int) : isZero (.fin s m e) = decide (m = 0) := by
  cases m <;> rfl

theorem alignInt_sign (s : Bool) (m : Nat) (e k : Int) :
    (0 < alignInt s m e k ↔ s = false ∧ m ≠ 0) ∧ (alignInt s m e k < 0 ↔ s = true ∧ m ≠ 0) ∧
    (alignInt s m e k = 0 ↔ m = 0) := by
  have hk : 0 < 2 ^ (e - k).toNat := Nat.pow_pos (by decide)
  have hv : m * 2 ^ (e - k).toNat = 0 ↔ m = 0 := by rw [Nat.mul_eq_zero]; omega
  unfold alignInt
  generalize m * 2 ^ (e - k).toNat = v at hv
  cases s <;> simp <;> omega

theorem alignInt_pos (s : Bool) (m : Nat) (e k : Int) : 0 < alignInt s m e k ↔ s = false ∧ m ≠ 0 :=
  (alignInt_sign s m e k).1

theorem alignInt_neg (s : Bool) (m : Nat) (e k : Int) : alignInt s m e k < 0 ↔ s = true ∧ m ≠ 0 :=
  (alignInt_sign s m e k).2.1

theorem alignInt_eq_zero (s : Bool) (m : Nat) (e k : Int) : alignInt s m e k = 0 ↔ m = 0 :=
  (alignInt_sign s m e k).2.2

theorem alignInt_zero (s : Bool) (e k : Int) : alignInt s 0 e k = 0 := (alignInt_eq_zero s 0 e k).2 rfl

theorem alignInt_shift (s : Bool) (m : Nat) (e k j : Int) (hk : k ≤ j) (hj : j ≤ e) :
    alignInt s m e k = alignInt s m e j * ((2 ^ (j - k).toNat : Nat) : Int) := by
  have h : (e - k).toNat = (e - j).toNat + (j - k).toNat := by
    rw [← Int.toNat_add (Int.sub_nonneg.2 hj) (Int.sub_nonneg.2 hk)]; congr 1; omega
  unfold alignInt
  rw [h, Nat.pow_add, ← Nat.mul_assoc, Int.natCast_mul]
  cases s
  · rfl
  · exact (Int.neg_mul _ _).symm

theorem alignInt_int (s : Bool) (m : Nat) (e : Int) (he : 0 ≤ e) : alignInt s m e 0 = truncInt (.fin s m e) := by
  simp [alignInt, truncInt, truncAbs, he]

theorem ite_le_comm (e f : Int) : (if f ≤ e then f else e) = (if e ≤ f then e else f) := by
  split <;> split <;> omega

/-- the three order tests read off a three-way comparison of integers -/
theorem cmp_int {x y : FV} {a b : Int}
    (h : cmpReal x y = some (if a < b then .lt else if a = b then .eq else .gt)) :
    lt x y = decide (a < b) ∧ le x y = decide (a ≤ b) ∧ eqNum x y = decide (a = b) := by
  simp only [lt, le, eqNum, h]
  by_cases h1 : a < b
  · have : ¬ a = b := by omega
    have : a ≤ b := by omega
    simp [*]
  · by_cases h2 : a = b
    · have : a ≤ b := by omega
      simp [*]
    · have : ¬ a ≤ b := by omega
      simp [*]

theorem lt_fin (s t : Bool) (m n : Nat) (e f : Int) :
    lt (.fin s m e) (.fin t n f) = decide (alignInt s m e (if e ≤ f then e else f) < alignInt t n f (if e ≤ f then e else f)) :=
  (cmp_int rfl).1

theorem le_fin (s t : Bool) (m n : Nat) (e f : Int) :
    le (.fin s m e) (.fin t n f) = decide (alignInt s m e (if e ≤ f then e else f) ≤ alignInt t n f (if e ≤ f then e else f)) :=
  (cmp_int rfl).2.1

theorem eqNum_fin (s t : Bool) (m n : Nat) (e f : Int) :
    eqNum (.fin s m e) (.fin t n f) = decide (alignInt s m e (if e ≤ f then e else f) = alignInt t n f (if e ≤ f then e else f)) :=
  (cmp_int rfl).2.2

/-- `cmpReal` aligns at the smaller exponent; aligning at any `k` below both gives the same answer -/
theorem cmpReal_fin_at (s1 s2 : Bool) (m1 m2 : Nat) (e1 e2 k : Int) (h1 : k ≤ e1) (h2 : k ≤ e2) :
    cmpReal (.fin s1 m1 e1) (.fin s2 m2 e2) =
      some (if alignInt s1 m1 e1 k < alignInt s2 m2 e2 k then .lt
        else if alignInt s1 m1 e1 k = alignInt s2 m2 e2 k then .eq else .gt) := by
  have hj : k ≤ (if e1 ≤ e2 then e1 else e2) ∧ (if e1 ≤ e2 then e1 else e2) ≤ e1 ∧ (if e1 ≤ e2 then e1 else e2) ≤ e2 := by
    split <;> omega
  generalize hJ : (if e1 ≤ e2 then e1 else e2) = j at hj
  have hK : (0 : Int) < ((2 ^ (j - k).toNat : Nat) : Int) := by have := Nat.two_pow_pos (j - k).toNat; omega
  rw [alignInt_shift s1 m1 e1 k j hj.1 hj.2.1, alignInt_shift s2 m2 e2 k j hj.1 hj.2.2]
  simp only [cmpReal, hJ, Int.mul_lt_mul_right hK, Int.mul_eq_mul_right_iff (Int.ne_of_gt hK)]

/-- two doubles with non-negative exponents are integers and are compared as such -/
theorem cmpReal_int (s1 s2 : Bool) (m1 m2 : Nat) (e1 e2 : Int) (h1 : 0 ≤ e1) (h2 : 0 ≤ e2) :
    cmpReal (.fin s1 m1 e1) (.fin s2 m2 e2) =
      some (if truncInt (.fin s1 m1 e1) < truncInt (.fin s2 m2 e2) then .lt
        else if truncInt (.fin s1 m1 e1) = truncInt (.fin s2 m2 e2) then .eq else .gt) := by
  rw [cmpReal_fin_at s1 s2 m1 m2 e1 e2 0 h1 h2, alignInt_int _ _ _ h1, alignInt_int _ _ _ h2]

theorem eqNum_comm (x y : FV) : eqNum x y = eqNum y x := by
  cases x with
  | nan => cases y <;> rfl
  | inf s => cases y with
    | nan => rfl
    | inf t => cases s <;> cases t <;> rfl
    | fin t n f => cases s <;> rfl
  | fin s m e => cases y with
    | nan => rfl
    | inf t => cases t <;> rfl
    | fin t n f =>
      rw [eqNum_fin, eqNum_fin, ite_le_comm e f]
      exact decide_eq_decide.2 eq_comm

theorem lt_zero_fin (s : Bool) (m : Nat) (e : Int) : lt (.fin false 0 0) (.fin s m e) = (!s && decide (m ≠ 0)) := by
  simp only [lt_fin, alignInt_zero, alignInt_pos]
  cases s <;> simp

theorem lt_fin_zero (s : Bool) (m : Nat) (e : Int) : lt (.fin s m e) (.fin false 0 0) = (s && decide (m ≠ 0)) := by
  simp only [lt_fin, alignInt_zero, alignInt_neg]
  cases s <;> simp

theorem lt_asymm (x y : FV) (h : lt x y = true) : lt y x = false := by
  cases x with
  | nan => cases h
  | inf s =>
    cases y with
    | nan => cases h
    | inf t => cases s <;> cases t <;> first | rfl | cases h
    | fin t n f => cases s <;> first | rfl | cases h
  | fin s m e =>
    cases y with
    | nan => cases h
    | inf t => cases t <;> first | rfl | cases h
    | fin t n f =>
      rw [lt_fin] at h ⊢
      rw [ite_le_comm e f]
      have := of_decide_eq_true h
      exact decide_eq_false (by omega)

theorem eqNum_of_isZero {a b : FV} (ha : isZero a = true) (hb : isZero b = true) : eqNum a b = true := by
  cases a <;> cases b <;> first | cases ha | cases hb | skip
  rw [isZero_fin] at ha hb
  rw [of_decide_eq_true ha, of_decide_eq_true hb, eqNum_fin, alignInt_zero, alignInt_zero]
  rfl

theorem lt_of_isZero {x y : FV} (hx : isZero x = true) (hy : isZero y = true) : lt x y = false := by
  have h := eqNum_of_isZero hx hy
  unfold eqNum at h
  unfold lt
  rw [of_decide_eq_true h]; rfl

theorem isZero_eq_of_eqNum {a b : FV} (h : eqNum a b = true) : isZero a = isZero b := by
  cases a with
  | nan => cases h
  | inf s =>
    cases b with
    | nan => cases h
    | inf t => rfl
    | fin t n f => cases s <;> cases h
  | fin s m e =>
    cases b with
    | nan => cases h
    | inf t => cases t <;> cases h
    | fin t n f =>
      rw [eqNum_fin] at h
      rw [isZero_fin, isZero_fin]
      refine decide_eq_decide.2 ?_
      rw [← alignInt_eq_zero s m e (if e ≤ f then e else f), of_decide_eq_true h, alignInt_eq_zero]

/-- SameValue on two doubles: otto asks "equal, and if zero the same sign", §9.12 "both zero with the same sign, or
    equal"; they agree because a zero equals exactly the zeros -/
theorem sameValue_num (a b : FV) :
    (if isNaN a && isNaN b then true
     else if eqNum a b then (if isZero a then signBit a == signBit b else true) else false) =
    (if isNaN a ∧ isNaN b then true
     else if isZero a ∧ isZero b then decide (signBit a = signBit b) else eqNum a b) := by
  by_cases he : eqNum a b = true
  · have hz := isZero_eq_of_eqNum he
    cases hb : isZero b <;> simp [he, hz, hb, Bool.beq_eq_decide_eq]
  · have hz : ¬(isZero a = true ∧ isZero b = true) := fun h => he (eqNum_of_isZero h.1 h.2)
    simp [he, hz]

theorem truncAbs_pos (m : Nat) (e : Int) (hm : m ≠ 0) (hi : isIntegral m e = true) : 0 < truncAbs m e := by
  simp only [isIntegral, truncAbs] at hi ⊢
  split
  · exact Nat.mul_pos (Nat.pos_of_ne_zero hm) (Nat.two_pow_pos _)
  · rename_i he
    simp only [he, if_false, decide_eq_true_eq] at hi
    exact Nat.div_pos (Nat.le_of_dvd (Nat.pos_of_ne_zero hm) (Nat.dvd_of_mod_eq_zero hi)) (Nat.two_pow_pos _)

theorem truncInt_nat (s : Bool) (m e : Nat) :
    truncInt (.fin s m (e : Int)) = if s then -((m * 2^e : Nat) : Int) else ((m * 2^e : Nat) : Int) := by
  simp [truncInt, truncAbs]

/-- an integer `i` written as sign and magnitude `q·2^k` denotes `i` -/
theorem truncInt_sign (i : Int) (q k : Nat) (h : q * 2^k = i.natAbs) :
    truncInt (.fin (decide (i < 0)) q (k : Int)) = i := by
  rw [truncInt_nat, h]
  by_cases hn : i < 0 <;> simp [hn] <;> omega

theorem truncInt_natAbs (i : Int) : truncInt (.fin (decide (i < 0)) i.natAbs 0) = i :=
  truncInt_sign i _ 0 (Nat.mul_one _)

/-- Go's `float64(i)` below 2^53 keeps `i` as it stands -/
theorem ofInt_of_small (i : Int) (h : i.natAbs < 2^53) : ofInt i = .fin (decide (i < 0)) i.natAbs 0 :=
  if_pos h

theorem truncInt_ofInt_small (i : Int) (h : i.natAbs < 2^53) : truncInt (ofInt i) = i := by
  rw [ofInt_of_small i h, truncInt_natAbs]

theorem divRNE_bounds (a b : Nat) : a / b ≤ divRNE a b ∧ divRNE a b ≤ a / b + 1 := by
  unfold divRNE
  dsimp only
  split
  · omega
  · split
    · omega
    · split <;> omega

/-- `roundPos` on an integer of `k + 53` bits: one division by `2^k`, and a carry out of the mantissa when that rounds
    up to `2^53` -/
theorem roundPos_int (n k : Nat) (hn : n ≠ 0) (hl : n.log2 = k + 52) :
    roundPos n 1 =
      if divRNE n (2^k) = 2^53 then (if (k : Int) + 1 > 971 then none else some (2^52, (k : Int) + 1))
      else if (k : Int) > 971 then none else some (divRNE n (2^k), (k : Int)) := by
  have hpow : 2 ^ (k + 52) ≤ n := hl ▸ Nat.log2_self_le hn
  have e0 : ((k + 52 : Nat) : Int) - ((0 : Nat) : Int) - 52 = (k : Int) := by omega
  have hk0 : (k : Int) ≥ 0 := by omega
  have hnlt : ¬ (n < 2^k * 2^52) := by rw [← Nat.pow_add]; omega
  have hk1 : ¬ ((k : Int) < -1074) := by omega
  unfold roundPos
  simp only [hl, show Nat.log2 1 = 0 by decide, e0, hk0, if_true, Int.toNat_natCast, Nat.one_mul, hnlt, decide_false,
    Bool.false_eq_true, if_false, hk1]
  split <;> rfl

/-- an integer of 54 bits or more keeps a mantissa of at least 2^52, at an exponent that does not fall below the one
    of its leading bit -/
theorem roundPos_int_ge (n : Nat) (hn : 2^53 ≤ n) (m : Nat) (e : Int) (h : roundPos n 1 = some (m, e)) :
    2^52 ≤ m ∧ (n.log2 : Int) ≤ e + 52 := by
  have hn0 : n ≠ 0 := by omega
  have hL : 53 ≤ n.log2 := (Nat.le_log2 hn0).2 hn
  obtain ⟨k, hk⟩ : ∃ k, n.log2 = k + 52 := ⟨n.log2 - 52, by omega⟩
  rw [roundPos_int n k hn0 hk] at h
  have hm0 : 2 ^ 52 ≤ divRNE n (2 ^ k) := by
    refine Nat.le_trans ?_ (divRNE_bounds _ _).1
    rw [Nat.le_div_iff_mul_le (Nat.pow_pos (by decide)), ← Nat.pow_add, show 52 + k = k + 52 by omega, ← hk]
    exact Nat.log2_self_le hn0
  generalize divRNE n (2 ^ k) = m0 at *
  -- with or without the carry out of the mantissa
  split at h <;> split at h <;>
    simp only [Option.some.injEq, Prod.mk.injEq, reduceCtorEq] at h <;> obtain ⟨rfl, rfl⟩ := h <;> constructor <;> omega

end OttoVerif.F64
