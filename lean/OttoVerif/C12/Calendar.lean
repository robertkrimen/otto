/-
  C12/Calendar.  Go's package time computes the ES5 calendar, over unbounded integers.  ES5 §15.9.1 rests on two facts:
  `yft_bounds` (YearFromTime t is the year whose days contain Day t) and `monthOf_interval` (the month table read as
  intervals); Go's absDate, daysSinceEpoch, norm, Date and Unix are brought to the same two.  What the rest of C12 uses:
  `newEcmaTime_state` (Go's seven getters at the time value t are the ES5 fields of t), `make_compose_ms` (time.Date puts
  seven fields together like MakeDate(MakeDay, MakeTime)) and the three round trips.
-/
import OttoVerif.C12.Spec
import OttoVerif.C12.Model
namespace OttoVerif.C12.Lem
open OttoVerif.C12

section Cal
open OttoVerif.C12.Spec

theorem dayFromYear_step (y : Int) : DayFromYear (y + 1) - DayFromYear y = DaysInYear y := by
  unfold DayFromYear DaysInYear; omega

theorem daysInYear_cases (y : Int) : DaysInYear y = 365 ∨ DaysInYear y = 366 := by
  unfold DaysInYear; omega

theorem daysInYear_emod (y : Int) : DaysInYear (y % 400) = DaysInYear y := by
  unfold DaysInYear
  rw [Int.emod_emod_of_dvd y (by decide : (4 : Int) ∣ 400), Int.emod_emod_of_dvd y (by decide : (100 : Int) ∣ 400),
    Int.emod_emod]

theorem dayFromYear_lt (y y' : Int) (h : y < y') : DayFromYear y < DayFromYear y' := by
  unfold DayFromYear; omega

theorem dayFromYear_lt_iff (y y' : Int) : DayFromYear y < DayFromYear y' ↔ y < y' := by
  refine ⟨fun h => ?_, dayFromYear_lt y y'⟩
  rcases Int.lt_trichotomy y y' with hc | rfl | hc
  · exact hc
  · omega
  · have := dayFromYear_lt y' y hc; omega

/-- a day lies in one year -/
theorem year_bracket_unique (d y y' : Int) (h1 : DayFromYear y ≤ d) (h2 : d < DayFromYear (y + 1))
    (h1' : DayFromYear y' ≤ d) (h2' : d < DayFromYear (y' + 1)) : y = y' := by
  have := (dayFromYear_lt_iff y (y' + 1)).1 (by omega)
  have := (dayFromYear_lt_iff y' (y + 1)).1 (by omega)
  omega

theorem dfy_era (e k : Int) : DayFromYear (2000 + 400 * e + k) =
    10957 + 146097 * e + (365 * k + (k + 3) / 4 - (k + 99) / 100 + (k + 399) / 400) := by
  unfold DayFromYear; omega

theorem yft_bounds (t : Int) : DayFromYear (YearFromTime t) ≤ Day t ∧ Day t < DayFromYear (YearFromTime t + 1) := by
  unfold YearFromTime
  extract_lets d era r k startK k'
  rw [Int.add_assoc _ k' 1, dfy_era, dfy_era]
  clear_value (hk' : k' = _) (hs : startK = _) (hk : k = _) (hr : r = _) (he : era = _) (hd : d = _)
  -- the estimate k = r / 365 is the year within the era or one too large
  by_cases h : startK > r
  · rw [if_pos h] at hk'; subst hk'; rw [Int.sub_add_cancel]; omega
  · rw [if_neg h] at hk'; subst hk'; omega

theorem year_unique (t y : Int) (h1 : DayFromYear y ≤ Day t) (h2 : Day t < DayFromYear (y + 1)) : y = YearFromTime t :=
  year_bracket_unique _ _ _ h1 h2 (yft_bounds t).1 (yft_bounds t).2

theorem inLeapYear_01 (t : Int) : InLeapYear t = 0 ∨ InLeapYear t = 1 := by
  unfold InLeapYear; omega

theorem daysInYear_yearFromTime (t : Int) : DaysInYear (YearFromTime t) = 365 + InLeapYear t := by
  have := daysInYear_cases (YearFromTime t)
  unfold InLeapYear; omega

theorem dayWithinYear_range (t : Int) : 0 ≤ DayWithinYear t ∧ DayWithinYear t < 365 + InLeapYear t := by
  have hb := yft_bounds t
  have hs := dayFromYear_step (YearFromTime t)
  rw [daysInYear_yearFromTime] at hs
  unfold DayWithinYear; omega

def monthOf (d l : Int) : Int :=
  if d < 31 then 0 else if d < 59 + l then 1 else if d < 90 + l then 2 else if d < 120 + l then 3
  else if d < 151 + l then 4 else if d < 181 + l then 5 else if d < 212 + l then 6 else if d < 243 + l then 7
  else if d < 273 + l then 8 else if d < 304 + l then 9 else if d < 334 + l then 10 else 11

theorem monthFromTime_eq (t : Int) : MonthFromTime t = monthOf (DayWithinYear t) (InLeapYear t) := rfl

theorem monthOf_range (d l : Int) : 0 ≤ monthOf d l ∧ monthOf d l ≤ 11 := by
  unfold monthOf; omega

theorem monthFromTime_range (t : Int) : 0 ≤ MonthFromTime t ∧ MonthFromTime t ≤ 11 := monthOf_range _ _

theorem month_cases (m : Int) (hm : 0 ≤ m ∧ m ≤ 11) :
    m = 0 ∨ m = 1 ∨ m = 2 ∨ m = 3 ∨ m = 4 ∨ m = 5 ∨ m = 6 ∨ m = 7 ∨ m = 8 ∨ m = 9 ∨ m = 10 ∨ m = 11 := by omega

/-- days of a year before month `m` (0-based; `m = 12`: the whole year), `l` = 1 in a leap year: Go's table with the leap day
    counted from March on.  This is the month table every other presentation is referred to. -/
def daysBefore (m l : Int) : Int := goDaysBefore m + if 2 ≤ m then l else 0

theorem monthStart_eq_daysBefore (mn l : Int) (h : 0 ≤ mn ∧ mn ≤ 11) : monthStart mn l = daysBefore mn l := by
  rcases month_cases mn h with h | h | h | h | h | h | h | h | h | h | h | h <;> subst h <;> rfl

/-- where the months begin: month k within the k-th stretch of 31 days, March on day 59 -/
theorem goDaysBefore_est (k : Int) (hk : 0 ≤ k ∧ k ≤ 12) :
    31 * (k - 1) ≤ goDaysBefore k ∧ goDaysBefore k ≤ 31 * k ∧ (2 ≤ k → 59 ≤ goDaysBefore k) ∧ (k ≤ 2 → goDaysBefore k ≤ 59) := by
  obtain ⟨n, rfl⟩ : ∃ n : Fin 13, k = (n.val : Int) := ⟨⟨k.toNat, by omega⟩, (Int.toNat_of_nonneg hk.1).symm⟩
  revert n; decide

/-- how long the months are -/
theorem goDaysBefore_len (k : Int) (hk : 0 ≤ k ∧ k ≤ 11) :
    28 ≤ goDaysBefore (k + 1) - goDaysBefore k ∧ goDaysBefore (k + 1) - goDaysBefore k ≤ 31 ∧
      (k = 1 → goDaysBefore (k + 1) - goDaysBefore k = 28) := by
  obtain ⟨n, rfl⟩ : ∃ n : Fin 12, k = (n.val : Int) := ⟨⟨k.toNat, by omega⟩, (Int.toNat_of_nonneg hk.1).symm⟩
  revert n; decide

/-- ES5's if-chain puts a day into the interval of its month -/
theorem monthOf_interval (d l : Int) (hd : 0 ≤ d ∧ d < 365 + l) :
    daysBefore (monthOf d l) l ≤ d ∧ d < daysBefore (monthOf d l + 1) l := by
  unfold monthOf
  -- carry the claim into the branches: what remains is the month table, line by line
  simp only [apply_ite (fun m => daysBefore m l ≤ d ∧ d < daysBefore (m + 1) l)]
  have ite_or : ∀ (c : Prop) [Decidable c] (p q : Prop), (if c then p else q) ↔ (c ∧ p) ∨ (¬c ∧ q) := by
    intro c _ p q; by_cases h : c <;> simp [h]
  simp only [daysBefore, goDaysBefore, Int.reduceAdd, Int.reduceLE, ↓reduceIte, ite_or]
  omega

theorem dateFromTime_eq (t : Int) :
    DateFromTime t = DayWithinYear t - monthStart (MonthFromTime t) (InLeapYear t) + 1 := by
  unfold DateFromTime
  rcases month_cases _ (monthFromTime_range t) with h | h | h | h | h | h | h | h | h | h | h | h <;>
    simp only [h, monthStart] <;> omega

theorem dateFromTime_range (t : Int) : 1 ≤ DateFromTime t ∧
    DateFromTime t ≤ daysBefore (MonthFromTime t + 1) (InLeapYear t) - daysBefore (MonthFromTime t) (InLeapYear t) := by
  have := monthOf_interval _ _ (dayWithinYear_range t)
  rw [dateFromTime_eq, monthStart_eq_daysBefore _ _ (monthFromTime_range t), monthFromTime_eq]; omega

/-- absDate in a common year finds the month of every day of the month's interval -/
theorem goMonthDay_common (m d : Int) (hm : 0 ≤ m ∧ m ≤ 11) (h0 : goDaysBefore m ≤ d) (h1 : d < goDaysBefore (m + 1)) :
    goMonthDay false d = (m + 1, d - goDaysBefore m + 1) := by
  have e0 := (goDaysBefore_est m (by omega)).1
  have e1 := (goDaysBefore_est (m + 1) (by omega)).2.1
  -- month m begins on day 31 (m - 1) or later and ends before day 31 (m + 1), so the estimate d / 31 is m or m - 1;
  -- absDate's comparison of d with the beginning of the month after the estimate tells which
  have hk : d / 31 = m ∨ d / 31 = m - 1 := by omega
  unfold goMonthDay
  simp only [Bool.false_and, Bool.false_eq_true, if_false]
  rcases hk with hk | hk <;> rw [hk]
  · rw [if_neg (by omega)]
  · rw [Int.sub_add_cancel, if_pos (by omega)]; congr 1; omega

/-- absDate in a leap year: day 59 is 29 February, and the days after it are those of a common year shifted by one -/
theorem goMonthDay_leap (d : Int) :
    goMonthDay true d = if d = 59 then (2, 29) else if d > 59 then goMonthDay false (d - 1) else goMonthDay false d := by
  unfold goMonthDay
  simp only [Bool.true_and, decide_eq_true_eq, Bool.false_and, Bool.false_eq_true, if_false]
  split
  · rfl
  · split <;> rfl

theorem goMonthDay_of_interval (m d l : Int) (hl : l = 0 ∨ l = 1) (hm : 0 ≤ m ∧ m ≤ 11)
    (h0 : daysBefore m l ≤ d) (h1 : d < daysBefore (m + 1) l) :
    goMonthDay (decide (l = 1)) d = (m + 1, d - daysBefore m l + 1) := by
  unfold daysBefore at *
  obtain ⟨_, b0, c0, _⟩ := goDaysBefore_est m (by omega)
  obtain ⟨_, b1, c1, d1⟩ := goDaysBefore_est (m + 1) (by omega)
  rcases hl with rfl | rfl
  · simp only [Int.reduceEq, decide_false, ite_self, Int.add_zero] at *
    exact goMonthDay_common m d hm h0 h1
  · -- the leap day moves the months from March on, which begin on day 59 or later, and no month before them
    simp only [decide_true, goMonthDay_leap]
    by_cases h59 : d = 59
    · obtain rfl : m = 1 := by omega
      rw [if_pos h59, h59]; rfl
    · rw [if_neg h59]
      split
      · rw [goMonthDay_common m _ hm (by omega) (by omega)]; congr 1; omega
      · rw [goMonthDay_common m _ hm (by omega) (by omega)]; congr 1; omega

theorem goMonthDay_eq (d l : Int) (hl : l = 0 ∨ l = 1) (h0 : 0 ≤ d) (h1 : d < 365 + l) :
    goMonthDay (decide (l = 1)) d = (monthOf d l + 1, d - monthStart (monthOf d l) l + 1) := by
  rw [monthStart_eq_daysBefore _ _ (monthOf_range d l)]
  exact goMonthDay_of_interval _ d l hl (monthOf_range d l) (monthOf_interval d l ⟨h0, h1⟩).1 (monthOf_interval d l ⟨h0, h1⟩).2

/-- absDate finds the month from any interval that holds the day, so only one does -/
theorem monthOf_unique (m d l : Int) (hl : l = 0 ∨ l = 1) (hm : 0 ≤ m ∧ m ≤ 11) (hd : 0 ≤ d ∧ d < 365 + l)
    (h0 : daysBefore m l ≤ d) (h1 : d < daysBefore (m + 1) l) : monthOf d l = m := by
  have h := goMonthDay_eq d l hl hd.1 hd.2
  rw [goMonthDay_of_interval m d l hl hm h0 h1] at h
  have := congrArg Prod.fst h
  simp only [] at this
  omega

theorem monthStart_range (mn l : Int) (hl : 0 ≤ l ∧ l ≤ 1) : 0 ≤ monthStart mn l ∧ monthStart mn l < 365 := by
  unfold monthStart; split <;> omega

theorem monthOf_monthStart (mn l : Int) (hm : 0 ≤ mn ∧ mn ≤ 11) (hl : 0 ≤ l ∧ l ≤ 1) :
    monthOf (monthStart mn l) l = mn := by
  have hr := monthStart_range mn l hl
  have := (goDaysBefore_len mn hm).1
  rw [monthStart_eq_daysBefore mn l hm] at hr ⊢
  refine monthOf_unique mn _ l (by omega) hm ⟨hr.1, by omega⟩ (Int.le_refl _) ?_
  unfold daysBefore; omega

theorem goMod_eq_zero (a b : Int) : goMod a b = 0 ↔ a % b = 0 := by
  unfold goMod goDiv
  split
  · rw [← Int.emod_def]
  · rw [Int.mul_neg, Int.sub_neg, ← Int.dvd_iff_emod_eq_zero, ← Int.dvd_neg (b := a), Int.dvd_iff_emod_eq_zero, Int.emod_def]
    omega

theorem goMod_emod (a b : Int) : goMod a b % b = a % b := Int.sub_mul_emod_self_left a b (goDiv a b)

theorem goIsLeap_eq (y : Int) : goIsLeap y = decide (DaysInYear y = 366) := by
  rw [Bool.eq_iff_iff]
  unfold goIsLeap DaysInYear
  simp only [beq_iff_eq, bne_iff_ne, goMod_eq_zero, Bool.and_eq_true, Bool.or_eq_true, decide_eq_true_eq, ne_eq]
  omega

/-- dateParse moves an expanded year into the 400-year cycle from 2000; the leap rule does not see it -/
theorem isLeap_cycle (y : Int) : goIsLeap (2000 + goMod (goMod y 400 + 400) 400) = goIsLeap y := by
  have h1 := goMod_emod y 400
  have h2 := goMod_emod (goMod y 400 + 400) 400
  have e : (2000 + goMod (goMod y 400 + 400) 400) % 400 = y % 400 := by omega
  rw [goIsLeap_eq, goIsLeap_eq, ← daysInYear_emod, e, daysInYear_emod]

theorem isLeap_flag (t : Int) : goIsLeap (YearFromTime t) = decide (InLeapYear t = 1) := by
  rw [goIsLeap_eq, daysInYear_yearFromTime]
  exact decide_eq_decide.2 (by omega)

/-- 106751991073094 days lie between 1 January of `absoluteZeroYear` and 1 January 1970 -/
theorem goDaysSinceEpoch_eq (y : Int) : goDaysSinceEpoch y = DayFromYear y + 106751991073094 := by
  unfold goDaysSinceEpoch DayFromYear absoluteZeroYear
  simp only []
  omega

theorem dfy_digits (n a b c : Int) (ha : 0 ≤ a ∧ a ≤ 3) (hb : 0 ≤ b ∧ b ≤ 24) (hc : 0 ≤ c ∧ c ≤ 3) :
    DayFromYear (400 * n + 100 * a + 4 * b + c + absoluteZeroYear) =
      146097 * n + 36524 * a + 1461 * b + 365 * c - 106751991073094 := by
  -- Go counts years from absoluteZeroYear = 2001 - 400 * 730692561: its digits are an era coordinate of `dfy_era`
  have e : 400 * n + 100 * a + 4 * b + c + absoluteZeroYear =
      2000 + 400 * (n - 730692561) + (100 * a + 4 * b + c + 1) := by unfold absoluteZeroYear; omega
  rw [e, dfy_era]; omega

/-- the fourth year of a four-year cycle is leap, unless the cycle ends a century that does not end its 400 years -/
theorem leap_digits (n a b c : Int) (hb : 0 ≤ b ∧ b ≤ 24) (hc : c = 3) (h : b ≠ 24 ∨ a = 3) :
    DaysInYear (400 * n + 100 * a + 4 * b + c + absoluteZeroYear) = 366 := by
  unfold DaysInYear absoluteZeroYear
  omega

/-- absDate's cycle peeling written as mixed-radix digits of the day number -/
theorem goYearDay_digits (abs : Int) : ∃ n a b c yd : Int,
    goYearDay abs = (400 * n + 100 * a + 4 * b + c + absoluteZeroYear, yd) ∧
    (0 ≤ a ∧ a ≤ 3) ∧ (0 ≤ b ∧ b ≤ 24) ∧ (0 ≤ c ∧ c ≤ 3) ∧
    abs / 86400 = 146097 * n + 36524 * a + 1461 * b + 365 * c + yd ∧
    0 ≤ yd ∧ yd ≤ 365 ∧ (yd = 365 → c = 3 ∧ (b ≠ 24 ∨ a = 3)) := by
  unfold goYearDay
  simp only []
  generalize abs / 86400 = D
  -- every step keeps the range of its remainder and forgets the division it came from
  generalize hn : D / 146097 = n
  have h1 : 0 ≤ D - 146097 * n ∧ D - 146097 * n < 146097 := by omega
  clear hn
  generalize hd1 : D - 146097 * n = d1 at *
  generalize hq1 : d1 / 36524 = q1
  have ha : 0 ≤ q1 - q1 / 4 ∧ q1 - q1 / 4 ≤ 3 := by omega
  have h2 : 0 ≤ d1 - 36524 * (q1 - q1 / 4) ∧ d1 - 36524 * (q1 - q1 / 4) ≤ 36524 ∧ (d1 - 36524 * (q1 - q1 / 4) = 36524 → q1 - q1 / 4 = 3) := by omega
  clear hq1 h1
  generalize q1 - q1 / 4 = a at *
  generalize hd2 : d1 - 36524 * a = d2 at *
  generalize hb' : d2 / 1461 = b
  have hb : 0 ≤ b ∧ b ≤ 24 := by omega
  have h3 : 0 ≤ d2 - 1461 * b ∧ d2 - 1461 * b ≤ 1460 ∧ (d2 - 1461 * b = 1460 → (b ≠ 24 ∨ a = 3)) := by omega
  clear hb' h2
  generalize hd3 : d2 - 1461 * b = d3 at *
  generalize hq3 : d3 / 365 = q3
  have hc : 0 ≤ q3 - q3 / 4 ∧ q3 - q3 / 4 ≤ 3 := by omega
  have h4 : 0 ≤ d3 - 365 * (q3 - q3 / 4) ∧ d3 - 365 * (q3 - q3 / 4) ≤ 365 ∧ (d3 - 365 * (q3 - q3 / 4) = 365 → q3 - q3 / 4 = 3 ∧ d3 = 1460) := by omega
  clear hq3
  generalize q3 - q3 / 4 = c at *
  exact ⟨n, a, b, c, d3 - 365 * c, rfl, ha, hb, hc, by omega, h4.1, h4.2.1, fun h => by have := h4.2.2 h; omega⟩

/-- a Go absolute second count that lies on the same UTC day as time value t -/
def SameDay (abs t : Int) : Prop := abs / 86400 = Day t + 106751991073094

theorem goYearDay_eq (abs t : Int) (h : SameDay abs t) :
    goYearDay abs = (YearFromTime t, DayWithinYear t) := by
  obtain ⟨n, a, b, c, yd, he, ha, hb, hc, hD, hy0, hy1, hy2⟩ := goYearDay_digits abs
  have hg := dfy_digits n a b c ha hb hc
  have hl : yd = 365 → DaysInYear (400 * n + 100 * a + 4 * b + c + absoluteZeroYear) = 366 :=
    fun h => leap_digits n a b c hb (hy2 h).1 (hy2 h).2
  have hc' := daysInYear_cases (400 * n + 100 * a + 4 * b + c + absoluteZeroYear)
  have hstep := dayFromYear_step (400 * n + 100 * a + 4 * b + c + absoluteZeroYear)
  unfold SameDay at h
  have hy : 400 * n + 100 * a + 4 * b + c + absoluteZeroYear = YearFromTime t := by
    apply year_unique <;> omega
  rw [he]
  unfold DayWithinYear
  rw [← hy]
  congr 1
  omega

theorem goAbsDate_eq (abs t : Int) (h : SameDay abs t) :
    goAbsDate abs = (YearFromTime t, MonthFromTime t + 1, DateFromTime t) := by
  have hr := dayWithinYear_range t
  unfold goAbsDate
  rw [goYearDay_eq abs t h]
  simp only []
  rw [isLeap_flag, goMonthDay_eq _ _ (inLeapYear_01 t) hr.1 hr.2, dateFromTime_eq, monthFromTime_eq]

/-- Go's daysIn is the length of the month's interval -/
theorem goDaysIn_eq (m y : Int) (hm : 0 ≤ m ∧ m ≤ 11) :
    goDaysIn (m + 1) y =
      daysBefore (m + 1) (if DaysInYear y = 366 then 1 else 0) - daysBefore m (if DaysInYear y = 366 then 1 else 0) := by
  have h := (goDaysBefore_len m hm).2.2
  unfold goDaysIn daysBefore
  rw [goIsLeap_eq, Int.add_sub_cancel]
  by_cases h1 : m = 1
  · subst h1; have := h rfl
    simp only [Int.reduceAdd, ↓reduceIte, decide_eq_true_eq, Int.reduceLE] at this ⊢; split <;> omega
  · rw [if_neg (by omega)]; split <;> split <;> omega

theorem field_ranges (t : Int) :
    (0 ≤ Spec.MonthFromTime t ∧ Spec.MonthFromTime t ≤ 11) ∧ (1 ≤ Spec.DateFromTime t ∧ Spec.DateFromTime t ≤ 31) ∧
    (0 ≤ Spec.WeekDay t ∧ Spec.WeekDay t ≤ 6) ∧ (0 ≤ Spec.HourFromTime t ∧ Spec.HourFromTime t ≤ 23) ∧
    (0 ≤ Spec.MinFromTime t ∧ Spec.MinFromTime t ≤ 59) ∧ (0 ≤ Spec.SecFromTime t ∧ Spec.SecFromTime t ≤ 59) ∧
    (0 ≤ Spec.msFromTime t ∧ Spec.msFromTime t ≤ 999) := by
  refine ⟨monthFromTime_range t, ?_, ?_, ?_, ?_, ?_, ?_⟩
  · have hd := dateFromTime_range t
    obtain ⟨_, h31, hf⟩ := goDaysBefore_len _ (monthFromTime_range t)
    have hl := inLeapYear_01 t
    unfold daysBefore at hd; omega
  all_goals (simp only [Spec.WeekDay, Spec.HourFromTime, Spec.MinFromTime, Spec.SecFromTime, Spec.msFromTime]; omega)

theorem year_bound (t : Int) (h : t.natAbs ≤ 8640000000000000) :
    -271821 ≤ Spec.YearFromTime t ∧ Spec.YearFromTime t ≤ 275760 := by
  have hb := yft_bounds t
  have hd : -100000000 ≤ Spec.Day t ∧ Spec.Day t ≤ 100000000 := by unfold Spec.Day; omega
  have e1 : Spec.DayFromYear 275761 = 100000110 := by decide
  have e2 : Spec.DayFromYear (-271821) = -100000109 := by decide
  have := (dayFromYear_lt_iff (-271821) (YearFromTime t + 1)).1 (by omega)
  have := (dayFromYear_lt_iff (YearFromTime t) 275761).1 (by omega)
  omega

end Cal

def stateTime (t : Int) : GoTime := ⟨t / 1000, (t % 1000) * 1000000⟩

theorem sameDay_state (t : Int) : SameDay (goAbs (stateTime t)) t := by
  unfold SameDay goAbs stateTime Spec.Day; simp only []; omega

theorem goWeekday_state (t : Int) : goWeekday (stateTime t) = Spec.WeekDay t := by
  unfold goWeekday goAbs stateTime Spec.WeekDay Spec.Day; simp only []; omega
theorem goHour_state (t : Int) : goHour (stateTime t) = Spec.HourFromTime t := by
  unfold goHour goAbs stateTime Spec.HourFromTime; simp only []; omega
theorem goMinute_state (t : Int) : goMinute (stateTime t) = Spec.MinFromTime t := by
  unfold goMinute goAbs stateTime Spec.MinFromTime; simp only []; omega
theorem goSecond_state (t : Int) : goSecond (stateTime t) = Spec.SecFromTime t := by
  unfold goSecond goAbs stateTime Spec.SecFromTime; simp only []; omega
theorem goMilli_state (t : Int) : goDiv (stateTime t).nsec 1000000 = Spec.msFromTime t := by
  unfold goDiv stateTime Spec.msFromTime; simp only []; split <;> omega

theorem goDiv_of_nonneg (a b : Int) (h : 0 ≤ a) : goDiv a b = a / b := if_pos h

theorem goNorm_eq (hi lo b : Int) (hb : 0 < b) : goNorm hi lo b = (hi + lo / b, lo % b) := by
  unfold goNorm
  by_cases h : lo < 0
  · have hq := Int.mul_ediv_add_emod (-lo - 1) b
    have hr0 := Int.emod_nonneg (-lo - 1) (Int.ne_of_gt hb)
    have hr1 := Int.emod_lt_of_pos (-lo - 1) hb
    simp only [h, if_true, goDiv_of_nonneg (-lo - 1) b (by omega)]
    generalize (-lo - 1) / b = q at *
    generalize (-lo - 1) % b = r at *
    -- the borrowed amount is (q + 1) * b; bring the products to the one atom `b * q` that omega can carry
    have e1 : (q + 1) * b = b * q + b := by rw [Int.add_mul, Int.one_mul, Int.mul_comm]
    have e2 : b * -(q + 1) = -(b * q) - b := by rw [Int.mul_neg, Int.mul_add, Int.mul_one, Int.neg_add]; rfl
    rw [e1, if_neg (by omega)]
    obtain ⟨h1, h2⟩ := (Int.ediv_emod_unique hb).2
      ⟨(by rw [e2]; omega : lo + (b * q + b) + b * -(q + 1) = lo), by omega, by omega⟩
    rw [h1, h2]; congr 1
  · simp only [h, if_false]
    by_cases h2 : lo ≥ b
    · rw [if_pos h2, goDiv_of_nonneg lo b (by omega), Int.emod_def, Int.mul_comm]
    · rw [if_neg h2, Int.ediv_eq_zero_of_lt (by omega) (by omega), Int.emod_eq_of_lt (by omega) (by omega), Int.add_zero]

theorem leapFlag_eq (t : Int) : (if Spec.DaysInYear (Spec.YearFromTime t) = 366 then (1:Int) else 0) = Spec.InLeapYear t := rfl

theorem makeDay_roundtrip (t : Int) :
    Spec.MakeDay (Spec.YearFromTime t) (Spec.MonthFromTime t) (Spec.DateFromTime t) = Spec.Day t := by
  have hm := monthFromTime_range t
  unfold Spec.MakeDay
  have e1 : Spec.MonthFromTime t / 12 = 0 := by omega
  have e2 : Spec.MonthFromTime t % 12 = Spec.MonthFromTime t := by omega
  simp only [e1, e2, Int.add_zero, leapFlag_eq]
  rw [dateFromTime_eq]
  unfold Spec.DayWithinYear
  omega

theorem makeTime_roundtrip (t : Int) :
    Spec.MakeTime (Spec.HourFromTime t) (Spec.MinFromTime t) (Spec.SecFromTime t) (Spec.msFromTime t) = Spec.TimeWithinDay t := by
  unfold Spec.MakeTime Spec.HourFromTime Spec.MinFromTime Spec.SecFromTime Spec.msFromTime Spec.TimeWithinDay
  omega

theorem makeDate_roundtrip (t : Int) : Spec.MakeDate (Spec.Day t) (Spec.TimeWithinDay t) = t := by
  unfold Spec.MakeDate Spec.Day Spec.TimeWithinDay; omega

theorem make_compose (y m d h mi s ms : Int) :
    goUnixMilli (goDate y (m + 1) d h mi s (ms * 1000000)) =
      Spec.MakeDate (Spec.MakeDay y m d) (Spec.MakeTime h mi s ms) := by
  unfold goDate
  simp only [goNorm_eq _ _ 12 (by decide), goNorm_eq _ _ 60 (by decide), goNorm_eq _ _ 24 (by decide),
    goNorm_eq _ _ 1000000000 (by decide), Int.add_sub_cancel]
  unfold goUnixMilli Spec.MakeDate Spec.MakeDay Spec.MakeTime absToUnix
  simp only [goDaysSinceEpoch_eq, goIsLeap_eq, monthStart_eq_daysBefore (m % 12) _ (by omega : 0 ≤ m % 12 ∧ m % 12 ≤ 11), daysBefore,
    Bool.and_eq_true, decide_eq_true_eq, goDiv_of_nonneg _ _ (Int.emod_nonneg _ (by decide : (1000000000 : Int) ≠ 0))]
  generalize Spec.DaysInYear (y + m / 12) = DIY
  generalize Spec.DayFromYear (y + m / 12) = DY
  -- Go adds the leap day to the running day count, ES5 to the start of the month; what is left is linear in the carries
  have hleap : ∀ x : Int, (if DIY = 366 ∧ m % 12 + 1 ≥ 3 then x + 1 else x) =
      x + if 2 ≤ m % 12 then (if DIY = 366 then 1 else 0) else 0 := by intro x; omega
  simp only [hleap]
  generalize (if 2 ≤ m % 12 then (if DIY = 366 then (1 : Int) else 0) else 0) = L
  generalize goDaysBefore (m % 12) = GB
  omega

theorem make_compose_ms (y m d h mi s ms : Int) :
    goUnixMilli (goDateMs y (m + 1) d h mi s ms) =
      Spec.MakeDate (Spec.MakeDay y m d) (Spec.MakeTime h mi s ms) := by
  unfold goDateMs
  rw [make_compose]
  unfold Spec.MakeDate Spec.MakeTime goMod
  generalize goDiv ms 1000 = q
  omega

def ecmaOf (t : Int) : EcmaTime :=
  { year := Spec.YearFromTime t, month := Spec.MonthFromTime t, day := Spec.DateFromTime t, hour := Spec.HourFromTime t,
    minute := Spec.MinFromTime t, second := Spec.SecFromTime t, millisecond := Spec.msFromTime t }

theorem newEcmaTime_state (t : Int) : newEcmaTime (stateTime t) = ecmaOf t := by
  have hd := goAbsDate_eq _ _ (sameDay_state t)
  simp [newEcmaTime, ecmaOf, goYear, goMonth, goDay, hd, goHour_state, goMinute_state, goSecond_state, goMilli_state]

theorem goUnix_state (t : Int) : goUnix (goDiv t 1000) (goMod t 1000 * 1000000) = stateTime t := by
  unfold goMod stateTime goUnix
  generalize hq : goDiv t 1000 = q
  unfold goDiv at hq
  by_cases hm : t - 1000 * q < 0
  · -- a negative remainder borrows one second
    have e : goDiv ((t - 1000 * q) * 1000000) 1000000000 = 0 := by unfold goDiv; omega
    rw [if_pos (by omega), e, if_pos (by omega)]
    congr 1 <;> omega
  · rw [if_neg (by omega)]
    congr 1 <;> omega

end OttoVerif.C12.Lem
