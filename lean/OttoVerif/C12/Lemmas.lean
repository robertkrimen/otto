/-
  C12/Lemmas.  How otto's Date object carries a time value, on top of C12/Calendar: integers as doubles (`fvInt`), TimeClip,
  the setters and their too-large guard, Date.UTC, ISO strings, fixed offsets.
-/
import OttoVerif.C12.Calendar
import OttoVerif.Base.F64Lemmas
namespace OttoVerif.C12.Lem
open OttoVerif.C12 OttoVerif.F64

def validState (t : Int) : DateObj := { time := stateTime t, value := some t, epoch := t, isNaN := false }

def toSpec : Setter → Spec.Setter
  | .ms => .ms | .sec => .sec | .min => .min | .hour => .hour | .date => .date | .month => .month | .year => .year | .time => .time

/-- an integer as an (un-normalised) double view; equals `ofInt i` below 2^53 -/
def fvInt (i : Int) : FV := .fin (decide (i < 0)) i.natAbs 0

theorem truncInt_fvInt (i : Int) : truncInt (fvInt i) = i := truncInt_natAbs i

theorem field_fvInt (i : Int) : Spec.field? (fvInt i) = some i := congrArg some (truncInt_fvInt i)

theorem setter_core (k : Setter) (t : Int) (vs : List Int) (hk : k ≠ .time) (h1 : 1 ≤ vs.length) (h2 : vs.length ≤ k.limit) :
    some (setCoreU k (stateTime t) vs) = Spec.setUTCRaw (toSpec k) (some t) (vs.map fvInt) := by
  have hD := makeDay_roundtrip t
  have hT := makeTime_roundtrip t
  rcases vs with _ | ⟨a, _ | ⟨b, _ | ⟨c, _ | ⟨d, _ | ⟨e, rest⟩⟩⟩⟩⟩ <;> cases k <;>
    simp [Setter.limit] at h1 h2 hk <;>
    simp [setCoreU, applySetter, newEcmaTime_state, ecmaOf, EcmaTime.goTimeCore, make_compose_ms, toSpec, Spec.setUTCRaw, Spec.argOr, field_fvInt, hD, hT]

/-- the float division in epochToTime is exact enough: trunc(RNE(t/1000)) = t quo 1000 -/
def DivExact (t : Int) : Prop := OttoVerif.C05.goInt64 (div (ofInt t) thousand) = goDiv t 1000

instance (t : Int) : Decidable (DivExact t) := by unfold DivExact; infer_instance

theorem goInt64_small (t : Int) (hr : t.natAbs < 2^53) : OttoVerif.C05.goInt64 (fvInt t) = t := by
  unfold OttoVerif.C05.goInt64 fvInt
  simp only [show truncInt (.fin (decide (t < 0)) t.natAbs 0) = t from truncInt_fvInt t]
  rw [if_pos (by omega)]

theorem ofInt_small (v : Int) (hr : v.natAbs < 2^53) : ofInt v = fvInt v := ofInt_of_small v hr

theorem cmp_fvInt (a b : Int) : cmpReal (fvInt a) (fvInt b) = some (if a < b then .lt else if a = b then .eq else .gt) := by
  have h := cmpReal_int (decide (a < 0)) (decide (b < 0)) a.natAbs b.natAbs 0 0 (Int.le_refl _) (Int.le_refl _)
  rwa [truncInt_natAbs, truncInt_natAbs] at h

theorem lt_fvInt (a b : Int) : lt (fvInt a) (fvInt b) = decide (a < b) := (cmp_int (cmp_fvInt a b)).1

theorem le_fvInt (a b : Int) : le (fvInt a) (fvInt b) = decide (a ≤ b) := (cmp_int (cmp_fvInt a b)).2.1

theorem pick_fvInt (v : Int) : (isNaN (fvInt v) || isInf (fvInt v)) = false := rfl

theorem trunc_fvInt (v : Int) : trunc (fvInt v) = fvInt v := by simp [fvInt, trunc, isIntegral]

theorem abs_fvInt (i : Int) : abs (fvInt i) = fvInt (i.natAbs : Int) := by
  unfold fvInt abs
  have : ¬ ((i.natAbs : Int) < 0) := by omega
  simp [this]

theorem beyondMax_fvInt (i : Int) : beyondMax (fvInt i) = decide (i.natAbs > 8640000000000000) := by
  unfold beyondMax
  rw [abs_fvInt, show maxTimeValue = fvInt 8640000000000000 from rfl, lt_fvInt]
  by_cases h : i.natAbs > 8640000000000000 <;> simp [h] <;> omega

theorem beyondMax_big (s : Bool) (n : Nat) (hn : 2^53 ≤ n) : beyondMax (ofRatParts s n 1) = true := by
  unfold ofRatParts
  rw [if_neg (by omega)]
  cases hr : roundPos n 1 with
  | none => rfl
  | some p =>
    obtain ⟨m, e⟩ := p
    obtain ⟨hm, he⟩ := roundPos_int_ge n hn m e hr
    have hL : 53 ≤ n.log2 := (Nat.le_log2 (by omega)).2 hn
    obtain ⟨k, rfl⟩ : ∃ k : Nat, e = (k : Int) := ⟨e.toNat, by omega⟩
    -- the rounded value is the integer m·2^k with m ≥ 2^52 and k ≥ 1
    show lt (.fin false 8640000000000000 ((0 : Nat) : Int)) (.fin false m (k : Int)) = true
    rw [(cmp_int (cmpReal_int _ _ _ _ _ _ (Int.natCast_nonneg 0) (Int.natCast_nonneg k))).1, truncInt_nat, truncInt_nat]
    have hk2 : 2 ≤ 2 ^ k := by
      obtain ⟨j, rfl⟩ : ∃ j, k = j + 1 := ⟨k - 1, by omega⟩
      rw [Nat.pow_succ]; have := Nat.two_pow_pos j; omega
    have hb : 2 ^ 52 * 2 ≤ m * 2 ^ k := Nat.mul_le_mul hm hk2
    generalize m * 2 ^ k = B at hb
    simp only [Bool.false_eq_true, if_false, decide_eq_true_eq]
    omega

theorem beyondMax_ofInt (i : Int) : beyondMax (ofInt i) = decide (i.natAbs > 8640000000000000) := by
  by_cases h : i.natAbs < 2^53
  · rw [ofInt_small i h, beyondMax_fvInt]
  · have hbig : (2:Nat)^53 ≤ i.natAbs := by omega
    unfold ofInt
    simp only [h, if_false]
    have : i.natAbs > 8640000000000000 := by omega
    split <;> simp [beyondMax_big _ _ hbig, this]

def stateOf : Spec.TV → DateObj
  | some t => validState t
  | none => invalidDateObject

theorem set_ofInt (d : DateObj) (t : Int) (hdiv : t.natAbs ≤ 8640000000000000 → DivExact t) :
    d.set (ofInt t) = stateOf (Spec.TimeClip t) := by
  by_cases hr : t.natAbs ≤ 8640000000000000
  · have hdiv := hdiv hr
    unfold DivExact at hdiv
    have hr53 : t.natAbs < 2^53 := by omega
    have hv := ofInt_small t hr53
    have hb : beyondMax (ofInt t) = false := by rw [beyondMax_ofInt]; simp; omega
    have he : epochToInteger (ofInt t) = t := by
      have hf : floor (fvInt t) = fvInt t ∧ ceil (fvInt t) = fvInt t := by simp [fvInt, floor, ceil, isIntegral]
      unfold epochToInteger
      rw [hv, hf.1, hf.2, goInt64_small t hr53, ite_self]
    have ht : epochToTime (ofInt t) = some (stateTime t) := by
      unfold epochToTime
      rw [hb, hdiv, hv, goInt64_small t hr53]
      simp [fvInt, isNaN, isInf, goUnix_state]
    have hc : Spec.TimeClip t = some t := by unfold Spec.TimeClip; rw [if_neg (by omega)]
    unfold DateObj.set
    simp only [he, ht, hc, stateOf, validState]
  · have hb : beyondMax (ofInt t) = true := by rw [beyondMax_ofInt]; simp; omega
    have ht : epochToTime (ofInt t) = none := by
      unfold epochToTime; rw [hb]; simp
    have hc : Spec.TimeClip t = none := by unfold Spec.TimeClip; rw [if_pos (by omega)]
    unfold DateObj.set
    simp only [ht, hc, stateOf, invalidDateObject]

theorem set_nonfinite (d : DateObj) (v : FV) (h : Spec.field? v = none) : d.set v = invalidDateObject := by
  cases v with
  | nan => simp [DateObj.set, epochToTime, isNaN, invalidDateObject]
  | inf s => simp [DateObj.set, epochToTime, isNaN, isInf, invalidDateObject]
  | fin s m e => simp [Spec.field?] at h

theorem numberArg_small (v : Int) (hr : v.natAbs < 2^53) : numberArg (fvInt v) = some v := by
  unfold numberArg
  -- the doubles ±2^63 compare like the integers ±2^63, and |v| < 2^53 lies strictly between them
  have e1 : le (ofInt (2^63)) (fvInt v) = le (fvInt (2^63)) (fvInt v) := by
    rw [show ofInt (2^63) = .fin false 4503599627370496 11 by decide +kernel]; simp [le, cmpReal, alignInt, fvInt]
  have e2 : le (fvInt v) (ofInt (-(2^63))) = le (fvInt v) (fvInt (-(2^63))) := by
    rw [show ofInt (-(2^63)) = .fin true 4503599627370496 11 by decide +kernel]; simp [le, cmpReal, alignInt, fvInt]
  rw [e1, e2, le_fvInt, le_fvInt]
  unfold fvInt
  by_cases h0 : v.natAbs = 0
  · simp [h0]; omega
  · simp only [h0, if_false]
    rw [if_neg (by simp; omega), if_neg (by simp; omega)]
    exact congrArg some (goInt64_small v hr)

theorem map_ofInt_small (vs : List Int) (hsm : ∀ v ∈ vs, v.natAbs < 2^53) : vs.map ofInt = vs.map fvInt :=
  List.map_congr_left fun v hv => ofInt_small v (hsm v hv)

theorem numberArgs_small (vs : List Int) (hsm : ∀ v ∈ vs, v.natAbs < 2^53) : numberArgs (vs.map fvInt) = some vs := by
  induction vs with
  | nil => rfl
  | cons a as ih =>
    simp only [List.map_cons, numberArgs]
    rw [ih (fun v hv => hsm v (by simp [hv]))]
    rw [numberArg_small a (hsm a (by simp))]

theorem stateOf_value (tv : Spec.TV) : (stateOf tv).value = tv := by cases tv <;> rfl

theorem newDate_zero : newDate zero = validState 0 := by decide +kernel

/-- dateFieldsTooLarge on integers -/
def hugeInt (y m d h mi s ms : Int) : Bool :=
  decide (y.natAbs > 2500000 ∨ m.natAbs > 25000000 ∨ d.natAbs > 1000000000 ∨ h.natAbs > 24000000000 ∨
    mi.natAbs > 1440000000000 ∨ s.natAbs > 86400000000000 ∨ ms.natAbs > 86400000000000000)

theorem lt_fvC_abs (n : Nat) (i : Int) : lt (fvC n) (abs (fvInt i)) = decide (i.natAbs > n) := by
  rw [abs_fvInt, show fvC n = fvInt (n : Int) by simp [fvC, fvInt], lt_fvInt]
  by_cases h : i.natAbs > n <;> simp [h]

theorem tooLarge_fvInt (y m d h mi s ms : Int) :
    tooLarge (fvInt y) (fvInt m) (fvInt d) (fvInt h) (fvInt mi) (fvInt s) (fvInt ms) = hugeInt y m d h mi s ms := by
  unfold tooLarge hugeInt
  simp only [lt_fvC_abs]
  simp [Bool.or_assoc]

/-- the too-large guard trips for this call -/
def setterHuge (k : Setter) (t : Int) (vs : List Int) : Bool :=
  let e := applySetter k (ecmaOf t) vs
  hugeInt e.year e.month e.day e.hour e.minute e.second e.millisecond

def allFields (P : Int → Prop) (e : EcmaTime) : Prop :=
  P e.year ∧ P e.month ∧ P e.day ∧ P e.hour ∧ P e.minute ∧ P e.second ∧ P e.millisecond

/-- a setter only moves arguments into fields -/
theorem applySetter_all (P : Int → Prop) (k : Setter) (e : EcmaTime) (vs : List Int)
    (he : allFields P e) (hv : ∀ v ∈ vs, P v) : allFields P (applySetter k e vs) := by
  obtain ⟨h1, h2, h3, h4, h5, h6, h7⟩ := he
  unfold applySetter
  split <;> (try simp only [List.mem_cons, List.mem_nil_iff, or_false, forall_eq_or_imp, forall_eq] at hv) <;>
    simp only [allFields, *, and_self]

theorem ecmaOf_small (t : Int) (ht : t.natAbs ≤ 8640000000000000) : allFields (·.natAbs < 2^53) (ecmaOf t) := by
  obtain ⟨hm, hdt, _, hh, hmi, hs, hms⟩ := field_ranges t
  obtain ⟨hy0, hy1⟩ := year_bound t ht
  refine ⟨?_, ?_, ?_, ?_, ?_, ?_, ?_⟩ <;> simp only [ecmaOf] <;> omega

theorem goTime_guard (e : EcmaTime) (hs : allFields (·.natAbs < 2^53) e) :
    e.goTime = if hugeInt e.year e.month e.day e.hour e.minute e.second e.millisecond then ⟨17280000000000, 0⟩ else e.goTimeCore := by
  obtain ⟨h1, h2, h3, h4, h5, h6, h7⟩ := hs
  unfold EcmaTime.goTime
  rw [ofInt_small _ h1, ofInt_small _ h2, ofInt_small _ h3, ofInt_small _ h4, ofInt_small _ h5, ofInt_small _ h6, ofInt_small _ h7,
    tooLarge_fvInt]

theorem numberArgs_none (as : List FV) (h : ∃ x ∈ as, Spec.field? x = none) : numberArgs as = none := by
  induction as with
  | nil => obtain ⟨x, hx, _⟩ := h; simp at hx
  | cons a as ih =>
    obtain ⟨x, hx, hn⟩ := h
    simp only [List.mem_cons] at hx
    rcases hx with hx | hx
    · subst hx
      cases x <;> simp [Spec.field?] at hn <;> simp [numberArgs, numberArg]
    · have := ih ⟨x, hx, hn⟩
      simp only [numberArgs, this]
      split <;> simp_all

/-- the seven setUTC* entry points share one body -/
theorem setUTC_ne_time (k : Setter) (hk : k ≠ .time) (d : DateObj) (args : List FV) :
    setUTC k d args =
      if d.isNaN ∧ k ≠ .year then (invalidDateObject, none)
      else
        let base := if d.isNaN then newDate zero else d
        match (if (args.take k.limit).isEmpty then none else numberArgs (args.take k.limit)) with
        | none => (invalidDateObject, none)
        | some vs => (base.set (ofInt (setCore k base.time vs)), (base.set (ofInt (setCore k base.time vs))).value) := by
  cases k <;> first | exact absurd rfl hk | rfl

/-- one setUTC* call on a valid date: unless the too-large guard trips while ES5 still gets a valid date
    (`huge_field_cancel`), new state and return value are the ES5 ones -/
theorem setUTC_valid (k : Setter) (t : Int) (ht : t.natAbs ≤ 8640000000000000) (vs : List Int) (hk : k ≠ .time)
    (h1 : 1 ≤ vs.length) (h2 : vs.length ≤ k.limit) (hsm : ∀ v ∈ vs, v.natAbs < 2^53)
    (hdiv : ∀ t', Spec.setUTCRaw (toSpec k) (some t) (vs.map ofInt) = some t' → t'.natAbs ≤ 8640000000000000 → DivExact t')
    (hnc : ¬ (setterHuge k t vs = true ∧ (Spec.setUTC (toSpec k) (some t) (vs.map ofInt)).isSome = true)) :
    setUTC k (validState t) (vs.map ofInt) =
      (stateOf (Spec.setUTC (toSpec k) (some t) (vs.map ofInt)), Spec.setUTC (toSpec k) (some t) (vs.map ofInt)) := by
  rw [map_ofInt_small vs hsm] at hdiv hnc ⊢
  have hc := setter_core k t vs hk h1 h2
  have hspec : Spec.setUTC (toSpec k) (some t) (vs.map fvInt) = Spec.TimeClip (setCoreU k (stateTime t) vs) := by
    unfold Spec.setUTC; rw [← hc]; rfl
  have htake : (vs.map fvInt).take k.limit = vs.map fvInt := by
    apply List.take_of_length_le; simp; exact h2
  have hne : (vs.map fvInt).isEmpty = false := by
    cases vs with
    | nil => simp at h1
    | cons a as => rfl
  have hg := goTime_guard _ (applySetter_all _ k _ vs (ecmaOf_small t ht) hsm)
  have hcore : setCore k (stateTime t) vs =
      if setterHuge k t vs then 17280000000000000 else setCoreU k (stateTime t) vs := by
    unfold setCore setCoreU setterHuge
    rw [newEcmaTime_state, hg]
    split <;> rfl
  have hset : (validState t).set (ofInt (setCore k (stateTime t) vs)) = stateOf (Spec.setUTC (toSpec k) (some t) (vs.map fvInt)) := by
    rw [hcore]
    by_cases hh : setterHuge k t vs = true
    · simp only [hh, if_true]
      have hn : Spec.setUTC (toSpec k) (some t) (vs.map fvInt) = none := by
        cases hs : Spec.setUTC (toSpec k) (some t) (vs.map fvInt) with
        | none => rfl
        | some x => exact absurd ⟨hh, by simp [hs]⟩ hnc
      rw [hn, set_ofInt _ _ (by intro h; omega)]
      rfl
    · simp only [hh]
      rw [hspec]
      exact set_ofInt _ _ (hdiv _ hc.symm)
  rw [setUTC_ne_time k hk, htake]
  simp only [validState, hne, Bool.false_eq_true, false_and, if_false, numberArgs_small vs hsm] at hset ⊢
  rw [hset, stateOf_value]

/-- a time value as TimeClip leaves it -/
def TVok : Spec.TV → Prop
  | some t => t.natAbs ≤ 8640000000000000
  | none => True

theorem TVok_setUTC (k : Spec.Setter) (tv : Spec.TV) (args : List FV) : TVok (Spec.setUTC k tv args) := by
  unfold Spec.setUTC
  cases Spec.setUTCRaw k tv args with
  | none => trivial
  | some r =>
    simp only [Option.bind_some, Spec.TimeClip]
    split
    · trivial
    · show r.natAbs ≤ 8640000000000000; omega

theorem setUTC_step (k : Setter) (tv : Spec.TV) (hok : TVok tv) (vs : List Int) (h1 : 1 ≤ vs.length) (h2 : vs.length ≤ k.limit)
    (hsm : ∀ v ∈ vs, v.natAbs < 2^53)
    (hdiv : ∀ t', Spec.setUTCRaw (toSpec k) tv (vs.map ofInt) = some t' → t'.natAbs ≤ 8640000000000000 → DivExact t')
    (hnc : ¬ (setterHuge k (tv.getD 0) vs = true ∧ (Spec.setUTC (toSpec k) tv (vs.map ofInt)).isSome = true)) :
    setUTC k (stateOf tv) (vs.map ofInt) =
      (stateOf (Spec.setUTC (toSpec k) tv (vs.map ofInt)), Spec.setUTC (toSpec k) tv (vs.map ofInt)) := by
  by_cases hk : k = .time
  · subst hk
    rcases vs with _ | ⟨v, _ | ⟨w, rest⟩⟩
    · simp at h1
    · have hv := hsm v (by simp)
      have hraw : Spec.setUTCRaw (toSpec .time) tv ([v].map ofInt) = some v := by
        simp [toSpec, Spec.setUTCRaw, ofInt_small v hv, field_fvInt]
      have hspec : Spec.setUTC (toSpec .time) tv ([v].map ofInt) = Spec.TimeClip v := by
        unfold Spec.setUTC; rw [hraw]; rfl
      rw [hspec]
      simp only [setUTC, List.map_cons, List.map_nil, List.headD_cons]
      rw [set_ofInt _ v (hdiv v hraw), stateOf_value]
    · simp [Setter.limit] at h2
  · cases tv with
    | some t => exact setUTC_valid k t hok vs hk h1 h2 hsm hdiv hnc
    | none =>
      by_cases hy : k = .year
      · subst hy
        have hraw : Spec.setUTCRaw (toSpec .year) none (vs.map ofInt) = Spec.setUTCRaw (toSpec .year) (some 0) (vs.map ofInt) := rfl
        have hspec : Spec.setUTC (toSpec .year) none (vs.map ofInt) = Spec.setUTC (toSpec .year) (some 0) (vs.map ofInt) := rfl
        rw [hspec, ← setUTC_valid .year 0 (by decide) vs hk h1 h2 hsm (by rw [← hraw]; exact hdiv) (by rw [← hspec]; exact hnc)]
        simp [setUTC, stateOf, invalidDateObject, newDate_zero, validState]
      · have hspec : Spec.setUTC (toSpec k) none (vs.map ofInt) = none := by
          cases k <;> first | exact absurd rfl hk | exact absurd rfl hy | rfl
        rw [hspec, setUTC_ne_time k hk]
        simp [stateOf, invalidDateObject, hy]

def liftM (s : Setter × List Int) : Setter × List FV := (s.1, s.2.map ofInt)
def liftS (s : Setter × List Int) : Spec.Setter × List FV := (toSpec s.1, s.2.map ofInt)

/-- side conditions of a history: every call has 1..limit integral arguments (below 2^53), every in-range
    intermediate value passes the float64 division gate, and no call falls into `huge_field_cancel`. -/
def Good : Spec.TV → List (Setter × List Int) → Prop
  | _, [] => True
  | tv, (k, vs) :: rest => 1 ≤ vs.length ∧ vs.length ≤ k.limit ∧ (∀ v ∈ vs, v.natAbs < 2^53) ∧
      (∀ t', Spec.setUTCRaw (toSpec k) tv (vs.map ofInt) = some t' → t'.natAbs ≤ 8640000000000000 → DivExact t') ∧
      ¬ (setterHuge k (tv.getD 0) vs = true ∧ (Spec.setUTC (toSpec k) tv (vs.map ofInt)).isSome = true) ∧
      Good (Spec.setUTC (toSpec k) tv (vs.map ofInt)) rest

/-- the division side condition of `Good` once the recomposed value is known -/
theorem good_div (raw : Option Int) (v : Int) (hv : raw = some v) (hd : v.natAbs ≤ 8640000000000000 → DivExact v) :
    ∀ t', raw = some t' → t'.natAbs ≤ 8640000000000000 → DivExact t' := by
  intro t' h hr
  rw [hv] at h; injection h with h; subst h; exact hd hr

theorem setter_histories (hist : List (Setter × List Int)) : ∀ tv : Spec.TV, TVok tv → Good tv hist →
    runSetters (stateOf tv) (hist.map liftM) =
      (stateOf (Spec.runSetters tv (hist.map liftS)).1, (Spec.runSetters tv (hist.map liftS)).2) := by
  induction hist with
  | nil => intro tv _ _; rfl
  | cons s rest ih =>
    intro tv hok hg
    obtain ⟨k, vs⟩ := s
    obtain ⟨h1, h2, hsm, hdiv, hnc, hrest⟩ := hg
    have hstep := setUTC_step k tv hok vs h1 h2 hsm hdiv hnc
    have := ih _ (TVok_setUTC _ _ _) hrest
    simp only [List.map_cons, liftS, liftM, Spec.runSetters, runSetters, hstep]
    rw [this]

def toSpecArg : Arg → Spec.Arg
  | .num x => .num x | .obj x => .obj x | .thrower => .thrower | .mut x m => .mut x m

theorem lastMut_eq (as : List Arg) : lastMut as = Spec.lastMut (as.map toSpecArg) := by
  induction as with
  | nil => rfl
  | cons a rest ih => cases a <;> simp [lastMut, Spec.lastMut, toSpecArg, ih]

theorem conv_eq (as : List Arg) : ∀ i, convArgs as i = Spec.convAll (as.map toSpecArg) i := by
  induction as with
  | nil => intro i; rfl
  | cons a rest ih =>
    intro i
    rcases h : Spec.convAll (rest.map toSpecArg) (i + 1) with ⟨l, _ | vs⟩ <;>
      cases a <;> simp [convArgs, Arg.logs, Arg.val?, toSpecArg, Spec.convAll, ih (i + 1), h]

theorem limit_arity (k : Setter) : k.limit = (toSpec k).arity := by cases k <;> rfl

theorem scripted_conversions (k : Setter) (as : List Arg) :
    convArgs (as.take k.limit) 0 = Spec.convAll ((as.map toSpecArg).take (toSpec k).arity) 0 := by
  rw [conv_eq, limit_arity, List.map_take]

theorem scripted_throw (k : Setter) (d : DateObj) (tv : Spec.TV) (as : List Arg) (l : List Nat)
    (h : Spec.convAll ((as.map toSpecArg).take (toSpec k).arity) 0 = (l, none)) :
    setUTCS k d as = (curAfter d (as.take k.limit), .threw, l) ∧
    Spec.setUTCS (toSpec k) tv (as.map toSpecArg) = (Spec.curAfter tv ((as.map toSpecArg).take (toSpec k).arity), .threw, l) := by
  have hm := scripted_conversions k as
  rw [h] at hm
  simp [setUTCS, Spec.setUTCS, hm, h]

theorem scripted_values (k : Setter) (d : DateObj) (tv : Spec.TV) (as : List Arg) (l : List Nat) (vs : List FV)
    (h : Spec.convAll ((as.map toSpecArg).take (toSpec k).arity) 0 = (l, some vs)) :
    setUTCS k d as = ((setUTC k d vs).1, .ret (setUTC k d vs).2, l) ∧
    Spec.setUTCS (toSpec k) tv (as.map toSpecArg) = (Spec.setUTC (toSpec k) tv vs, .ret (Spec.setUTC (toSpec k) tv vs), l) := by
  have hm := scripted_conversions k as
  rw [h] at hm
  simp [setUTCS, Spec.setUTCS, hm, h]

theorem scripted_utc (as : List Arg) (l : List Nat) (r : Option (List FV))
    (h : Spec.convAll ((as.map toSpecArg).take 7) 0 = (l, r)) :
    (newDateTimeS as).2 = l ∧ (Spec.dateUTCS (as.map toSpecArg)).2 = l ∧
    (r = none → (newDateTimeS as).1 = .threw ∧ (Spec.dateUTCS (as.map toSpecArg)).1 = .threw) ∧
    (∀ vs, r = some vs → (newDateTimeS as).1 = .ret (newDateTime vs) ∧ (Spec.dateUTCS (as.map toSpecArg)).1 = .ret (Spec.dateUTC vs)) := by
  have hm : convArgs (as.take 7) 0 = (l, r) := by rw [conv_eq, List.map_take]; exact h
  cases r with
  | none => simp [newDateTimeS, Spec.dateUTCS, hm, h]
  | some vs => simp [newDateTimeS, Spec.dateUTCS, hm, h]

/-- 1900 + y in float64 for the two-digit years: exact, and far from the too-large limit -/
theorem add1900_fin : ∀ y : Fin 100, OttoVerif.C05.goInt64 (add (.fin false 1900 0) (.fin false y.val 0)) = (y.val : Int) + 1900 ∧
    lt (fvC 2500000) (abs (add (.fin false 1900 0) (.fin false y.val 0))) = false := by
  decide +kernel

theorem clip_eq (um : Int) : (if beyondMax (ofInt um) = true then none else some um) = Spec.TimeClip um := by
  rw [beyondMax_ofInt]; unfold Spec.TimeClip
  by_cases h : um.natAbs > 8640000000000000 <;> simp [h]

theorem yearAdj_cases (y : Int) :
    (if (le zero (trunc (fvInt y)) && le (trunc (fvInt y)) (.fin false 99 0)) = true then add (.fin false 1900 0) (trunc (fvInt y)) else fvInt y) =
      (if 0 ≤ y ∧ y ≤ 99 then add (.fin false 1900 0) (.fin false y.toNat 0) else fvInt y) := by
  have e0 : zero = fvInt 0 := rfl
  have e99 : (FV.fin false 99 0) = fvInt 99 := rfl
  rw [trunc_fvInt, e0, e99, le_fvInt, le_fvInt]
  by_cases h : 0 ≤ y ∧ y ≤ 99
  · have h1 := h.1; have h2 := h.2
    have ey : fvInt y = .fin false y.toNat 0 := by
      unfold fvInt; congr 1
      · simp; omega
      · omega
    simp only [h1, h2, decide_true, Bool.and_self, if_true, and_self, ey]
  · have : ¬ (decide (0 ≤ y) && decide (y ≤ 99)) = true := by simp; omega
    simp only [this, h, if_false, Bool.false_eq_true]

theorem tooLarge_year (Y : FV) (m d h mi s ms : Int) (hy : lt (fvC 2500000) (abs Y) = false) :
    tooLarge Y (fvInt m) (fvInt d) (fvInt h) (fvInt mi) (fvInt s) (fvInt ms) = hugeInt 0 m d h mi s ms := by
  unfold tooLarge hugeInt
  simp only [lt_fvC_abs, hy]
  simp [Bool.or_assoc]

theorem ndt_fields (y m d h mi s ms : Int) (hy : y.natAbs < 2^53) (hm : m.natAbs < 2^53) (hd : d.natAbs < 2^53)
    (hh : h.natAbs < 2^53) (hmi : mi.natAbs < 2^53) (hs : s.natAbs < 2^53) (hms : ms.natAbs < 2^53) :
    newDateTimeFields (fvInt y) (fvInt m) (fvInt d) (fvInt h) (fvInt mi) (fvInt s) (fvInt ms) =
      if hugeInt (Spec.fullYear y) m d h mi s ms then none
      else Spec.TimeClip (Spec.MakeDate (Spec.MakeDay (Spec.fullYear y) m d) (Spec.MakeTime h mi s ms)) := by
  unfold newDateTimeFields
  simp only []
  rw [yearAdj_cases y]
  simp only [goInt64_small m hm, goInt64_small d hd, goInt64_small h hh, goInt64_small mi hmi, goInt64_small s hs,
    goInt64_small ms hms]
  by_cases hc : 0 ≤ y ∧ y ≤ 99
  · simp only [hc, and_self, if_true]
    obtain ⟨h2, h1⟩ := add1900_fin ⟨y.toNat, by omega⟩
    simp only [] at h1 h2
    rw [tooLarge_year _ m d h mi s ms h1, h2]
    have hf : Spec.fullYear y = 1900 + y := by unfold Spec.fullYear; rw [if_pos hc]
    have hhuge : hugeInt (Spec.fullYear y) m d h mi s ms = hugeInt 0 m d h mi s ms := by
      rw [hf]; unfold hugeInt
      have : ¬ ((1900 + y).natAbs > 2500000) := by omega
      simp [this]
    rw [hhuge, hf, show ((y.toNat : Nat) : Int) + 1900 = 1900 + y by omega, dateCore, make_compose_ms, clip_eq]
  · simp only [hc, if_false]
    have hf : Spec.fullYear y = y := by unfold Spec.fullYear; rw [if_neg hc]
    rw [tooLarge_fvInt, hf, goInt64_small y hy, dateCore, make_compose_ms, clip_eq]

/-- the guard of Date.UTC on a list of 2..7 integers -/
def utcHuge (vs : List Int) : Bool :=
  hugeInt (Spec.fullYear (vs.getD 0 0)) (vs.getD 1 0) (vs.getD 2 1) (vs.getD 3 0) (vs.getD 4 0) (vs.getD 5 0) (vs.getD 6 0)

theorem getD_small (vs : List Int) (hsm : ∀ v ∈ vs, v.natAbs < 2^53) (i : Nat) (d : Int) (hd : d.natAbs < 2^53) :
    (vs.getD i d).natAbs < 2^53 := by
  rw [List.getD_eq_getElem?_getD]
  cases h : vs[i]? with
  | none => exact hd
  | some v => exact hsm v (List.mem_of_getElem? h)

theorem dateUTCRaw_map (vs : List Int) : Spec.dateUTCRaw (vs.map fvInt) =
    some (Spec.MakeDate (Spec.MakeDay (Spec.fullYear (vs.getD 0 0)) (vs.getD 1 0) (vs.getD 2 1))
      (Spec.MakeTime (vs.getD 3 0) (vs.getD 4 0) (vs.getD 5 0) (vs.getD 6 0))) := by
  unfold Spec.dateUTCRaw
  extract_lets get
  have hget : ∀ i d, get i d = some (vs.getD i d) := by
    intro i d
    simp only [get, List.getElem?_map, List.getD_eq_getElem?_getD]
    cases vs[i]? <;> simp [field_fvInt]
  simp only [hget]

theorem dateUTC_int (vs : List Int) (h2 : 2 ≤ vs.length) (h7 : vs.length ≤ 7) (hsm : ∀ v ∈ vs, v.natAbs < 2^53) :
    newDateTime (vs.map ofInt) = if utcHuge vs then none else Spec.dateUTC (vs.map ofInt) := by
  rw [map_ofInt_small vs hsm]
  have hp : ∀ i d, ((vs.map fvInt)[i]?).getD (fvInt d) = fvInt (vs.getD i d) := by
    intro i d; rw [List.getElem?_map, List.getD_eq_getElem?_getD]; cases vs[i]? <;> rfl
  have h0 : vs.getD 0 1900 = vs.getD 0 0 := by
    simp only [List.getD_eq_getElem?_getD, List.getElem?_eq_getElem (by omega : 0 < vs.length), Option.getD_some]
  have hs := getD_small vs hsm
  unfold newDateTime
  simp only [show FV.fin false 1900 0 = fvInt 1900 from rfl, show zero = fvInt 0 from rfl, show one = fvInt 1 from rfl, hp,
    List.any_cons, List.any_nil, pick_fvInt, Bool.or_self, Bool.false_eq_true, if_false]
  rw [ndt_fields _ _ _ _ _ _ _ (hs _ _ (by decide)) (hs _ _ (by decide)) (hs _ _ (by decide)) (hs _ _ (by decide))
    (hs _ _ (by decide)) (hs _ _ (by decide)) (hs _ _ (by decide)), h0, Spec.dateUTC, dateUTCRaw_map]
  rfl

theorem digits_zero (w : Nat) : Spec.digits w 0 = List.replicate w 48 := by
  induction w with
  | zero => rfl
  | succ w ih => simp [Spec.digits, ih, List.replicate_succ']

theorem digits_length (w n : Nat) : (Spec.digits w n).length = w := by
  induction w generalizing n with
  | zero => rfl
  | succ w ih => simp [Spec.digits, ih]

theorem natDigits_length_pos (f n : Nat) : 1 ≤ (natDigits (f + 1) n).length := by
  unfold natDigits; split <;> simp

theorem pad_natDigits (w : Nat) : ∀ (f n : Nat), 1 ≤ w → w ≤ f → n < 10 ^ w →
    List.replicate (w - (natDigits f n).length) 48 ++ natDigits f n = Spec.digits w n := by
  induction w with
  | zero => intro f n h; omega
  | succ w ih =>
    intro f n _ hf hn
    obtain ⟨f', rfl⟩ : ∃ f', f = f' + 1 := ⟨f - 1, by omega⟩
    by_cases h10 : n < 10
    · have e1 : n / 10 = 0 := by omega
      have e2 : n % 10 = n := by omega
      simp [natDigits, h10, Spec.digits, e1, e2, digits_zero]
    · have hlen : (natDigits (f' + 1) n).length = (natDigits f' (n / 10)).length + 1 := by
        simp [natDigits, h10]
      have hw : 1 ≤ w := by
        rcases Nat.eq_zero_or_pos w with h | h
        · subst h; simp at hn; omega
        · exact h
      have hn' : n / 10 < 10 ^ w := by
        rw [Nat.pow_succ] at hn; omega
      have := ih f' (n / 10) hw (by omega) hn'
      rw [hlen, show w + 1 - ((natDigits f' (n / 10)).length + 1) = w - (natDigits f' (n / 10)).length by omega]
      simp only [natDigits, h10, if_false, Spec.digits]
      rw [← List.append_assoc, this]

theorem goAppendInt_nonneg (x : Int) (w : Nat) (h0 : 0 ≤ x) (hw : 1 ≤ w) (hw25 : w ≤ 25) (h1 : x.toNat < 10 ^ w) :
    goAppendInt x w = Spec.digits w x.toNat := by
  unfold goAppendInt
  have : ¬ x < 0 := by omega
  simp only [this, if_false, List.nil_append]
  rw [show x.natAbs = x.toNat by omega]
  exact pad_natDigits w 25 x.toNat hw hw25 h1

theorem digits_mul10 (w n : Nat) : Spec.digits (w + 1) (10 * n) = Spec.digits w n ++ [48] := by
  simp [Spec.digits]

theorem app9 (x : Int) (h0 : 0 ≤ x) (h1 : x ≤ 999) : (goAppendInt (x * 1000000) 9).take 3 = Spec.digits 3 x.toNat := by
  rw [goAppendInt_nonneg (x * 1000000) 9 (by omega) (by omega) (by omega) (by omega)]
  rw [show (x * 1000000).toNat = 10 * (10 * (10 * (10 * (10 * (10 * x.toNat))))) by omega]
  simp only [digits_mul10, List.append_assoc]
  rw [List.take_append_of_le_length (by simp [digits_length])]
  exact List.take_of_length_le (by simp [digits_length])

theorem sprintf_eq (x : Int) (h : x.natAbs < 10 ^ 6) :
    goSprintfPlus07 x = (if x < 0 then 45 else 43) :: Spec.digits 6 x.natAbs := by
  unfold goSprintfPlus07
  have := pad_natDigits 6 25 x.natAbs (by omega) (by omega) h
  simp only []
  rw [List.append_assoc, this]
  split <;> rfl

/-- Not the statement of `Thm.iso_format_eq` (toISOString and toJSON on the ES5 range): this is Go's formatter itself, for
    every year of at most six digits. -/
theorem iso_format_eq (t : Int) (hy : (Spec.YearFromTime t).natAbs < 10 ^ 6) :
    goFormatISO (stateTime t) = Spec.isoString t := by
  have hd := goAbsDate_eq _ _ (sameDay_state t)
  unfold goFormatISO Spec.isoString
  simp only [goYear, goMonth, goDay, hd, goHour_state, goMinute_state, goSecond_state]
  obtain ⟨hm, hdt, _, hh, hmi, hs, hms⟩ := field_ranges t
  have ens : (stateTime t).nsec = Spec.msFromTime t * 1000000 := rfl
  have two : ∀ x : Int, 0 ≤ x ∧ x ≤ 99 → goAppendInt x 2 = Spec.digits 2 x.toNat :=
    fun x h => goAppendInt_nonneg x 2 h.1 (by decide) (by decide) (by omega)
  rw [two (Spec.MonthFromTime t + 1) (by omega), two (Spec.DateFromTime t) (by omega), two (Spec.HourFromTime t) (by omega),
      two (Spec.MinFromTime t) (by omega), two (Spec.SecFromTime t) (by omega), ens, app9 _ hms.1 hms.2]
  by_cases h4 : 0 ≤ Spec.YearFromTime t ∧ Spec.YearFromTime t ≤ 9999
  · have hn : ¬ (Spec.YearFromTime t < 0 ∨ Spec.YearFromTime t > 9999) := by omega
    rw [if_neg hn, if_pos h4, goAppendInt_nonneg _ 4 h4.1 (by omega) (by omega) (by omega)]
  · have hn : Spec.YearFromTime t < 0 ∨ Spec.YearFromTime t > 9999 := by omega
    rw [if_pos hn, if_neg h4, sprintf_eq _ hy]
    by_cases hneg : Spec.YearFromTime t < 0
    · simp only [hneg, if_true]
      rw [show (Spec.YearFromTime t).natAbs = (-Spec.YearFromTime t).toNat by omega]
    · simp only [hneg, if_false]
      rw [show (Spec.YearFromTime t).natAbs = (Spec.YearFromTime t).toNat by omega]

theorem digitVal_mod (x : Nat) : digitVal? (48 + x % 10) = some ((x % 10 : Nat) : Int) := by
  unfold digitVal?
  rw [if_pos (by omega)]
  congr 1; omega

theorem num2_mod (x y : Nat) : num2? (48 + x % 10) (48 + y % 10) = some (((x % 10 : Nat) : Int) * 10 + (y % 10 : Nat)) := by
  simp [num2?, digitVal_mod]

/-- what follows the year in `Spec.isoString` is a tail that parseTail reads back -/
theorem isoTail_ok (yy : List Nat) (mo d h mi s ms : Int) (hmo : 0 ≤ mo ∧ mo < 100) (hd : 0 ≤ d ∧ d < 100) (hh : 0 ≤ h ∧ h < 100)
    (hmi : 0 ≤ mi ∧ mi < 100) (hs : 0 ≤ s ∧ s < 100) (hms : 0 ≤ ms ∧ ms < 1000) :
    ∃ tl, yy ++ [45] ++ Spec.digits 2 mo.toNat ++ [45] ++ Spec.digits 2 d.toNat ++ [84] ++ Spec.digits 2 h.toNat ++ [58]
        ++ Spec.digits 2 mi.toNat ++ [58] ++ Spec.digits 2 s.toNat ++ [46] ++ Spec.digits 3 ms.toNat ++ [90] = yy ++ tl ∧
      parseTail tl = some (mo, d, h, mi, s, ms) := by
  refine ⟨_, by simp only [List.append_assoc]; rfl, ?_⟩
  simp only [Spec.digits, List.nil_append, List.cons_append]
  unfold parseTail
  simp only [num2_mod, digitVal_mod]
  have e2 : ∀ n : Int, 0 ≤ n ∧ n < 100 → ((n.toNat / 10 % 10 : Nat) : Int) * 10 + ((n.toNat % 10 : Nat) : Int) = n := by
    intro n h; omega
  have ems : ((ms.toNat / 10 / 10 % 10 : Nat) : Int) * 100 + (((ms.toNat / 10 % 10 : Nat) : Int) * 10 + ((ms.toNat % 10 : Nat) : Int)) = ms := by
    omega
  rw [e2 mo hmo, e2 d hd, e2 h hh, e2 mi hmi, e2 s hs, ems]

theorem parseFields_ok (t : Int) (h : t.natAbs ≤ 8640000000000000) (year shift : Int)
    (hys : year + shift = Spec.YearFromTime t) (hleap : goIsLeap year = goIsLeap (Spec.YearFromTime t)) :
    parseFields year shift (Spec.MonthFromTime t + 1) (Spec.DateFromTime t) (Spec.HourFromTime t) (Spec.MinFromTime t)
      (Spec.SecFromTime t) (Spec.msFromTime t) = some t := by
  obtain ⟨hm, hdt, _, hh, hmi, hs, hms⟩ := field_ranges t
  have hdi : Spec.DateFromTime t ≤ goDaysIn (Spec.MonthFromTime t + 1) year := by
    have h := (dateFromTime_range t).2
    rw [← leapFlag_eq, ← goDaysIn_eq _ _ hm] at h
    unfold goDaysIn at h ⊢; rw [hleap]; exact h
  unfold parseFields
  rw [if_neg (by omega), hys, make_compose, makeDay_roundtrip, makeTime_roundtrip, makeDate_roundtrip]
  have hb : beyondMax (ofInt t) = false := by rw [beyondMax_ofInt]; simp; omega
  simp [hb]

theorem parseTail_shape (tl : List Nat) (f : Int × Int × Int × Int × Int × Int) (h : parseTail tl = some f) :
    ∃ m1 m2 d1 d2 h1 h2 i1 i2 s1 s2 f1 f2 f3,
      tl = [45, m1, m2, 45, d1, d2, 84, h1, h2, 58, i1, i2, 58, s1, s2, 46, f1, f2, f3, 90] := by
  unfold parseTail at h
  split at h
  · exact ⟨_, _, _, _, _, _, _, _, _, _, _, _, _, rfl⟩
  · exact absurd h (by simp)

theorem parseISO_four (a b c d : Nat) (tl : List Nat) (mo dd hh mi ss ms : Int) (ht : parseTail tl = some (mo, dd, hh, mi, ss, ms))
    (y : Int) (hy : (((a % 10 : Nat) : Int) * 10 + (b % 10 : Nat)) * 100 + (((c % 10 : Nat) : Int) * 10 + (d % 10 : Nat)) = y) :
    dateParseISO ((48 + a % 10) :: (48 + b % 10) :: (48 + c % 10) :: (48 + d % 10) :: tl) = some (parseFields y 0 mo dd hh mi ss ms) := by
  obtain ⟨m1, m2, d1, d2, h1, h2, i1, i2, s1, s2, f1, f2, f3, rfl⟩ := parseTail_shape tl _ ht
  unfold dateParseISO
  simp only [ht, num2_mod, hy]

/-- dateParse on an expanded year ±dddddd, year ≠ 0 (`-000000` is rejected): the year is moved into the 400-year cycle from 2000 -/
theorem parseISO_six (sg : Nat) (hsg : sg = 43 ∨ sg = 45) (a b c d e f : Nat) (tl : List Nat) (mo dd hh mi ss ms : Int)
    (ht : parseTail tl = some (mo, dd, hh, mi, ss, ms))
    (u y : Int) (hu : (((a % 10 : Nat) : Int) * 10 + (b % 10 : Nat)) * 10000 + (((c % 10 : Nat) : Int) * 10 + (d % 10 : Nat)) * 100
      + (((e % 10 : Nat) : Int) * 10 + (f % 10 : Nat)) = u) (hy : (if sg = 45 then -u else u) = y) (h0 : y ≠ 0) :
    dateParseISO (sg :: (48 + a % 10) :: (48 + b % 10) :: (48 + c % 10) :: (48 + d % 10) :: (48 + e % 10) :: (48 + f % 10) :: tl) =
      some (parseFields (2000 + goMod (goMod y 400 + 400) 400) (y - (2000 + goMod (goMod y 400 + 400) 400)) mo dd hh mi ss ms) := by
  obtain ⟨m1, m2, d1, d2, h1, h2, i1, i2, s1, s2, f1, f2, f3, rfl⟩ := parseTail_shape tl _ ht
  unfold dateParseISO
  simp only [ht, num2_mod, hu, hy, h0, false_and, if_false]
  rw [if_neg (by omega)]

theorem digits6_val (n : Nat) (h : n < 10 ^ 6) : (((n / 10 / 10 / 10 / 10 / 10 % 10 : Nat) : Int) * 10 + (n / 10 / 10 / 10 / 10 % 10 : Nat)) * 10000
    + (((n / 10 / 10 / 10 % 10 : Nat) : Int) * 10 + (n / 10 / 10 % 10 : Nat)) * 100 + (((n / 10 % 10 : Nat) : Int) * 10 + (n % 10 : Nat)) = n := by
  omega

/-- Not the statement of `Thm.iso_roundtrip` (about `parseOfISO` of the object): this is the parser on the formatter's output. -/
theorem iso_roundtrip (t : Int) (h : t.natAbs ≤ 8640000000000000) :
    dateParseISO (goFormatISO (stateTime t)) = some (some t) := by
  obtain ⟨hy0, hy1⟩ := year_bound t h
  rw [iso_format_eq t (by omega)]
  obtain ⟨hm, hdt, _, hh, hmi, hs, hms⟩ := field_ranges t
  unfold Spec.isoString
  extract_lets y yy
  obtain ⟨tl, htl, pt⟩ := isoTail_ok yy (Spec.MonthFromTime t + 1) (Spec.DateFromTime t) (Spec.HourFromTime t)
    (Spec.MinFromTime t) (Spec.SecFromTime t) (Spec.msFromTime t) (by omega) (by omega) (by omega) (by omega) (by omega) (by omega)
  rw [htl]
  have d4 : ∀ n, Spec.digits 4 n = [48 + n / 10 / 10 / 10 % 10, 48 + n / 10 / 10 % 10, 48 + n / 10 % 10, 48 + n % 10] := fun _ => rfl
  have d6 : ∀ n, Spec.digits 6 n = [48 + n / 10 / 10 / 10 / 10 / 10 % 10, 48 + n / 10 / 10 / 10 / 10 % 10,
    48 + n / 10 / 10 / 10 % 10, 48 + n / 10 / 10 % 10, 48 + n / 10 % 10, 48 + n % 10] := fun _ => rfl
  by_cases h4 : 0 ≤ Spec.YearFromTime t ∧ Spec.YearFromTime t ≤ 9999
  · simp only [yy, y, h4, and_self, if_true, d4, List.cons_append, List.nil_append]
    rw [parseISO_four (ht := pt) (y := Spec.YearFromTime t) (hy := by omega)]
    exact congrArg some (parseFields_ok t h _ 0 (by omega) rfl)
  · by_cases hneg : Spec.YearFromTime t < 0
    · simp only [yy, y, h4, hneg, if_false, if_true, d6, List.cons_append, List.nil_append]
      rw [parseISO_six (ht := pt) (hsg := .inr rfl) (hu := digits6_val _ (by omega)) (y := Spec.YearFromTime t) (hy := by rw [if_pos rfl]; omega)
        (h0 := by omega)]
      exact congrArg some (parseFields_ok t h _ _ (by omega) (isLeap_cycle _))
    · simp only [yy, y, h4, hneg, if_false, d6, List.cons_append, List.nil_append]
      rw [parseISO_six (ht := pt) (hsg := .inl rfl) (hu := digits6_val _ (by omega)) (y := Spec.YearFromTime t) (hy := by rw [if_neg (by decide)]; omega)
        (h0 := by omega)]
      exact congrArg some (parseFields_ok t h _ _ (by omega) (isLeap_cycle _))

theorem wall_fixed (o t : Int) : Zone.wall (.fixed o) (stateTime t) = stateTime (t + o * 1000) := by
  unfold Zone.wall Zone.offsetAt Zone.lookup stateTime
  simp only []
  congr 1 <;> omega

theorem dateToUnix_fixed (o u : Int) : Zone.dateToUnix (.fixed o) u = u - o := by
  unfold Zone.dateToUnix Zone.offsetAt Zone.lookup
  simp only []
  by_cases h : o = 0
  · subst h; simp
  · simp only [ne_eq, h, not_false_eq_true, if_true]
    split <;> rfl

theorem localTime_fixed (o t : Int) : Spec.LocalTime (.fixed o) t = t + o * 1000 := by
  simp [Spec.LocalTime, Spec.LocalTZA, Spec.DaylightSavingTA]
theorem utc_fixed (o x : Int) : Spec.UTC (.fixed o) x = x - o * 1000 := by
  simp [Spec.UTC, Spec.LocalTZA, Spec.DaylightSavingTA]

theorem local_getters_fixed (o t : Int) (ho : o % 60 = 0) :
    observeLocal (.fixed o) (validState t) = Spec.observeLocal (.fixed o) (some t) := by
  have hw := wall_fixed o t
  have hd := goAbsDate_eq _ _ (sameDay_state (t + o * 1000))
  have hoff : Zone.offsetAt (.fixed o) (stateTime t).sec = o := rfl
  have hq : goDiv (-o) 60 = (t - (t + o * 1000)) / 60000 := by
    unfold goDiv; split <;> omega
  simp only [observeLocal, Spec.observeLocal, validState, Bool.false_eq_true, if_false, hw, localTime_fixed]
  simp [goYear, goMonth, goDay, hd, goWeekday_state, goHour_state, goMinute_state, goSecond_state, goMilli_state, hoff, hq]

theorem unixMilli_shift (s n o : Int) : goUnixMilli ⟨s - o, n⟩ = goUnixMilli ⟨s, n⟩ - o * 1000 := by
  unfold goUnixMilli; simp only []; omega

theorem local_setter_core_fixed (o : Int) (k : Setter) (t : Int) (vs : List Int) (hk : k ≠ .time)
    (h1 : 1 ≤ vs.length) (h2 : vs.length ≤ k.limit) :
    let w := (applySetter k (newEcmaTime (Zone.wall (.fixed o) (stateTime t))) vs).goTimeCore
    some (goUnixMilli ⟨Zone.dateToUnix (.fixed o) w.sec, w.nsec⟩) =
      (Spec.setUTCRaw (toSpec k) (some (Spec.LocalTime (.fixed o) t)) (vs.map fvInt)).map (Spec.UTC (.fixed o)) := by
  intro w
  have hc := setter_core k (t + o * 1000) vs hk h1 h2
  rw [localTime_fixed, ← hc]
  simp only [Option.map_some, utc_fixed, dateToUnix_fixed, unixMilli_shift]
  simp only [w, wall_fixed, setCoreU]

theorem local_ctor_core_fixed (o y m d h mi s ms : Int) :
    let w := goDateMs y (m + 1) d h mi s ms
    goUnixMilli ⟨Zone.dateToUnix (.fixed o) w.sec, w.nsec⟩ =
      Spec.UTC (.fixed o) (Spec.MakeDate (Spec.MakeDay y m d) (Spec.MakeTime h mi s ms)) := by
  intro w
  rw [dateToUnix_fixed, unixMilli_shift, utc_fixed]
  have := make_compose_ms y m d h mi s ms
  simp only [w] at *
  rw [← this]

theorem wall_zero (t : GoTime) : Zone.wall (.fixed 0) t = t := by
  cases t; simp [Zone.wall, Zone.offsetAt, Zone.lookup]

theorem goTimeIn_zero (e : EcmaTime) : e.goTimeIn (.fixed 0) = e.goTime := by
  unfold EcmaTime.goTimeIn EcmaTime.goTime
  split
  · rfl
  · simp [dateToUnix_fixed]

theorem local_zero_is_utc (k : LSetter) (hk : k ≠ .year2) (d : DateObj) (args : List FV) :
    setLocal (.fixed 0) k d args = setUTC k.base d args := by
  have hz : newDate (ofInt (Zone.dateToUnix (.fixed 0) 0 * 1000)) = newDate zero := by decide +kernel
  cases k <;> first | exact absurd rfl hk | (
    simp only [setLocal, setUTC, LSetter.base, LSetter.limit, wall_zero, goTimeIn_zero, hz, setCore, ne_eq, reduceCtorEq,
      not_false_eq_true, and_true, not_true_eq_false, and_false]
    try rfl)

end OttoVerif.C12.Lem
