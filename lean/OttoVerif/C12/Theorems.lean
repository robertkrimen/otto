/-
  C12/Theorems — the ledger for property C12.  Every `theorem` in this file is audited
  (`#print axioms` ⊆ {propext, Classical.choice, Quot.sound}) on every run.
  All calendar statements quantify over ALL integers (no range), `omega` does the floor divisions.

  `Lem.validState t` is the Date object otto holds for the integral time value t:
  time = Unix(t div 1000, (t mod 1000)·10^6 ns), epoch = t, value = t, isNaN = false;
  `Lem.stateOf tv` extends it to NaN (= invalidDateObject).  The property has three deviation regions, each shown by an
  example below: `huge_field_cancel`, `local_transition_hour`, `rfc1123_year_range`.
-/
import OttoVerif.C12.Lemmas
namespace OttoVerif.C12.Thm
open OttoVerif.C12 OttoVerif.C12.Lem OttoVerif.F64

/-- §15.9.1.3: DayFromYear steps by DaysInYear, for every integer year. -/
theorem dayFromYear_step (y : Int) : Spec.DayFromYear (y + 1) - Spec.DayFromYear y = Spec.DaysInYear y :=
  Lem.dayFromYear_step y

/-- §15.9.1.3 "YearFromTime(t) = the largest integer y such that TimeFromYear(y) ≤ t":
    the executable `Spec.YearFromTime` is exactly that, for every integer t. -/
theorem year_from_time (t y : Int) :
    (Spec.TimeFromYear y ≤ t ∧ t < Spec.TimeFromYear (y + 1)) ↔ y = Spec.YearFromTime t := by
  have hb := yft_bounds t
  unfold Spec.TimeFromYear
  constructor
  · intro ⟨h1, h2⟩
    apply year_unique <;> unfold Spec.Day <;> omega
  · intro h; subst h; unfold Spec.Day at hb; omega

theorem year_from_time_largest (t y : Int) (h : Spec.TimeFromYear y ≤ t) : y ≤ Spec.YearFromTime t := by
  have hb := yft_bounds t
  have := (dayFromYear_lt_iff y (Spec.YearFromTime t + 1)).1 (by unfold Spec.TimeFromYear at h; unfold Spec.Day at hb; omega)
  omega

/-- ranges of the civil fields (§15.9.1.4–.5, .10) -/
theorem field_ranges (t : Int) :
    (0 ≤ Spec.MonthFromTime t ∧ Spec.MonthFromTime t ≤ 11) ∧ (1 ≤ Spec.DateFromTime t ∧ Spec.DateFromTime t ≤ 31) ∧
    (0 ≤ Spec.WeekDay t ∧ Spec.WeekDay t ≤ 6) ∧ (0 ≤ Spec.HourFromTime t ∧ Spec.HourFromTime t ≤ 23) ∧
    (0 ≤ Spec.MinFromTime t ∧ Spec.MinFromTime t ≤ 59) ∧ (0 ≤ Spec.SecFromTime t ∧ Spec.SecFromTime t ≤ 59) ∧
    (0 ≤ Spec.msFromTime t ∧ Spec.msFromTime t ≤ 999) := Lem.field_ranges t

/-- §15.9.1.12 step 7: the `t` that MakeDay is told to find exists and is the one `Spec.MakeDay` uses -/
theorem makeDay_finds_t (y m : Int) :
    let t := Spec.MakeDay y m 1 * 86400000
    Spec.YearFromTime t = y + m / 12 ∧ Spec.MonthFromTime t = m % 12 ∧ Spec.DateFromTime t = 1 ∧
      ∀ dt, Spec.MakeDay y m dt = Spec.Day t + dt - 1 := by
  intro t
  have hl : 0 ≤ (if Spec.DaysInYear (y + m / 12) = 366 then (1:Int) else 0) ∧
      (if Spec.DaysInYear (y + m / 12) = 366 then (1:Int) else 0) ≤ 1 := by omega
  have hms := monthStart_range (m % 12) _ hl
  have hday : Spec.Day t = Spec.DayFromYear (y + m / 12) + Spec.monthStart (m % 12) (if Spec.DaysInYear (y + m / 12) = 366 then 1 else 0) := by
    show (Spec.MakeDay y m 1 * 86400000) / 86400000 = _
    unfold Spec.MakeDay; simp only []; omega
  have hyear : Spec.YearFromTime t = y + m / 12 := by
    have hstep := dayFromYear_step (y + m / 12)
    have hd := daysInYear_cases (y + m / 12)
    symm; apply year_unique <;> omega
  have hleap : Spec.InLeapYear t = (if Spec.DaysInYear (y + m / 12) = 366 then 1 else 0) := by
    unfold Spec.InLeapYear; rw [hyear]
  have hdwy : Spec.DayWithinYear t = Spec.monthStart (m % 12) (if Spec.DaysInYear (y + m / 12) = 366 then 1 else 0) := by
    unfold Spec.DayWithinYear; rw [hyear]; omega
  have hmonth : Spec.MonthFromTime t = m % 12 := by
    rw [monthFromTime_eq, hdwy, hleap]; exact monthOf_monthStart _ _ (by omega) hl
  refine ⟨hyear, hmonth, ?_, ?_⟩
  · rw [dateFromTime_eq, hmonth, hdwy, hleap]; omega
  · intro dt; rw [hday]; unfold Spec.MakeDay; simp only []

/-- civil round trip: recomposing the fields of t with MakeDay/MakeTime/MakeDate gives t back -/
theorem civil_roundtrip (t : Int) :
    Spec.MakeDate (Spec.MakeDay (Spec.YearFromTime t) (Spec.MonthFromTime t) (Spec.DateFromTime t))
      (Spec.MakeTime (Spec.HourFromTime t) (Spec.MinFromTime t) (Spec.SecFromTime t) (Spec.msFromTime t)) = t := by
  rw [makeDay_roundtrip, makeTime_roundtrip, makeDate_roundtrip]

/-- every getUTC* / valueOf of a valid Date object is the §15.9.1 function of its time value —
    for every integer t (negative times: floor, not truncation). -/
theorem accessors (t : Int) : observe (validState t) = Spec.observe (some t) := by
  have hd := goAbsDate_eq _ _ (sameDay_state t)
  simp [observe, Spec.observe, validState, goYear, goMonth, goDay, hd, goWeekday_state, goHour_state, goMinute_state,
    goSecond_state, goMilli_state]

theorem getTime_valid (t : Int) : getTime (validState t) = some t := rfl

/-- time.Date composes exactly like MakeDate(MakeDay, MakeTime), for ALL integer fields
    (month overflow into years, negative fields, ms/s/min/h carries into days). -/
theorem make_compose (y m d h mi s ms : Int) :
    goUnixMilli (goDate y (m + 1) d h mi s (ms * 1000000)) =
      Spec.MakeDate (Spec.MakeDay y m d) (Spec.MakeTime h mi s ms) := Lem.make_compose y m d h mi s ms

/-- Date.UTC / `new Date(y,m,…)` on converted fields = MakeDate(MakeDay, MakeTime), all of ℤ^7
    (milliseconds enter time.Date as seconds + ms quo 1000 and (ms rem 1000)·10^6 ns) -/
theorem dateCore_eq (y m d h mi s ms : Int) :
    dateCore y m d h mi s ms = Spec.MakeDate (Spec.MakeDay y m d) (Spec.MakeTime h mi s ms) :=
  Lem.make_compose_ms y m d h mi s ms

/-- Date.UTC(a1,…,an) / `new Date(a1,…,an)` (n = 2..7) with integral arguments, through newDateTime's float64
    wrapper (all picks, the two-digit-year test on the truncated year, the too-large guard, int conversion,
    TimeClip on float64(ms)): NaN when a field by itself spans more than 1e9 days (`utcHuge`), otherwise exactly
    §15.9.4.3, for every result however large. -/
theorem dateUTC_int (vs : List Int) (h2 : 2 ≤ vs.length) (h7 : vs.length ≤ 7) (hsm : ∀ v ∈ vs, v.natAbs < 2^53) :
    newDateTime (vs.map ofInt) = if utcHuge vs then none else Spec.dateUTC (vs.map ofInt) := Lem.dateUTC_int vs h2 h7 hsm

example : newDateTime ([99, 13, -5, 25, -61, 3600, 123456].map ofInt) = some 948934863456 := by decide +kernel
/-- fractional two-digit years, TimeClip, a legitimate 1e13 ms field and a field beyond every integer type:
    Date.UTC(99.5, 0), Date.UTC(-0.5, 0), Date.UTC(1e6, 0), Date.UTC(2000,0,1,0,0,0,1e13), Date.UTC(2^1000, 0) -/
example : newDateTime [.fin false 199 (-1), zero] = some 915148800000 ∧ Spec.dateUTC [.fin false 199 (-1), zero] = some 915148800000 ∧
    newDateTime [.fin true 1 (-1), zero] = Spec.dateUTC [.fin true 1 (-1), zero] ∧
    newDateTime [.fin false 1000000 0, zero] = none ∧ Spec.dateUTC [.fin false 1000000 0, zero] = none ∧
    newDateTime [.fin false 2000 0, zero, one, zero, zero, zero, .fin false 10000000000000 0] = some 10946684800000 ∧
    newDateTime [.fin false 1 1000, zero] = none ∧ Spec.dateUTC [.fin false 1 1000, zero] = none := by decide +kernel

/-- `math.Abs(float64(i)) > 8.64e15` decides TimeClip for EVERY integer i (also where float64(i) rounds) -/
theorem timeclip_test (i : Int) : beyondMax (ofInt i) = decide (i.natAbs > 8640000000000000) := Lem.beyondMax_ofInt i

/-- dateFieldsTooLarge on integral doubles is the integer test -/
theorem tooLarge_int (y m d h mi s ms : Int) :
    tooLarge (fvInt y) (fvInt m) (fvInt d) (fvInt h) (fvInt mi) (fvInt s) (fvInt ms) = hugeInt y m d h mi s ms :=
  Lem.tooLarge_fvInt y m d h mi s ms

/-- every setUTC* body (before its too-large guard) = the ES5 recomposition, for every integer time value and all
    integer arguments -/
theorem setter_core (k : Setter) (t : Int) (vs : List Int) (hk : k ≠ .time) (h1 : 1 ≤ vs.length) (h2 : vs.length ≤ k.limit) :
    some (setCoreU k (stateTime t) vs) = Spec.setUTCRaw (toSpec k) (some t) (vs.map fvInt) :=
  Lem.setter_core k t vs hk h1 h2

/-- dateObject.Set(float64(t)) / `new Date(t)` / setTime(t) for ANY integer t and ANY previous state:
    the object of TimeClip(t) — valid inside ±8.64e15, invalid beyond.
    `DivExact t` (float64 t/1000 truncates to t quo 1000) is the one arithmetic fact not proved here; it is only
    needed inside the range and is evaluated by the exact F64 model on every sample of the correspondence run. -/
theorem set_ofInt (d : DateObj) (t : Int) (hdiv : t.natAbs ≤ 8640000000000000 → DivExact t) :
    d.set (ofInt t) = stateOf (Spec.TimeClip t) := Lem.set_ofInt d t hdiv

/-- C12.timeclip: `new Date(t)` observes exactly like the ES5 object of TimeClip(ToNumber(t)), |t| < 2^53 -/
theorem timeclip (t : Int) (h53 : t.natAbs < 2^53) (hdiv : t.natAbs ≤ 8640000000000000 → DivExact t) :
    observe (newDate (ofInt t)) = Spec.observe (Spec.clipNumber (ofInt t)) := by
  have hs : newDate (ofInt t) = stateOf (Spec.TimeClip t) := Lem.set_ofInt _ t hdiv
  rw [hs, ofInt_small t h53]
  simp only [Spec.clipNumber, field_fvInt]
  cases hc : Spec.TimeClip t with
  | none => rfl
  | some t' =>
    have : t' = t := by
      unfold Spec.TimeClip at hc; split at hc <;> simp at hc; omega
    subst this
    exact accessors t'

example : DivExact 1419993358860123 := by decide +kernel
example : DivExact (-8639999999999999) := by decide +kernel
example : DivExact (-1) := by decide +kernel

/-- one call of any of the eight setters (setTime included) with 1..limit integral arguments, from ANY state
    (valid or invalid): the new object and the return value are the ES5 ones, TimeClip included — except in
    Dev `huge_field_cancel` (the too-large guard trips although the exact recomposition is in range). -/
theorem setUTC_step (k : Setter) (tv : Spec.TV) (hok : TVok tv) (vs : List Int) (h1 : 1 ≤ vs.length) (h2 : vs.length ≤ k.limit)
    (hsm : ∀ v ∈ vs, v.natAbs < 2^53)
    (hdiv : ∀ t', Spec.setUTCRaw (toSpec k) tv (vs.map ofInt) = some t' → t'.natAbs ≤ 8640000000000000 → DivExact t')
    (hnc : ¬ (setterHuge k (tv.getD 0) vs = true ∧ (Spec.setUTC (toSpec k) tv (vs.map ofInt)).isSome = true)) :
    setUTC k (stateOf tv) (vs.map ofInt) =
      (stateOf (Spec.setUTC (toSpec k) tv (vs.map ofInt)), Spec.setUTC (toSpec k) tv (vs.map ofInt)) :=
  Lem.setUTC_step k tv hok vs h1 h2 hsm hdiv hnc

/-- all histories of setUTC*/setTime calls with integral arguments, by induction on the history, from any
    state: otto's object state and every return value are the ES5 ones (values leaving ±8.64e15 become NaN on
    both sides; setTime / setUTCFullYear revive an invalid date on both sides). -/
theorem setter_histories (hist : List (Setter × List Int)) (tv : Spec.TV) (hok : TVok tv) (hg : Good tv hist) :
    runSetters (stateOf tv) (hist.map liftM) =
      (stateOf (Spec.runSetters tv (hist.map liftS)).1, (Spec.runSetters tv (hist.map liftS)).2) :=
  Lem.setter_histories hist tv hok hg

/-- `Good` is satisfiable by a history that leaves the range, is revived by setUTCFullYear and by setTime:
    d = new Date(8.64e15); d.setUTCMilliseconds(1) (→ NaN); d.setUTCFullYear(2000, 13, -3); d.setTime(1000) -/
example : Good (some 8640000000000000) [(.ms, [1]), (.year, [2000, 13, -3]), (.time, [1000])] :=
  ⟨by decide, by decide, by decide, good_div _ 8640000000000001 (by decide +kernel) (by decide +kernel), by decide +kernel,
   by decide, by decide, by decide, good_div _ 980640000000 (by decide +kernel) (by decide +kernel), by decide +kernel,
   by decide, by decide, by decide, good_div _ 1000 (by decide +kernel) (by decide +kernel), by decide +kernel,
   trivial⟩

/-- a field too large for any integer type: d = new Date(0); d.setUTCDate(2^1000) invalidates the date on both sides -/
example : setUTC .date (newDate zero) [.fin false 1 1000] = (invalidDateObject, none) ∧
    Spec.setUTC .date (some 0) [.fin false 1 1000] = none := by decide +kernel

/-- §15.9.5: an invalid date answers NaN to valueOf/getTime and every getUTC*, null to toJSON, and toISOString
    throws RangeError (§15.9.5.43); holds for EVERY object state with isNaN set, whatever the other fields contain. -/
theorem invalid_sticky (d : DateObj) (h : d.isNaN = true) :
    observe d = Spec.observe none ∧ getTime d = none ∧ toJSON d = .null ∧ toISOString d = .rangeError := by
  simp [observe, Spec.observe, getTime, toJSON, toISOString, h]

/-- `new Date(NaN | ±Infinity)` is invalid, like TimeClip(ToNumber(v)) -/
theorem newDate_nonfinite (v : FV) (h : Spec.field? v = none) :
    newDate v = invalidDateObject ∧ observe (newDate v) = Spec.observe (Spec.clipNumber v) := by
  have hs : newDate v = invalidDateObject := Lem.set_nonfinite _ v h
  refine ⟨hs, ?_⟩
  rw [hs]; simp [Spec.clipNumber, h, observe, invalidDateObject, Spec.observe]

/-- Date.UTC / constructor: a NaN or ±Infinity among the supplied fields gives NaN on both sides -/
theorem dateUTC_nan (args : List FV) (i : Nat) (hi : i < 7) (x : FV) (hx : args[i]? = some x) (hn : Spec.field? x = none) :
    newDateTime args = none ∧ Spec.dateUTC args = none := by
  have hx' : (isNaN x || isInf x) = true := by
    cases x <;> simp [Spec.field?, isNaN, isInf] at hn ⊢
  have : i = 0 ∨ i = 1 ∨ i = 2 ∨ i = 3 ∨ i = 4 ∨ i = 5 ∨ i = 6 := by omega
  constructor
  · unfold newDateTime
    rcases this with h | h | h | h | h | h | h <;> subst h <;>
      simp only [hx, Option.getD_some, List.any_cons, hx', Bool.true_or, Bool.or_true, if_true]
  · cases hr : Spec.dateUTCRaw args with
    | none => simp only [Spec.dateUTC, hr, Option.bind_none]
    | some r =>
      unfold Spec.dateUTCRaw at hr; simp only [] at hr
      split at hr
      · rename_i e0 e1 e2 e3 e4 e5 e6
        rcases this with h | h | h | h | h | h | h <;> subst h <;> simp only [hx, hn, reduceCtorEq] at e0 e1 e2 e3 e4 e5 e6
      · exact absurd hr (by simp)

/-- a setUTC* call whose (used) arguments are missing or contain NaN/±Infinity invalidates the date on both sides -/
theorem setter_nan (k : Setter) (t : Int) (args : List FV) (hk : k ≠ .time) (hlen : args.length ≤ k.limit)
    (hbad : args = [] ∨ ∃ x ∈ args, Spec.field? x = none) :
    setUTC k (validState t) args = (invalidDateObject, none) ∧ Spec.setUTC (toSpec k) (some t) args = none := by
  constructor
  · rw [setUTC_ne_time k hk, List.take_of_length_le hlen]
    rcases hbad with hb | hb
    · subst hb; rfl
    · rw [numberArgs_none args hb]; simp [validState]
  · -- the argument that makes ES5 answer NaN sits at a position the setter reads
    obtain ⟨j, hj, hb⟩ : ∃ j, j < k.limit ∧ ∀ d, Spec.argOr args j d = none := by
      rcases hbad with hb | ⟨x, hx, hn⟩
      · exact ⟨0, by cases k <;> decide, fun d => by subst hb; rfl⟩
      · obtain ⟨j, hj, hxj⟩ := List.getElem_of_mem hx
        exact ⟨j, by omega, fun d => by simp [Spec.argOr, hj, hxj, hn]⟩
    cases hr : Spec.setUTCRaw (toSpec k) (some t) args with
    | none => simp only [Spec.setUTC, hr, Option.bind_none]
    | some r =>
      exfalso
      cases k <;> first | exact absurd rfl hk | (
        simp only [toSpec, Spec.setUTCRaw] at hr
        simp only [Setter.limit] at hj
        split at hr
        · rcases (by omega : j = 0 ∨ j = 1 ∨ j = 2 ∨ j = 3) with rfl | rfl | rfl | rfl <;> first | omega | simp_all
        · exact absurd hr (by simp))

/-- toISOString / toJSON of every valid date in the ES5 range is the §15.9.1.15 string — four-digit years and
    the expanded ±YYYYYY form of §15.9.1.15.1 alike. -/
theorem iso_format_eq (t : Int) (h : t.natAbs ≤ 8640000000000000) :
    toISOString (validState t) = .ok (Spec.isoString t) ∧ toJSON (validState t) = .ok (Spec.isoString t) := by
  have hy := Lem.year_bound t h
  have := Lem.iso_format_eq t (by omega)
  simp [toISOString, toJSON, validState, this]

/-- Date.parse(d.toISOString()) = d.getTime() for EVERY valid date in the ES5 range -/
theorem iso_roundtrip (t : Int) (h : t.natAbs ≤ 8640000000000000) :
    parseOfISO (validState t) = Spec.parseOfISO t := by
  have := Lem.iso_roundtrip t h
  simp [parseOfISO, toISOString, validState, this, Spec.parseOfISO]

/-- new Date(253402300800000).toISOString() = "+010000-01-01T00:00:00.000Z", and it parses back -/
example : toISOString (newDate (.fin false 253402300800000 0)) = .ok ([43,48,49,48,48,48,48] ++ [45,48,49,45,48,49,84,48,48,58,48,48,58,48,48,46,48,48,48,90]) ∧
    parseOfISO (newDate (.fin false 253402300800000 0)) = some 253402300800000 := by decide +kernel

/-- ToNumber is applied to the same arguments, in the same order, with the same valueOf log, as §15.9.5.27–.41 say
    (every argument up to the arity, whatever the state of the date and whatever earlier arguments were) -/
theorem scripted_conversions (k : Setter) (as : List Arg) :
    convArgs (as.take k.limit) 0 = Spec.convAll ((as.map toSpecArg).take (toSpec k).arity) 0 :=
  Lem.scripted_conversions k as

/-- a throwing valueOf: same log, the exception propagates on both sides, and the object is what the re-entrant
    setTime calls of earlier valueOfs left (the outer call has written nothing) -/
theorem scripted_throw (k : Setter) (d : DateObj) (tv : Spec.TV) (as : List Arg) (l : List Nat)
    (h : Spec.convAll ((as.map toSpecArg).take (toSpec k).arity) 0 = (l, none)) :
    setUTCS k d as = (curAfter d (as.take k.limit), .threw, l) ∧
    Spec.setUTCS (toSpec k) tv (as.map toSpecArg) = (Spec.curAfter tv ((as.map toSpecArg).take (toSpec k).arity), .threw, l) :=
  Lem.scripted_throw k d tv as l h

/-- the re-entrant setTime calls are the same on both sides -/
theorem scripted_reentry (k : Setter) (as : List Arg) :
    lastMut (as.take k.limit) = Spec.lastMut ((as.map toSpecArg).take (toSpec k).arity) := by
  rw [lastMut_eq, limit_arity, List.map_take]

/-- no exception: same log, and both sides continue with the unscripted call (`setUTC_step`) on the same numbers,
    computed from the time value read at ENTRY — §15.9.5.27–.41 step 1 comes before the conversions, a valueOf that
    re-enters setTime on the same Date does not change t — and stored (a NaN result too) over whatever the
    re-entrant calls wrote. -/
theorem scripted_values (k : Setter) (d : DateObj) (tv : Spec.TV) (as : List Arg) (l : List Nat) (vs : List FV)
    (h : Spec.convAll ((as.map toSpecArg).take (toSpec k).arity) 0 = (l, some vs)) :
    setUTCS k d as = ((setUTC k d vs).1, .ret (setUTC k d vs).2, l) ∧
    Spec.setUTCS (toSpec k) tv (as.map toSpecArg) = (Spec.setUTC (toSpec k) tv vs, .ret (Spec.setUTC (toSpec k) tv vs), l) :=
  Lem.scripted_values k d tv as l vs h

/-- Date.UTC / constructor: the first seven arguments are converted, all of them, in order; an exception propagates with
    the same log; otherwise both sides compute on the same numbers -/
theorem scripted_utc (as : List Arg) (l : List Nat) (r : Option (List FV))
    (h : Spec.convAll ((as.map toSpecArg).take 7) 0 = (l, r)) :
    (newDateTimeS as).2 = l ∧ (Spec.dateUTCS (as.map toSpecArg)).2 = l ∧
    (r = none → (newDateTimeS as).1 = .threw ∧ (Spec.dateUTCS (as.map toSpecArg)).1 = .threw) ∧
    (∀ vs, r = some vs → (newDateTimeS as).1 = .ret (newDateTime vs) ∧ (Spec.dateUTCS (as.map toSpecArg)).1 = .ret (Spec.dateUTC vs)) :=
  Lem.scripted_utc as l r h

/-- the conversions go on when the date is invalid (setUTCHours, log [0]) and after a NaN argument (setUTCHours, Date.UTC:
    the later valueOf is logged); a throwing valueOf under setUTCFullYear leaves an invalid date invalid -/
example : (setUTCS .hour (newDate .nan) [.obj one]).2.2 = [0] ∧ (setUTCS .hour (newDate zero) [.num .nan, .obj one]).2.2 = [1] ∧
    (newDateTimeS [.num (.fin false 2000 0), .num .nan, .obj one]).2 = [2] ∧
    getTime (setUTCS .year (newDate .nan) [.thrower]).1 = none := by decide +kernel

/-- Dev huge_field_cancel: Date.UTC(2500001, 0, -900000000): the year trips the too-large guard (otto NaN), the exact
    recomposition is the valid time value 1070244316800000 -/
example : newDateTime [.fin false 2500001 0, zero, .fin true 900000000 0] = none ∧
    Spec.dateUTC [.fin false 2500001 0, zero, .fin true 900000000 0] = some 1070244316800000 := by decide +kernel

/-- The UTC entry points of the model — `newDate`, `observe`, `getTime`, `setUTC`, `setUTCS`, `newDateTime`, `toISOString`,
    `toJSON`, `parseOfISO` — take no `Zone` argument, so nothing proved about them can depend on time.Local; the requests
    that exercise them are interpreted after the zone token is dropped (`Driver.handleUTC`).  What does depend on the zone
    is modelled separately (`observeLocal z`, `setLocal z`, `newDateTimeIn z`), and for a zero offset it coincides
    (setYear aside, which has no UTC twin): -/
theorem local_zero_is_utc (k : LSetter) (hk : k ≠ .year2) (d : DateObj) (args : List FV) :
    setLocal (.fixed 0) k d args = setUTC k.base d args := Lem.local_zero_is_utc k hk d args

/-- §15.9.1.7–.9 under any fixed whole-minute offset: the local getters, getYear and getTimezoneOffset are the §15.9.1
    functions of LocalTime(t), for every integer t -/
theorem local_getters_fixed (o t : Int) (ho : o % 60 = 0) :
    observeLocal (.fixed o) (validState t) = Spec.observeLocal (.fixed o) (some t) := Lem.local_getters_fixed o t ho

/-- … every local setter body (before the too-large guard and TimeClip) is "split LocalTime(t), recompose, UTC(·)", for
    every integer t, offset and arguments -/
theorem local_setter_core_fixed (o : Int) (k : Setter) (t : Int) (vs : List Int) (hk : k ≠ .time)
    (h1 : 1 ≤ vs.length) (h2 : vs.length ≤ k.limit) :
    let w := (applySetter k (newEcmaTime (Zone.wall (.fixed o) (stateTime t))) vs).goTimeCore
    some (goUnixMilli ⟨Zone.dateToUnix (.fixed o) w.sec, w.nsec⟩) =
      (Spec.setUTCRaw (toSpec k) (some (Spec.LocalTime (.fixed o) t)) (vs.map fvInt)).map (Spec.UTC (.fixed o)) :=
  Lem.local_setter_core_fixed o k t vs hk h1 h2

/-- … and the multi-argument constructor is UTC(MakeDate(MakeDay, MakeTime)) on ℤ^7 -/
theorem local_ctor_core_fixed (o y m d h mi s ms : Int) :
    let w := goDateMs y (m + 1) d h mi s ms
    goUnixMilli ⟨Zone.dateToUnix (.fixed o) w.sec, w.nsec⟩ =
      Spec.UTC (.fixed o) (Spec.MakeDate (Spec.MakeDay y m d) (Spec.MakeTime h mi s ms)) :=
  Lem.local_ctor_core_fixed o y m d h mi s ms

/-- B.2.5: d = new Date(NaN); d.setYear(99) is 1999-01-01T00:00 local, on both sides -/
example : (setLocal (.fixed 0) .year2 (newDate .nan) [.fin false 99 0]).2 = some 915148800000 ∧
    Spec.setLocal (.fixed 0) .year2 none [.fin false 99 0] = some 915148800000 := by decide +kernel
/-- Dev local_transition_hour: Europe/London, new Date(2015, 2, 29, 1, 30) (the hour skipped on 29 March 2015) -/
example : newDateTimeIn .lon [.fin false 2015 0, .fin false 2 0, .fin false 29 0, one, .fin false 30 0] = some 1427592600000 ∧
    Spec.dateLocal .eu1996 [.fin false 2015 0, .fin false 2 0, .fin false 29 0, one, .fin false 30 0] = some 1427589000000 := by decide +kernel
/-- … and America/New_York, new Date(2015, 10, 1, 1, 30) (the hour repeated on 1 November 2015): Go takes the first (EDT) reading -/
example : newDateTimeIn .ny [.fin false 2015 0, .fin false 10 0, one, one, .fin false 30 0] = some 1446355800000 ∧
    Spec.dateLocal .us2007 [.fin false 2015 0, .fin false 10 0, one, one, .fin false 30 0] = some 1446359400000 := by decide +kernel
/-- outside the transition hour both daylight rules agree with Go's zone tables as modelled: 2015-07-01T12:00 local -/
example : newDateTimeIn .ny [.fin false 2015 0, .fin false 6 0, one, .fin false 12 0] = Spec.dateLocal .us2007 [.fin false 2015 0, .fin false 6 0, one, .fin false 12 0] ∧
    newDateTimeIn .lon [.fin false 2015 0, .fin false 6 0, one, .fin false 12 0] = Spec.dateLocal .eu1996 [.fin false 2015 0, .fin false 6 0, one, .fin false 12 0] := by decide +kernel
/-- Dev rfc1123_year_range: Date.parse(new Date(253402300800000).toUTCString()) -/
example : parseOfUTCString (newDate (.fin false 253402300800000 0)) = none ∧ Spec.parseOfUTCString (some 253402300800000) = some 253402300800000 := by decide +kernel
/-- toJSON on a generic object is §15.9.5.44 for every kind of primitive value and both kinds of toISOString
    (finite domain, exhaustive) -/
theorem toJSON_generic (c : Bool) :
    toJSONGeneric .numFinite c = (match Spec.toJSONGeneric .numFinite c with | .null => .null | .called => .called | .typeError => .typeError) ∧
    (∀ p sp, (p, sp) ∈ [(Prim.numFinite, Spec.Prim.numFinite), (.numNaN, .numNaN), (.numInf, .numInf), (.strNonNumeric, .strNonNumeric),
        (.strNumeric, .strNumeric), (.undef, .undef), (.boolTrue, .boolTrue)] →
      (toJSONGeneric p c = .null ↔ Spec.toJSONGeneric sp c = .null) ∧ (toJSONGeneric p c = .called ↔ Spec.toJSONGeneric sp c = .called) ∧
      (toJSONGeneric p c = .typeError ↔ Spec.toJSONGeneric sp c = .typeError)) := by
  constructor
  · cases c <;> rfl
  · intro p sp h
    simp only [List.mem_cons, List.mem_nil_iff, or_false, Prod.mk.injEq] at h
    rcases h with ⟨rfl, rfl⟩ | ⟨rfl, rfl⟩ | ⟨rfl, rfl⟩ | ⟨rfl, rfl⟩ | ⟨rfl, rfl⟩ | ⟨rfl, rfl⟩ | ⟨rfl, rfl⟩ <;> cases c <;> decide
/-- Date.parse("2000-01-01T24:00:00Z") = 946771200000 and Date.parse("2000-01-01T00:00+00:60") = NaN on both sides -/
example : dateParseFamily [50,48,48,48,45,48,49,45,48,49,84,50,52,58,48,48,58,48,48,90] = some (some 946771200000) ∧
    Spec.parseFields 2000 1 1 24 0 0 0 1 0 0 = some 946771200000 ∧
    dateParseFamily [50,48,48,48,45,48,49,45,48,49,84,48,48,58,48,48,43,48,48,58,54,48] = some none ∧
    Spec.parseFields 2000 1 1 0 0 0 0 1 0 60 = none := by decide +kernel

/-- re-entrant valueOf: d = new Date(0); d.setUTCMinutes({valueOf(){ d.setTime(86400000); return 5 }}) is 300000 on both
    sides (t is read at entry) -/
example : getTime (setUTCS .min (newDate zero) [.mut (.fin false 5 0) (.fin false 86400000 0)]).1 = some 300000 ∧
    (Spec.setUTCS .min (some 0) [.mut (.fin false 5 0) (.fin false 86400000 0)]).1 = some 300000 := by decide +kernel
/-- d = new Date(NaN); d.setUTCSeconds({valueOf(){ d.setTime(0); return 7 }}) returns NaN and leaves the date invalid,
    on both sides -/
example : (setUTCS .sec (newDate .nan) [.mut (.fin false 7 0) zero]).2.1 = .ret none ∧
    getTime (setUTCS .sec (newDate .nan) [.mut (.fin false 7 0) zero]).1 = none ∧
    (Spec.setUTCS .sec none [.mut (.fin false 7 0) zero]).1 = none := by decide +kernel

end OttoVerif.C12.Thm
