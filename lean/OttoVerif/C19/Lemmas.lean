/-
  C19/Lemmas — the loop over the outer scopes in closed form, and the two position loops of the code:
  `file.Position`'s is simulated against the §7.3 walk of the specification, `parser.lineCount`'s returns what
  `file.Position`'s returns.
-/
import OttoVerif.C19.Spec
namespace OttoVerif.C19.Thm
open OttoVerif.C19

def nonneg (f : Frame) : Bool := decide (f.offset ≥ 0)

/-- The loop over the outer scopes in closed form: a positive limit bounds the scopes VISITED (the innermost one
    counts as the first; a limit ≤ 0 never meets 0 after `limit--`), and of those visited the ones with a recorded
    call site are kept. -/
theorem walkOuter_eq (s : Stack) (limit : Int) :
    walkOuter s limit = (if limit ≥ 1 then s.take (limit - 1).toNat else s).filter nonneg := by
  induction s generalizing limit with
  | nil => simp [walkOuter]
  | cons f r ih =>
    rw [walkOuter, ih (limit - 1)]
    by_cases hl : limit ≥ 1
    · by_cases h1 : limit - 1 = 0
      · rw [if_pos h1, if_pos hl, h1]; rfl
      · have h2 : limit - 1 ≥ 1 := by omega
        have h3 : (limit - 1).toNat = (limit - 1 - 1).toNat + 1 := by omega
        simp only [if_neg h1, if_pos hl, if_pos h2, h3, List.take_succ_cons, List.filter_cons, nonneg,
          decide_eq_true_eq]
    · have h1 : ¬ limit - 1 = 0 := by omega
      have h2 : ¬ limit - 1 ≥ 1 := by omega
      simp only [if_neg h1, if_neg hl, if_neg h2, List.filter_cons, nonneg, decide_eq_true_eq]

theorem head?_len {α : Type} {l : List α} {x : α} (h : l.head? = some x) : 1 ≤ l.length := by
  cases l with
  | nil => cases h
  | cons _ _ => exact Nat.le_add_left 1 _

theorem isLSPS_len (b : Nat) (r : Src) (h : isLSPS b r = true) : 2 ≤ r.length := by
  match r, h with
  | _ :: _ :: _, _ => simp

theorem ltsLen_other (b : Nat) (r : Src) (h10 : b ≠ 10) (h13 : b ≠ 13) :
    Spec.ltsLen (b :: r) = if isLSPS b r then 3 else 0 := by
  unfold Spec.ltsLen isLSPS
  simp only [h10, h13, if_false]
  split <;> simp_all [and_assoc]

theorem ltsLen_cr (r : Src) : Spec.ltsLen (13 :: r) = if r.head? = some 10 then 2 else 1 := by
  unfold Spec.ltsLen
  cases r with
  | nil => simp
  | cons b2 r2 => simp

/-- the walk at a byte with nothing pending, written with the case distinction the two loops of the code make -/
theorem walk_cons (b : Nat) (r : Src) (l c : Nat) :
    Spec.walk (b :: r) 0 l c =
      if b = 13 then Spec.walk r (if r.head? = some 10 then 1 else 0) (l + 1) 1
      else if b = 10 then Spec.walk r 0 (l + 1) 1
      else if isLSPS b r then Spec.walk r 2 (l + 1) 1
      else Spec.walk r 0 l (c + 1) := by
  rw [Spec.walk]
  by_cases h13 : b = 13
  · subst h13
    rw [if_pos rfl, ltsLen_cr]
    by_cases hh : r.head? = some 10
    · rw [if_pos hh, if_pos hh]
    · rw [if_neg hh, if_neg hh]
  · rw [if_neg h13]
    by_cases h10 : b = 10
    · subst h10
      rfl
    · rw [if_neg h10, ltsLen_other b r h10 h13]
      by_cases hls : isLSPS b r = true
      · rw [if_pos hls, if_pos hls]
      · rw [if_neg hls, if_neg hls]

/-- line and column (both from 1) from a loop result (`line`, `last`) at offset `n`: what `file.Position` returns -/
def posOf (res : Nat × Int) (n : Nat) : Nat × Nat := (res.1 + 1, ((n : Int) - res.2).toNat)

/-- `file.Position`'s loop and the §7.3 walk move in lock step (same skip counter, same line); `c` is the column
    of the byte after the pending skip, so that `last` is that byte's offset minus `c` -/
theorem fp_sim (r : Src) : ∀ (i line : Nat) (last : Int) (skip c : Nat), skip ≤ r.length →
    last = (i : Int) + skip - c →
    posOf (fpLoop r i line last skip) (i + r.length) = Spec.walk r skip (line + 1) c := by
  induction r with
  | nil =>
    intro i line last skip c hs hl
    have : skip = 0 := by simpa using hs
    subst this
    simp only [fpLoop, posOf, Spec.walk, List.length_nil, Nat.add_zero]
    congr 1
    omega
  | cons b r ih =>
    intro i line last skip c hs hl
    rw [List.length_cons, show i + (r.length + 1) = i + 1 + r.length by omega]
    cases skip with
    | succ s =>
      rw [fpLoop, Spec.walk]
      exact ih (i + 1) line last s c (by simpa using hs) (by omega)
    | zero =>
      rw [fpLoop, walk_cons]
      by_cases h13 : b = 13
      · simp only [if_pos h13]
        by_cases hh : r.head? = some 10
        · simp only [if_pos hh]
          exact ih (i + 1) (line + 1) _ 1 1 (head?_len hh) (by omega)
        · simp only [if_neg hh]
          exact ih (i + 1) (line + 1) _ 0 1 (by omega) (by omega)
      · simp only [if_neg h13]
        by_cases h10 : b = 10
        · simp only [if_pos h10]
          exact ih (i + 1) (line + 1) _ 0 1 (by omega) (by omega)
        · simp only [if_neg h10]
          by_cases hls : isLSPS b r = true
          · simp only [if_pos hls]
            exact ih (i + 1) (line + 1) _ 2 1 (isLSPS_len b r hls) (by omega)
          · simp only [if_neg hls]
            exact ih (i + 1) line last 0 (c + 1) (by omega) (by omega)

/-- `pair` stands for the lookahead `file.Position` makes at a <CR>: a <LF> that follows is the second byte of the
    <CR><LF> already counted (stepped over with `last` moved onto it), any other byte is read as without `pair`. -/
theorem lc_fp (r : Src) : ∀ (i line : Nat) (last : Int) (skip : Nat),
    lcLoop r i line last false skip = fpLoop r i line last skip ∧
    lcLoop r i line last true 0 = if r.head? = some 10 then fpLoop r i line i 1 else fpLoop r i line last 0 := by
  induction r with
  | nil => intro i line last skip; exact ⟨by cases skip <;> rfl, rfl⟩
  | cons b r ih =>
    intro i line last skip
    have plain : lcLoop (b :: r) i line last false 0 = fpLoop (b :: r) i line last 0 := by
      rw [lcLoop, fpLoop]
      by_cases h13 : b = 13
      · rw [if_pos h13, if_pos h13, (ih (i + 1) (line + 1) i 0).2, Int.natCast_succ]
      · -- <LF>, <LS>/<PS> and any other byte: the same step in both loops, `pair` cleared
        rw [if_neg h13, if_neg h13, (ih _ _ _ _).1, (ih _ _ _ _).1, (ih _ _ _ _).1]
        rfl
    refine ⟨?_, ?_⟩
    · cases skip with
      | zero => exact plain
      | succ s => rw [lcLoop, fpLoop]; exact (ih _ _ _ _).1
    · by_cases h10 : b = 10
      · subst h10
        rw [List.head?_cons, if_pos rfl, lcLoop, if_neg (by decide), if_pos rfl, if_pos rfl, fpLoop]
        exact (ih _ _ _ _).1
      · rw [List.head?_cons, if_neg (fun h => h10 (Option.some.inj h)), ← plain]
        simp only [lcLoop, if_neg h10]

/-- the column never exceeds the bytes read since it was `c` -/
theorem walk_col (r : Src) : ∀ (k l c : Nat), (Spec.walk r k l c).2 ≤ c + r.length := by
  induction r with
  | nil => intro k l c; exact Nat.le_refl _
  | cons b r ih =>
    intro k l c
    rw [List.length_cons]
    cases k with
    | succ k => rw [Spec.walk]; exact Nat.le_trans (ih k l c) (by omega)
    | zero =>
      rw [Spec.walk]
      split
      · exact Nat.le_trans (ih 0 l (c + 1)) (by omega)
      · exact Nat.le_trans (ih _ (l + 1) 1) (by omega)

end OttoVerif.C19.Thm
