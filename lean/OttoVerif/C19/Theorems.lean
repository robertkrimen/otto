/-
  C19/Theorems — the ledger for property C19.  Every `theorem` here is audited
  (`#print axioms` ⊆ {propext, Classical.choice, Quot.sound}) on every run.
  In file order: the two position functions against §7.3; stack traces (the scope chain after any nesting of
  activations, `newError`'s walk and limit, `Copy()`), each region of `Spec.traceDevs` with a kernel-checked
  witness; messages; classes; the text `Run` returns; uncaught exceptions; traces read later; what runs while a
  message is built; rebinding of the global constructor names.
-/
import OttoVerif.C19.Lemmas
namespace OttoVerif.C19.Thm
open OttoVerif.C19

/-- `parser.position` agrees with §7.3 on every source and every offset inside it. -/
theorem lineCount_spec (src : Src) (off : Nat) (h : off ≤ src.length) :
    parserPosition src off = Spec.position src off := by
  have hl : (src.take off).length = off := by rw [List.length_take]; omega
  have hs := fp_sim (src.take off) 0 0 (-1) 0 1 (Nat.zero_le _) (by omega)
  have hc := walk_col (src.take off) 0 1 1
  rw [Nat.zero_add, hl] at hs
  rw [← hs, hl] at hc
  rw [Spec.position, ← hs, parserPosition, lineCount, (lc_fp _ 0 0 (-1) 0).1, hl]
  generalize fpLoop (src.take off) 0 0 (-1) 0 = res at hc
  -- `parser.position` tells "no terminator yet" by `last < 0`; `last` is then the initial −1, since the column is ≤ off + 1
  show (1 + res.1, _) = (res.1 + 1, _)
  rw [Nat.add_comm]
  congr 1
  simp only [posOf] at hc
  split <;> omega

/-- a syntax error recorded by `(*parser).error(idx, …)` carries `p.position(idx)`: for every source and every
    offset in it this is the §7.3 line and column (all four line terminators, <CR><LF> counted once).
    (That the offset handed to `error` is the offending token's is established by the correspondence stream
    `synerr`, not proved.) -/
theorem syntax_error_position (src : Src) (off : Nat) (h : off ≤ src.length) :
    parserPosition src off = Spec.walk (src.take off) 0 1 1 := lineCount_spec src off h

/-- `file.Position` (which locates every run-time stack frame) agrees with §7.3 on every source and every idx:
    all four line terminators, <CR><LF> once; idx outside the source ↦ nil on both sides. -/
theorem position_spec_base (src : Src) (base idx : Int) :
    filePosition src base idx = Spec.positionAt src (idx - base) := by
  unfold filePosition Spec.positionAt
  by_cases hr : 0 ≤ idx - base ∧ idx - base < (src.length : Int)
  · have hlen : (src.take (idx - base).toNat).length = (idx - base).toNat := by rw [List.length_take]; omega
    have := fp_sim (src.take (idx - base).toNat) 0 0 (-1) 0 1 (Nat.zero_le _) (by omega)
    rw [Nat.zero_add, hlen] at this
    rw [if_neg (by omega), if_pos hr]
    exact congrArg some this
  · rw [if_pos (by omega), if_neg hr]

theorem position_spec (src : Src) (idx : Int) :
    filePosition src 1 idx = Spec.positionAt src (idx - 1) := position_spec_base src 1 idx

/-- `(*FileSet).Position`: the file that contains idx, and the §7.3 position of idx in it – for every set of
    files and every idx -/
theorem fileset_position_spec (fs : List (Int × Src)) (idx : Int) :
    fileSetPosition fs idx = Spec.fileSetPosition fs idx := by
  induction fs with
  | nil => rfl
  | cons f r ih =>
    obtain ⟨base, src⟩ := f
    simp only [fileSetPosition, Spec.fileSetPosition, position_spec_base, ih]

/-- the two position functions of otto agree with each other (run-time frames vs. syntax errors) -/
theorem positions_agree (src : Src) (off : Nat) (h : off < src.length) :
    filePosition src 1 ((off : Int) + 1) = some (parserPosition src off) := by
  rw [position_spec, lineCount_spec src off (by omega)]
  have : (0 : Int) ≤ (off : Int) + 1 - 1 ∧ (off : Int) + 1 - 1 < (src.length : Int) := by omega
  simp [Spec.positionAt, h]

/-- lone <CR>, <LS>, <CR><LF> -/
example : filePosition [0x61, 13, 0x62] 1 3 = some (2, 1) ∧ filePosition [0xE2, 0x80, 0xA8, 0x62] 1 4 = some (2, 1) ∧
    filePosition [0x61, 13, 10, 0x62, 10, 0x63] 1 6 = some (3, 1) := by decide

/-! ## stack traces: the scope chain the evaluator builds (`enterLevels`) against the activations of the
     specification (`Spec.acts`), then `newError`'s walk over it -/

/-- the frame the code should hold for an activation -/
def frameOfAct (a : Spec.Act) : Frame :=
  { callee := a.name, native := a.native, file := if a.native then none else some a.file, offset := a.cur }

def FileOK (f : Frame) (fl : Nat) : Prop := f.file = if f.native then none else some fl

theorem setTopOffset_cons (o : Int) (f : Frame) (r : Stack) :
    setTopOffset o (f :: r) = { f with offset := o } :: r := rfl

/-- the operation leaves the scope chain as it was, up to the offset held by the innermost frame -/
def OffsetOnly (op : Stack → Stack) : Prop :=
  ∀ (f : Frame) (rest : Stack), ∃ o, op (f :: rest) = { f with offset := o } :: rest

theorem OffsetOnly.id : OffsetOnly fun s => s := fun f _ => ⟨f.offset, rfl⟩

theorem OffsetOnly.set (o : Int) : OffsetOnly (setTopOffset o) := fun _ _ => ⟨o, rfl⟩

theorem OffsetOnly.comp {a b : Stack → Stack} (ha : OffsetOnly a) (hb : OffsetOnly b) :
    OffsetOnly fun s => b (a s) := fun f rest => by
  obtain ⟨o, ho⟩ := ha f rest
  obtain ⟨o', ho'⟩ := hb { f with offset := o } rest
  exact ⟨o', (congrArg b ho).trans ho'⟩

theorem OffsetOnly.foldl : (inner : List Int) → OffsetOnly fun s => inner.foldl (fun s o => setTopOffset o s) s
  | [] => .id
  | a :: r => (OffsetOnly.set a).comp (OffsetOnly.foldl r)

/-- A direct eval gives the calling frame back exactly as it was at the eval call site – its own file, and the
    position of the `eval(…)` call – whatever calls the eval code made and HOWEVER it ended: by completing, or by
    throwing an exception (caught further out).  Positions of later errors in that activation are therefore
    those of the enclosing source. -/
theorem direct_eval_restores_frame (off : Int) (k : Nat) (inner : List Int) (exit : Exit) (f : Frame) (rest : Stack) :
    directEvalCall off k inner exit (f :: rest) = { f with offset := off } :: rest := by
  -- the eval code moves only the offset; the deferred restore then puts back file and offset as saved at the call site
  obtain ⟨o, ho⟩ := OffsetOnly.foldl inner { f with offset := off, file := some k } rest
  exact congrArg (restoreTop { f with offset := off }) ho

/-- the straight-line variant (restore written after the body instead of deferred) is skipped by a throw: the
    frame keeps the eval source and the eval code's last call site -/
example :
    let f : Frame := { callee := "f", file := some 0, offset := 40 }
    let inlineRestore (exit : Exit) (saved : Frame) (s : Stack) : Stack :=
      let body := [7].foldl (fun s o => setTopOffset o s) (setTopFile 2 s)
      match exit with | .normal => restoreTop saved body | .throw => body
    inlineRestore .throw f [f] = [{ f with file := some 2, offset := 7 }] ∧
    evalProgram 2 [7] .throw f [f] = [f] ∧ evalProgram 2 [7] .normal f [f] = [f] := by decide

theorem OffsetOnly.directEval (off : Int) (k : Nat) (inner : List Int) (exit : Exit) :
    OffsetOnly (directEvalCall off k inner exit) :=
  fun f rest => ⟨off, direct_eval_restores_frame off k inner exit f rest⟩

/-- completed statements (calls, direct evals) leave nothing behind in the frame but an offset -/
theorem OffsetOnly.runPre : (pre : List Pre) → OffsetOnly (runPre pre)
  | [] => .id
  | .doneCall fm off :: ps => (OffsetOnly.set (atvOf fm off)).comp (OffsetOnly.runPre ps)
  | .directEval off k inner exit :: ps => (OffsetOnly.directEval off k inner exit).comp (OffsetOnly.runPre ps)

/- Evaluating an argument list – calls, `new` and direct evals nested in arguments to any depth – touches nothing
   but the offset of the calling frame. -/
mutual
theorem OffsetOnly.evalArg : (a : Arg) → OffsetOnly (evalArg a)
  | .lit => .id
  | .call fm off as => (OffsetOnly.evalArgs as).comp (.set (atvOf fm off))
  | .evalDirect off k => .directEval off k [] .normal
theorem OffsetOnly.evalArgs : (as : Args) → OffsetOnly (evalArgs as)
  | .nil => .id
  | .cons a r => (OffsetOnly.evalArg a).comp (OffsetOnly.evalArgs r)
end

theorem evalArg_shape : ∀ (a : Arg) (f : Frame) (rest : Stack),
    ∃ o, evalArg a (f :: rest) = { f with offset := o } :: rest := OffsetOnly.evalArg

def LevelOK (lv : Level) : Prop :=
  lv.form ≠ .other ∧ lv.via ≠ .implicit ∧ lv.via ≠ .evalDirect

theorem atvOf_recorded (fm : Form) (off : Int) (h : fm ≠ .other) : atvOf fm off = off := by
  cases fm <;> simp_all [atvOf]

/-- all activations but the innermost, outermost first -/
def outerActs (name : String) (native : Bool) (file : Nat) : List Level → List Spec.Act
  | [] => []
  | lv :: ls =>
    let here : Spec.Act := { name := name, native := native, file := file, cur := lv.off }
    match lv.via with
    | .viaNative n => here :: { name := n, native := true, file := 0, cur := 0 } :: outerActs lv.name false lv.file ls
    | .nativeOnly => here :: outerActs lv.name true 0 ls
    | .evalDirect => here :: outerActs "" false lv.file ls
    | .evalIndirect => here :: { name := "eval", native := true, file := 0, cur := 0 } :: outerActs "" false lv.file ls
    | _ => here :: outerActs lv.name false lv.file ls

def innerAct (name : String) (native : Bool) (file : Nat) : List Level → Int → Spec.Act
  | [], cur => { name := name, native := native, file := file, cur := cur }
  | lv :: ls, cur =>
    match lv.via with
    | .nativeOnly => innerAct lv.name true 0 ls cur
    | .evalDirect => innerAct "" false lv.file ls cur
    | .evalIndirect => innerAct "" false lv.file ls cur
    | _ => innerAct lv.name false lv.file ls cur

/-- What one level adds to the activations: those between the caller and the new innermost one (the native that
    calls back, the native `eval`) … -/
def midActs (lv : Level) : List Spec.Act :=
  match lv.via with
  | .viaNative n => [{ name := n, native := true, file := 0, cur := 0 }]
  | .evalIndirect => [{ name := "eval", native := true, file := 0, cur := 0 }]
  | _ => []

/-- … and the new innermost activation, as it is entered (no call site yet) -/
def newAct (lv : Level) : Spec.Act :=
  match lv.via with
  | .nativeOnly => { name := lv.name, native := true, file := 0, cur := 0 }
  | .evalDirect | .evalIndirect => { name := "", native := false, file := lv.file, cur := 0 }
  | _ => { name := lv.name, native := false, file := lv.file, cur := 0 }

theorem acts_cons (name : String) (native : Bool) (fl : Nat) (lv : Level) (ls : List Level) (cur : Int) :
    Spec.acts name native fl (lv :: ls) cur =
      { name := name, native := native, file := fl, cur := lv.off } ::
        (midActs lv ++ Spec.acts (newAct lv).name (newAct lv).native (newAct lv).file ls cur) := by
  cases hv : lv.via <;> simp [Spec.acts, midActs, newAct, hv]

theorem outerActs_cons (name : String) (native : Bool) (fl : Nat) (lv : Level) (ls : List Level) :
    outerActs name native fl (lv :: ls) =
      { name := name, native := native, file := fl, cur := lv.off } ::
        (midActs lv ++ outerActs (newAct lv).name (newAct lv).native (newAct lv).file ls) := by
  cases hv : lv.via <;> simp [outerActs, midActs, newAct, hv]

theorem innerAct_cons (name : String) (native : Bool) (fl : Nat) (lv : Level) (ls : List Level) (cur : Int) :
    innerAct name native fl (lv :: ls) cur = innerAct (newAct lv).name (newAct lv).native (newAct lv).file ls cur := by
  cases hv : lv.via <;> simp [innerAct, newAct, hv]

theorem acts_split (ls : List Level) : ∀ (name : String) (native : Bool) (fl : Nat) (cur : Int),
    Spec.acts name native fl ls cur = outerActs name native fl ls ++ [innerAct name native fl ls cur] := by
  induction ls with
  | nil => intro name native fl cur; rfl
  | cons lv ls ih =>
    intro name native fl cur
    rw [acts_cons, outerActs_cons, innerAct_cons, ih, List.cons_append, List.append_assoc]

@[simp] theorem frameOfAct_callee (a : Spec.Act) : (frameOfAct a).callee = a.name := rfl
@[simp] theorem frameOfAct_native (a : Spec.Act) : (frameOfAct a).native = a.native := rfl

theorem frameOfAct_eq {f : Frame} {fl : Nat} (hf : FileOK f fl) (o : Int) :
    frameOfAct { name := f.callee, native := f.native, file := fl, cur := o } = { f with offset := o } := by
  rw [frameOfAct, ← hf]

/-- Entering a level through a recorded callee: the calling frame keeps the call site, the frames of the activations
    in between and of the new innermost one are pushed – whatever ran before in the frame and in the argument list. -/
theorem enterLevel_cons (lv : Level) (hok : LevelOK lv) (top : Frame) (rest : Stack) :
    enterLevel lv (top :: rest) =
      frameOfAct (newAct lv) :: ((midActs lv).reverse.map frameOfAct ++ { top with offset := lv.off } :: rest) := by
  obtain ⟨hform, hvia, hvia2⟩ := hok
  obtain ⟨o1, ho1⟩ := OffsetOnly.runPre lv.pre top rest
  obtain ⟨o, ho⟩ := OffsetOnly.evalArgs lv.args { top with offset := o1 } rest
  simp only [enterLevel, ho1, ho, setTopOffset_cons, atvOf_recorded _ _ hform]
  cases hv : lv.via with
  | implicit => exact absurd hv hvia
  | evalDirect => exact absurd hv hvia2
  | _ => simp [midActs, newAct, hv, frameOfAct, nodeFrame, nativeFrame]

/-- The scope chain after entering the levels: the frame of the innermost activation (whatever offset it holds)
    on top of the frames of the outer ones, each holding the site of the call it is making. -/
theorem stack_shape (ls : List Level) : ∀ (top : Frame) (fl : Nat) (rest : Stack), FileOK top fl →
    (∀ lv ∈ ls, LevelOK lv) →
    ∃ f, enterLevels ls (top :: rest) =
        f :: ((outerActs top.callee top.native fl ls).reverse.map frameOfAct ++ rest) ∧
      ∀ cur, ({ f with offset := cur } : Frame) = frameOfAct (innerAct top.callee top.native fl ls cur) := by
  induction ls with
  | nil => intro top fl rest hf _; exact ⟨top, rfl, fun cur => (frameOfAct_eq hf cur).symm⟩
  | cons lv ls ih =>
    intro top fl rest hf hall
    obtain ⟨f, hf', hcur⟩ := ih (frameOfAct (newAct lv)) (newAct lv).file
      ((midActs lv).reverse.map frameOfAct ++ { top with offset := lv.off } :: rest) rfl
      (fun l hl => hall l (by simp [hl]))
    refine ⟨f, ?_, fun cur => by rw [innerAct_cons]; exact hcur cur⟩
    rw [enterLevels, enterLevel_cons lv (hall lv (by simp)), hf', outerActs_cons]
    simp [frameOfAct_eq hf]

theorem outerActs_nonneg (ls : List Level) : ∀ (name : String) (native : Bool) (fl : Nat),
    (∀ lv ∈ ls, 0 ≤ lv.off) → ∀ a ∈ outerActs name native fl ls, 0 ≤ a.cur := by
  induction ls with
  | nil => intro _ _ _ _ a ha; cases ha
  | cons lv ls ih =>
    intro name native fl hall
    -- the calling activation holds `lv.off`; a native in between holds 0
    have hmid : ∀ a ∈ midActs lv, 0 ≤ a.cur := by
      intro a ha
      cases hv : lv.via <;> simp [midActs, hv] at ha <;> simp [ha]
    rw [outerActs_cons]
    simp only [List.forall_mem_cons, List.mem_append]
    exact ⟨hall lv (by simp), fun a ha => ha.elim (hmid a) (ih _ _ _ (fun l hl => hall l (by simp [hl])) a)⟩

theorem innerAct_native (ls : List Level) : ∀ (name : String) (native : Bool) (fl : Nat) (cur : Int),
    (innerAct name native fl ls cur).native =
      (match ls.getLast? with | some lv => lv.via == .nativeOnly | none => native) := by
  induction ls with
  | nil => intro _ _ _ _; rfl
  | cons lv ls ih =>
    intro name native fl cur
    rw [innerAct_cons, ih]
    cases ls with
    | nil => cases hv : lv.via <;> simp [newAct, hv]
    | cons l2 ls2 =>
      rw [List.getLast?_cons_cons]
      cases hg : (l2 :: ls2).getLast? with
      | none => simp at hg
      | some x => rfl

theorem innerAct_cur (ls : List Level) : ∀ (name : String) (native : Bool) (fl : Nat) (cur : Int),
    (innerAct name native fl ls cur).cur = cur := by
  induction ls with
  | nil => intro _ _ _ _; rfl
  | cons lv ls ih => intro name native fl cur; rw [innerAct_cons, ih]

/-- The call site survives the argument list: when a call through a recorded callee is made, the calling frame
    holds the position of *that* call – whatever calls (nested to any depth, `new` included) its arguments
    contained and whatever ran before it in the frame.  (The assignment `rt.scope.frame.offset = int(atv)` comes
    after argument evaluation, immediately before `call`.) -/
theorem call_site_after_args (lv : Level) (f : Frame) (rest : Stack)
    (hform : lv.form ≠ .other) (hvia : lv.via = .direct ∨ lv.via = .construct ∨ lv.via = .bound) :
    enterLevel lv (f :: rest) = nodeFrame lv.name lv.file :: { f with offset := lv.off } :: rest := by
  rw [enterLevel_cons lv ⟨hform, by rcases hvia with h | h | h <;> simp [h], by rcases hvia with h | h | h <;> simp [h]⟩]
  rcases hvia with h | h | h <;> simp [midActs, newAct, h, frameOfAct, nodeFrame]

/-- Every ACTIVE frame reports the call still in progress: below the innermost activation the scope chain is,
    frame by frame, (function name, site of the call it is currently making), for every nesting of activations
    and every nesting of completed calls in their argument lists. -/
theorem active_frames_report_call_in_progress (ls : List Level) (hok : ∀ lv ∈ ls, LevelOK lv) :
    (enterLevels ls (globalStack 0)).tail = (outerActs "" false 0 ls).reverse.map frameOfAct := by
  obtain ⟨f, hf, _⟩ := stack_shape ls { callee := "", file := some 0 } 0 [] rfl hok
  rw [globalStack, hf, List.tail_cons, List.append_nil]

/-- the order matters: recording the site *before* the arguments are evaluated (as a hoisted assignment would)
    leaves the position of the argument's call `id(2)` (20) in the frame instead of the outer call's (5) -/
example :
    let f : Frame := { callee := "outer", file := some 0 }
    let args : Args := .cons .lit (.cons (.call .ident 20 .nil) .nil)
    setTopOffset 5 (evalArgs args [f]) = [{ f with offset := 5 }] ∧
    evalArgs args (setTopOffset 5 [f]) = [{ f with offset := 20 }] := by decide

theorem newErrorTrace_cons (f : Frame) (outer : Stack) (limit : Int) (atv : Option Int) :
    newErrorTrace (f :: outer) limit 0 atv =
      (match atv with | some a => { f with offset := a } | none => f) :: walkOuter outer limit := rfl

/-- when every outer scope has a recorded call site the walk is the configured cut of the whole chain -/
theorem cons_walkOuter (x : Frame) (T : Stack) (limit : Int) (h : ∀ f ∈ T, nonneg f = true) :
    x :: walkOuter T limit = Spec.applyLimit limit (x :: T) := by
  rw [walkOuter_eq, Spec.applyLimit]
  by_cases hl : limit ≥ 1
  · have h2 : limit.toNat = (limit - 1).toNat + 1 := by omega
    rw [if_pos hl, if_pos hl, h2, List.take_succ_cons,
      List.filter_eq_self.mpr (fun f hf => h f (List.mem_of_mem_take hf))]
  · rw [if_neg hl, if_neg hl, List.filter_eq_self.mpr h]

theorem loc_act (files : List FileEnt) (a : Spec.Act) :
    location files (frameOfAct a) = Spec.actOut files a := by
  cases hn : a.native with
  | true => simp [location, frameOfAct, Spec.actOut, hn]
  | false =>
    simp only [location, frameOfAct, Spec.actOut, hn, Bool.false_eq_true, if_false]
    cases hf : files[a.file]? with
    | none => rfl
    | some fe =>
      simp only []
      rw [position_spec fe.src a.cur]
      cases Spec.positionAt fe.src (a.cur - 1) with
      | none => rfl
      | some p => rfl

theorem applyLimit_map {α β : Type} (g : α → β) (limit : Int) (l : List α) :
    (Spec.applyLimit limit l).map g = Spec.applyLimit limit (l.map g) := by
  unfold Spec.applyLimit
  split <;> simp [List.map_take]

theorem applyLimit_length {α : Type} (limit : Int) (l : List α) :
    (Spec.applyLimit limit l).length = if limit ≥ 1 then min limit.toNat l.length else l.length := by
  unfold Spec.applyLimit
  split
  · exact List.length_take
  · rfl

/-- outside the first three regions of `Spec.traceDevs` every level is entered by an explicit call through a recorded
    callee and is no direct eval; the fourth region is taken up by `recorded_or_native` -/
theorem traceDevs_nil {sc : Scenario} (h : Spec.traceDevs sc = []) :
    (∀ lv ∈ sc.levels, LevelOK lv) ∧ Spec.devErrPos sc = false := by
  have key : ∀ (b : Bool) (s : String), (if b = true then [s] else []) = [] → b = false := by
    intro b s; cases b <;> simp
  simp only [Spec.traceDevs, List.append_eq_nil_iff] at h
  refine ⟨fun lv hm => ?_, key _ _ h.2⟩
  have a2 : lv.via ≠ .implicit := by simpa using List.any_eq_false.mp (key _ _ h.1.1.2) lv hm
  have a3 : lv.via ≠ .evalDirect := by simpa using List.any_eq_false.mp (key _ _ h.1.2) lv hm
  exact ⟨by simpa [a2] using List.any_eq_false.mp (key _ _ h.1.1.1) lv hm, a2, a3⟩

/-- the raising construct hands its own position to `newError` -/
def Recorded : Raise → Prop
  | .withAt _ => True
  | .nonFn fm _ => fm ≠ .other
  | .siteBare fm _ => fm ≠ .other
  | .bare _ => False

/-- the frames of an error: the innermost frame with some offset – the raising construct's own when it is
    recorded – and the walk over the outer scopes -/
theorem raiseTrace_cons (limit : Int) (pre : List Pre) (r : Raise) (f : Frame) (rest : Stack) :
    ∃ o, raiseTrace limit pre r (f :: rest) = { f with offset := o } :: walkOuter rest limit ∧
      (Recorded r → o = Spec.raiseOff r) := by
  obtain ⟨o, ho⟩ := OffsetOnly.runPre pre f rest
  simp only [raiseTrace, ho]
  cases r with
  | withAt off => exact ⟨off, rfl, fun _ => rfl⟩
  | nonFn fm off | siteBare fm off => exact ⟨atvOf fm off, rfl, fun h => atvOf_recorded fm off h⟩
  | bare off => exact ⟨o, rfl, fun h => h.elim⟩

/-- outside region `errpos_no_at` the raise is recorded, or the innermost activation is native (and shows no position) -/
theorem recorded_or_native {sc : Scenario} (h : Spec.devErrPos sc = false) :
    Recorded sc.raise ∨ Spec.innermostNative sc.levels = true := by
  unfold Spec.devErrPos at h
  cases hr : sc.raise with
  | withAt off => exact .inl trivial
  | bare off => rw [hr] at h; exact .inr (by simpa using h)
  | nonFn fm off | siteBare fm off =>
    rw [hr] at h
    cases fm with
    | other => exact Bool.noConfusion h
    | _ => exact .inl (by simp [Recorded])

/-- Outside the regions of `Spec.traceDevs`, and with every call site recorded at a non-negative offset, the stack
    trace of an error (the frames `newError` keeps, each located by `file.Position`) is the specification's: every
    active call innermost first with its current position, natives as native code, cut at the configured limit –
    for every table of sources, every limit and every nesting (callbacks and indirect eval included). -/
theorem trace_complete_partial (files : List FileEnt) (limit : Int) (sc : Scenario)
    (hdev : Spec.traceDevs sc = [])
    (hoff : ∀ lv ∈ sc.levels, 0 ≤ lv.off) :
    trace files limit sc = Spec.trace files limit sc := by
  obtain ⟨hok, h4⟩ := traceDevs_nil hdev
  -- the scope chain at the raising construct: the frame of the innermost activation on those of the outer ones
  obtain ⟨f, hS, hcur⟩ :=
    stack_shape sc.levels { callee := "", file := some 0 } 0 [] rfl hok
  rw [List.append_nil] at hS
  -- the code keeps that frame, with the offset of the raise, and walks the outer ones
  obtain ⟨o, hT, ho⟩ := raiseTrace_cons limit sc.pre sc.raise f ((outerActs "" false 0 sc.levels).reverse.map frameOfAct)
  have hloc : location files { f with offset := o } =
      location files (frameOfAct (innerAct "" false 0 sc.levels (Spec.raiseOff sc.raise))) := by
    rcases recorded_or_native h4 with hr | hn
    · rw [ho hr, hcur]
    · -- a native frame is located without looking at its offset
      have hfn : f.native = Spec.innermostNative sc.levels :=
        (congrArg Frame.native (hcur 0)).trans (innerAct_native sc.levels "" false 0 0)
      rw [← hcur]
      simp [location, hfn, hn]
  -- every outer frame holds a call site, so the walk drops none
  have hnn : ∀ g ∈ (outerActs "" false 0 sc.levels).reverse.map frameOfAct, nonneg g = true := by
    intro g hg
    simp only [List.mem_map, List.mem_reverse] at hg
    obtain ⟨a, ha, rfl⟩ := hg
    simpa [nonneg, frameOfAct] using outerActs_nonneg sc.levels "" false 0 hoff a ha
  rw [trace, traceFrames, globalStack, hS, hT, List.map_cons, hloc, ← List.map_cons, cons_walkOuter _ _ _ hnn,
    applyLimit_map, Spec.trace, acts_split]
  simp [loc_act, Function.comp_def]

/-- `newError`: with every outer scope recorded, the trace has as many frames as the scope chain cut to the limit
    (it is that cut: `cons_walkOuter`); a limit ≤ 0 never reaches `limit == 0` after `limit--`, i.e. means "no limit". -/
theorem trace_limit (f : Frame) (outer : Stack) (limit : Int) (atv : Option Int)
    (h : ∀ g ∈ outer, g.offset ≥ 0) :
    (newErrorTrace (f :: outer) limit 0 atv).length =
      if limit ≥ 1 then min limit.toNat (outer.length + 1) else outer.length + 1 := by
  have hn : ∀ g ∈ outer, nonneg g = true := fun g hg => by simpa [nonneg] using h g hg
  rw [newErrorTrace_cons, cons_walkOuter _ _ _ hn, applyLimit_length, List.length_cons]

/-- `Copy()` hands the configured limits on unchanged, however often it is applied -/
theorem cloneN_limits (n : Nat) (l : Limits) : cloneN n l = l := by
  induction n generalizing l with
  | zero => rfl
  | succ n ih => simp only [cloneN]; rw [ih]; cases l; rfl

/-- `trace_limit` for copies: on a runtime obtained by any number of `Copy()`s from one configured with trace
    limit `l.trace` (and any stack-depth limit), an error below `depth` nested calls has exactly
    `min(limit, depth + 1)` frames for a limit ≥ 1 and all `depth + 1` frames for a limit ≤ 0 – the same as on the
    original. -/
theorem trace_limit_copy (n : Nat) (l : Limits) (depth : Nat) :
    traceCount (cloneN n l) depth = Spec.traceCount l.trace depth ∧
    Spec.traceCount l.trace depth = (if l.trace ≥ 1 then min l.trace.toNat (depth + 1) else depth + 1) := by
  rw [cloneN_limits]
  have hs : Spec.traceCount l.trace depth = (if l.trace ≥ 1 then min l.trace.toNat (depth + 1) else depth + 1) := by
    rw [Spec.traceCount, applyLimit_length, List.length_replicate]
  refine ⟨?_, hs⟩
  rw [hs, traceCount, nestStack, List.replicate_succ,
    trace_limit _ _ _ _ (by intro g hg; rw [List.eq_of_mem_replicate hg]; decide), List.length_replicate]

/-- in general a positive limit bounds the scopes *visited*, not the frames kept: scopes whose offset is
    negative are skipped but still count -/
theorem trace_limit_visits (f : Frame) (outer : Stack) (n : Nat) (atv : Option Int) :
    (newErrorTrace (f :: outer) ((n : Int) + 1) 0 atv).tail = (outer.take n).filter nonneg := by
  rw [newErrorTrace_cons, List.tail_cons, walkOuter_eq, if_pos (by omega)]
  congr 2
  omega

/-- apart from the innermost frame, a frame whose recorded offset is negative (call through a callee that is
    not an identifier / dot / bracket expression records -1) never appears in a trace: the caller is dropped -/
theorem trace_drops_unrecorded (s : Stack) (limit : Int) : ∀ f ∈ walkOuter s limit, f.offset ≥ 0 := by
  intro f hf
  rw [walkOuter_eq] at hf
  simpa [nonneg] using (List.mem_filter.mp hf).2

/-- `SetStackTraceLimit(0)` (or any negative limit) means no limit: `limit--` never meets 0 -/
theorem trace_limit_zero_unlimited (f : Frame) (outer : Stack) (limit : Int) (h : limit ≤ 0) :
    newErrorTrace (f :: outer) limit 0 none = f :: outer.filter nonneg := by
  rw [newErrorTrace_cons, walkOuter_eq, if_neg (by omega)]

/-- non-vacuity of `trace_complete_partial`: f calls g through a method, g reads an undefined variable -/
example :
    let src : Src := [102, 117, 110, 99, 116, 105, 111, 110, 32, 103, 40, 41, 123, 32, 122, 122, 122, 32, 125, 10, 118, 97, 114, 32, 111, 32, 61, 32, 123, 109, 58, 32, 102, 117, 110, 99, 116, 105, 111, 110, 32, 102, 40, 41, 123, 32, 103, 40, 41, 32, 125, 125, 10, 111, 46, 109, 40, 41]  -- 'function g(){ zzz }\nvar o = {m: function f(){ g() }}\no.m()'
    let sc : Scenario := { levels := [⟨.direct, .dot, "f", 54, [], 0, .nil⟩, ⟨.direct, .ident, "g", 47, [], 0, .nil⟩], pre := [], raise := .withAt 15 }
    Spec.traceDevs sc = [] ∧
    trace [⟨"", src⟩] 10 sc =
      [⟨"g", .at "<anonymous>" 1 15⟩, ⟨"f", .at "<anonymous>" 2 27⟩, ⟨"", .at "<anonymous>" 3 1⟩] := by
  decide +kernel

/-- Dev `trace_unrecorded_callee`: the caller of an IIFE disappears from the trace. -/
example :
    let src : Src := [102, 117, 110, 99, 116, 105, 111, 110, 32, 102, 40, 41, 123, 32, 40, 102, 117, 110, 99, 116, 105, 111, 110, 40, 41, 123, 32, 122, 122, 122, 32, 125, 41, 40, 41, 32, 125, 10, 102, 40, 41]  -- 'function f(){ (function(){ zzz })() }\nf()'
    let sc : Scenario := { levels := [⟨.direct, .ident, "f", 39, [], 0, .nil⟩, ⟨.direct, .other, "", 16, [], 0, .nil⟩], pre := [], raise := .withAt 28 }
    Spec.traceDevs sc = ["trace_unrecorded_callee"] ∧
    trace [⟨"", src⟩] 10 sc ≠ Spec.trace [⟨"", src⟩] 10 sc := by
  decide +kernel

/-- Dev `trace_implicit_call`: a getter is entered without any call site being recorded in f. -/
example :
    let src : Src := [118, 97, 114, 32, 111, 32, 61, 32, 123, 103, 101, 116, 32, 120, 40, 41, 123, 32, 122, 122, 122, 59, 32, 125, 125, 59, 10, 102, 117, 110, 99, 116, 105, 111, 110, 32, 102, 40, 41, 123, 32, 111, 46, 120, 59, 32, 125, 10, 102, 40, 41, 59]  -- 'var o = {get x(){ zzz; }};\nfunction f(){ o.x; }\nf();'
    let sc : Scenario := { levels := [⟨.direct, .ident, "f", 49, [], 0, .nil⟩, ⟨.implicit, .other, "", 42, [], 0, .nil⟩], pre := [], raise := .withAt 19 }
    Spec.traceDevs sc = ["trace_implicit_call"] ∧
    trace [⟨"", src⟩, ⟨"", [0x31]⟩] 10 sc ≠ Spec.trace [⟨"", src⟩, ⟨"", [0x31]⟩] 10 sc := by
  decide +kernel

/-- a completed direct eval no longer disturbs the frame: positions after it are found in the function's own file -/
example :
    let src : Src := [102, 117, 110, 99, 116, 105, 111, 110, 32, 102, 40, 41, 123, 32, 101, 118, 97, 108, 40, 34, 49, 34, 41, 59, 10, 32, 122, 122, 122, 59, 32, 125, 10, 102, 40, 41, 59]  -- 'function f(){ eval("1");\n zzz; }\nf();'
    let sc : Scenario := { levels := [⟨.direct, .ident, "f", 34, [], 0, .nil⟩], pre := [.directEval 15 1 [] .normal], raise := .withAt 27 }
    Spec.traceDevs sc = [] ∧
    trace [⟨"", src⟩, ⟨"", [0x31]⟩] 10 sc = [⟨"f", .at "<anonymous>" 2 2⟩, ⟨"", .at "<anonymous>" 3 1⟩] := by
  decide +kernel

/-- Dev `trace_direct_eval_frame`: code running inside a direct eval has no frame of its own; it is reported under
    the caller's name and the position of the `eval(…)` call is not in the trace. -/
example :
    let src : Src := [102, 117, 110, 99, 116, 105, 111, 110, 32, 102, 40, 41, 123, 32, 101, 118, 97, 108, 40, 34, 122, 122, 122, 59, 34, 41, 59, 32, 125, 10, 102, 40, 41, 59]  -- 'function f(){ eval("zzz;"); }\nf();'
    let sc : Scenario := { levels := [⟨.direct, .ident, "f", 31, [], 0, .nil⟩, ⟨.evalDirect, .ident, "", 15, [], 2, .nil⟩], pre := [], raise := .withAt 1 }
    Spec.traceDevs sc = ["trace_direct_eval_frame"] ∧
    trace [⟨"", src⟩, ⟨"", [0x31]⟩, ⟨"", [122, 122, 122, 59]⟩] 10 sc ≠ Spec.trace [⟨"", src⟩, ⟨"", [0x31]⟩, ⟨"", [122, 122, 122, 59]⟩] 10 sc := by
  decide +kernel

/-- Dev `errpos_no_at`: instanceof on a non-object reports no position. -/
example :
    let src : Src := [102, 117, 110, 99, 116, 105, 111, 110, 32, 102, 40, 41, 123, 10, 32, 32, 49, 32, 105, 110, 115, 116, 97, 110, 99, 101, 111, 102, 32, 50, 59, 32, 125, 10, 102, 40, 41, 59]  -- 'function f(){\n  1 instanceof 2; }\nf();'
    let sc : Scenario := { levels := [⟨.direct, .ident, "f", 35, [], 0, .nil⟩], pre := [], raise := .bare 17 }
    Spec.traceDevs sc = ["errpos_no_at"] ∧
    trace [⟨"", src⟩, ⟨"", [0x31]⟩] 10 sc ≠ Spec.trace [⟨"", src⟩, ⟨"", [0x31]⟩] 10 sc := by
  decide +kernel

theorem format_eq_toString (n m : String) : format n m = Spec.errorToString (some n) (some m) := by
  simp [format, Spec.errorToString]

/-- The message given to an error constructor – with or without `new`, or through `Otto.Make*Error` – is data:
    whatever it looks like (its own class name and ": " in front, format verbs, newlines, nothing at all) it is what
    `e.message`, `String(e)`, the first line of `e.stack` and the error returned by `Run` show. -/
theorem error_message_is_data (r : Route) (ctor m : String) :
    (errObs r ctor (some m)).msg = m ∧ (errObs r ctor (some m)).runText = Spec.errorToString (some ctor) (some m) ∧
    (errObs r ctor (some m)).str = Spec.errorToString (some ctor) (some m) ∧
    (errObs r ctor (some m)).stackHead = Spec.errorToString (some ctor) (some m) := by
  simp [errObs, format_eq_toString]

/-- error objects made with a message are exactly as §15.11 describes them, by every route: own `message` =
    the argument as a string (also the empty one), `name` inherited (own only for custom names), and the constructor
    called as a function leaves no frame of its own -/
theorem errObs_eq (r : Route) (ctor : String) (arg : Option String) :
    errObs r ctor arg = Spec.errObs r ctor arg := by
  simp [errObs, Spec.errObs, format_eq_toString]

/-- engine errors name the offending user text verbatim (no format verbs are interpreted) -/
theorem engine_msg_eq (em : EngineMsg) : engineMsg em = Spec.engineMsg em := by
  cases em <;> rfl

/-- `Error.prototype.toString` follows §15.11.4.4 on every this value – objects, null and primitives (TypeError) –
    except undefined (region `tostring_non_object_this`: an undefined this arrives as the global object) -/
theorem error_proto_toString (k : ThisKind) (hu : k ≠ .undef) :
    errorProtoToString k = Spec.errorProtoToString k := by
  cases k with
  | undef => exact absurd rfl hu
  | null => rfl
  | prim => rfl
  | object n m => simp [errorProtoToString, Spec.errorProtoToString, format_eq_toString]; cases n <;> cases m <;> rfl

/-- Dev `tostring_non_object_this`: `Error.prototype.toString.call(undefined)` -/
example : errorProtoToString .undef = some "Error" ∧ Spec.errorProtoToString .undef = none := by decide

/-! ## §15.11 classes: the decision table over `ErrKind` -/

/-- every error kind the interpreter raises is caught as an instance of the §15.11 class its raising clause
    prescribes, and of Error -/
theorem error_class (k : ErrKind) :
    (caught k).name = Spec.errClass k ∧ (caught k).instanceOf = [Spec.errClass k, "Error"] := by
  cases k <;> decide

/-- … and with a non-empty message, except for the kinds raised with an empty one (region `msg_empty`) -/
theorem error_class_full (k : ErrKind) (h : (errTable k).2 = true) : caught k = Spec.caught k := by
  have hn := error_class k
  show (⟨(caught k).name, (caught k).instanceOf, (errTable k).2⟩ : Caught) = _
  rw [hn.1, hn.2, h]
  rfl

/-- Dev `msg_empty`: an invalid array length raises a RangeError with an empty message. -/
example : caught .arrayLenCtor ≠ Spec.caught .arrayLenCtor ∧ (errTable .arrayLenCtor).2 = false := by decide

/-- the text of the error `Run` returns is 'Name: message' (§15.11.4.4) or ToString of the thrown value, unless
    name or message of an error instance were reassigned after its creation (region `run_text_stale`) -/
theorem run_error_text (t : Thrown) (h : Spec.staleText t = false) :
    runErrorText t = Spec.runErrorText t := by
  cases t with
  | prim s => rfl
  | obj s => rfl
  | errClass s => rfl
  | errObj n m cn cm =>
    simp only [Spec.staleText, Bool.not_eq_false', Bool.and_eq_true, beq_iff_eq] at h
    obtain ⟨rfl, rfl⟩ := h
    exact format_eq_toString n m

example : Spec.staleText (.errObj "Error" "x" (some "Foo") (some "x")) = true ∧
    runErrorText (.errObj "Error" "x" (some "Foo") (some "x")) ≠ Spec.runErrorText (.errObj "Error" "x" (some "Foo") (some "x")) := by
  decide

/-- an exception that nothing caught always reaches Go as an error: no kind of thrown value – primitive, plain
    object, error instance, or an object of class "Error" that is not an instance (the prototype objects) – leaves
    `err` nil, through any of the API functions built on `catchPanic` -/
theorem uncaught_never_nil (t : Thrown) : (catchPanicErr t).isSome = true := by
  cases t <;> rfl

/-- … and the error is the spec's: an `*otto.Error` exactly for error instances, with the text 'Name: message' (or
    ToString) of the thrown value, unless name / message were reassigned after creation (`run_text_stale`) -/
theorem uncaught_err_eq (t : Thrown) (h : Spec.staleText t = false) : catchPanicErr t = Spec.uncaughtErr t := by
  unfold Spec.uncaughtErr
  rw [← run_error_text t h]
  cases t <;> rfl

theorem createErrors_append (limit : Int) (scs : List Scenario) : ∀ store : ErrorStore,
    createErrors limit store scs = store ++ scs.map (traceFrames limit) := by
  induction scs with
  | nil => intro store; simp [createErrors]
  | cons sc r ih => intro store; simp [createErrors, createError, ih]

/-- An error keeps the trace of its own creation: whatever errors the runtime created before (`earlier`) and however
    many it creates afterwards (`later` – engine-raised or constructed, caught or not), reading the error's trace
    gives the frames `newError` computed for it. -/
theorem trace_survives_later_errors (limit : Int) (earlier later : List Scenario) (sc : Scenario) :
    readTrace (createErrors limit [] (earlier ++ sc :: later)) earlier.length = some (traceFrames limit sc) := by
  simp [readTrace, createErrors_append]

/-- … and therefore, outside the regions, what is read later is the spec trace of that error -/
theorem traces_later_eq (files : List FileEnt) (limit : Int) (scs : List Scenario)
    (h : ∀ sc ∈ scs, Spec.traceDevs sc = [] ∧ ∀ lv ∈ sc.levels, 0 ≤ lv.off) :
    (createErrors limit [] scs).map (fun fs => fs.map (location files)) = Spec.tracesLater files limit scs := by
  simp only [createErrors_append, List.nil_append, List.map_map, Spec.tracesLater]
  apply List.map_congr_left
  intro sc hsc
  have := trace_complete_partial files limit sc (h sc hsc).1 (h sc hsc).2
  simpa [trace] using this

/-- a shared scratch buffer would not do: if every error held a view of one buffer that the next `newError`
    refills, the earlier error would show the later error's frames -/
example :
    let f1 : Frame := { callee := "first", file := some 0, offset := 10 }
    let f2 : Frame := { callee := "second", file := some 0, offset := 20 }
    let own : ErrorStore := [[f1], [f2]]
    let shared : ErrorStore := [[f2].take 1, [f2]]          -- view of length 1 into the refilled buffer
    readTrace own 0 = some [f1] ∧ readTrace shared 0 = some [f2] := by decide

/-- no script runs while the message of a "not callable / not a function" TypeError is built, at any site, whatever
    the offending value is -/
theorem message_no_script (s : MsgSite) : messageScriptCalls s = Spec.messageScriptCalls s := rfl

/-- whatever a script did to the global name of a native error constructor (reassigned it to another function or to
    a non-function, deleted it), an error of that class raised by the engine afterwards has the original class: name,
    `instanceof` the original constructor and Error – the §15.11 table of `error_class` holds after every history -/
theorem class_independent_of_global_binding (h : Rebind) (k : ErrKind) :
    caughtAfter h k = caught k ∧ Spec.caughtAfter h k = Spec.caught k ∧
    (caughtAfter h k).name = Spec.errClass k ∧ (caughtAfter h k).instanceOf = [Spec.errClass k, "Error"] ∧
    ((errTable k).2 = true → caughtAfter h k = Spec.caughtAfter h k) := by
  exact ⟨rfl, rfl, (error_class k).1, (error_class k).2, error_class_full k⟩

end OttoVerif.C19.Thm
