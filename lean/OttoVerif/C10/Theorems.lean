/-
  C10/Theorems — the ledger for property C10.  Every `theorem` in this file is audited
  (`#print axioms` ⊆ {propext, Classical.choice, Quot.sound}) on every run.
-/
import OttoVerif.C10.Lemmas
import OttoVerif.C10.CtxLemmas
import OttoVerif.C10.Driver
namespace OttoVerif.C10.Thm
open OttoVerif.C10 OttoVerif.C10.Model OttoVerif.C10.Lem

/-- **transform_syntax.**  For every tree of the portable subset, TransformRegExp applied to its ES5
    text returns, without error, exactly the Go text of the same tree: literals, every escape
    spelling (`\xHH`, `\uHHHH` → `\x{HHHH}`, `\cX` → `\xNN`, control and identity escapes, `\0`),
    classes (with `[\b]` → `\x08`), `\d \w \s \b \B`, groups, alternation, anchors, greedy and lazy
    quantifiers.  (Induction on the tree: Lemmas.loop_print.) -/
theorem transform_syntax (idc : Nat → Bool) (r : Re) (h : r.portable = true) :
    transform idc (printES5 r) = .ok (printGo r) := by
  simp [Re.portable] at h
  rw [transform_print r h.1, h.2]
  rfl

/-- **transform_rejects.**  A well-formed ES5 pattern that contains a look-ahead `(?=` `(?!` or a
    back-reference `\1`…`\9` (not followed by a digit) anywhere is reported as incompatible: the
    error result that newRegExpObject turns into a TypeError.  Never silently translated. -/
theorem transform_rejects (idc : Nat → Bool) (r : Re) (hwf : r.wf = true) (hu : r.unsupported = true) :
    transform idc (printES5 r) = .incompatible (printGo r) := by
  rw [transform_print r hwf, hu]
  rfl

/-- non-vacuity: a pattern using most of the grammar is portable, and one with a look-ahead is not -/
example : (Re.seq (.quant (.group (.alt (.ch (.uni 48 48 101 57)) (.set true [.range (.ch (.lit 97)) (.ch (.lit 122)), .one .bs])))
    (.repRange [49] [51]) true) (.seq .wordb (.ch (.ctrl 74)))).portable = true := by decide +kernel
example : transform (fun _ => false) (printES5 (.seq (.ch (.lit 97)) (.look false (.ch (.lit 98))))) =
    .incompatible (printGo (.seq (.ch (.lit 97)) (.look false (.ch (.lit 98))))) :=
  transform_rejects _ _ (by decide) (by decide)

/-- Dev `backref_octal`: `\1` followed by `0` is not rejected but becomes the octal escape `\x08` -/
example : transform (fun _ => false) [40, 97, 41, 92, 49, 48] = .ok [40, 97, 41, 92, 120, 48, 56] := by decide +kernel

/-- the empty classes are in the proved subset: `[]` ↦ `[^\x00-\x{10FFFF}]`, `[^]` ↦ `[\x00-\x{10FFFF}]` -/
example : transform (fun _ => false) (printES5 (.alt (.set false []) (.set true []))) =
    .ok (printGo (.alt (.set false []) (.set true []))) := transform_syntax _ _ (by decide)

/-- **flags_eq.**  The flag scanner of newRegExpObject is §15.10.4.1: each of g, i, m at most once,
    nothing else; otherwise SyntaxError (`none`). -/
theorem flags_eq : ∀ (fl : List Nat) (g i mm : Bool), Model.parseFlags fl g i mm = Spec.parseFlags fl g i mm := by
  intro fl; induction fl with
  | nil => intro g i mm; rfl
  | cons c cs ih =>
    intro g i mm
    simp only [Model.parseFlags, Spec.parseFlags, ih]

/-- `.`: the dialects agree exactly off `\r`, U+2028, U+2029 (Dev `dot_lineterm`) -/
theorem dot_denotation (i mm : Bool) (c : Nat) :
    dotTest (dE i mm) c = dotTest (dG i mm) c ↔ ¬ (c = 13 ∨ c = 0x2028 ∨ c = 0x2029) := by
  rw [← Lem.lineTerm_dialects c]
  simp only [dotTest, isLineTerm, dE, dG, if_true, Bool.false_eq_true, if_false, Bool.not_inj_iff]

/-- `\d \D \w \W`: identical in both dialects, for every character -/
theorem digit_word_denotation (i mm : Bool) (k : ClsK) (c : Nat) (hk : k ≠ .s ∧ k ≠ .S) :
    clsTest (dE i mm) k c = clsTest (dG i mm) k c := by
  cases k <;> simp_all [clsTest]

/-- `\s`: the dialects agree exactly off `\v`, U+00A0, U+1680, U+180E, U+2000–200A, U+2028/9, U+202F,
    U+205F, U+3000, U+FEFF (Dev `space_class`) -/
theorem space_denotation (i mm : Bool) (c : Nat) :
    clsTest (dE i mm) .s c = clsTest (dG i mm) .s c ↔
      ¬ (c = 11 ∨ c = 0xA0 ∨ c = 0x1680 ∨ c = 0x180E ∨ (0x2000 ≤ c ∧ c ≤ 0x200A) ∨ c = 0x2028 ∨ c = 0x2029 ∨
         c = 0x202F ∨ c = 0x205F ∨ c = 0x3000 ∨ c = 0xFEFF) :=
  Lem.space_dialects c

/-- **matcher_preserved.**  On the sub-subset `simpleLoops` (every quantified body consumes a character
    and contains no capturing group – where §15.10.2.5's capture reset and empty-iteration check
    cannot be observed), if every atom of `r` has the same denotation in both dialects on the
    subject (`Lem.agree`), the ES5 matcher and the Go matcher return the same list of results (end
    positions and captures, in priority order) from every state.  Structural induction on `r`. -/
theorem matcher_preserved (i mm : Bool) (s : List Nat) (r : Re) (hs : r.simpleLoops = true) (ha : agree i mm s r)
    (gi : Nat) (x : MS) : m (dE i mm) s r gi x = m (dG i mm) s r gi x :=
  Lem.match_preserved i mm s r hs ha gi x

/-- the atoms of EVERY pattern agree when the i flag is off and the subject has no `\r`, U+2028/9
    and no ES5-only white space (so Dev regions dot_lineterm, space_class, multiline_lineterm and
    icase_fold are the only atom-level deviations) -/
theorem agree_plain (mm : Bool) (s : List Nat) (hs : ∀ c ∈ s, plainChar c) (r : Re) : agree false mm s r :=
  Lem.agree_plain mm s hs r

/-- corollary: same best match at every start position -/
theorem matchAt_preserved (mm : Bool) (s : List Nat) (hs : ∀ c ∈ s, plainChar c) (r : Re) (hl : r.simpleLoops = true) (i : Nat) :
    matchAt (dE false mm) r s i = matchAt (dG false mm) r s i := by
  unfold matchAt
  rw [Lem.match_preserved false mm s r hl (Lem.agree_plain mm s hs r)]

/-- non-vacuity: `(a|b)c+?\d{2,}$` is in the sub-subset, "abcc12" is a plain subject -/
example : (Re.seq (.group (.alt (.ch (.lit 97)) (.ch (.lit 98)))) (.seq (.quant (.ch (.lit 99)) .plus true)
    (.seq (.quant (.cls .d) (.repFrom [50]) false) .eol))).simpleLoops = true := by decide +kernel
example : ∀ c ∈ [97, 98, 99, 99, 49, 50], plainChar c := by
  unfold plainChar; decide

/-- Dev `capture_reset`: /(?:(a)|b)*/ on "ab" – ES5 clears group 1 in the second iteration, Go keeps it -/
example : matchAt (dE false false) (.quant (.ncgroup (.alt (.group (.ch (.lit 97))) (.ch (.lit 98)))) .star false) [97, 98] 0
    ≠ matchAt (dG false false) (.quant (.ncgroup (.alt (.group (.ch (.lit 97))) (.ch (.lit 98)))) .star false) [97, 98] 0 := by decide +kernel
/-- Dev `nullable_loop`: /(a*)?/ on "b" – ES5 rejects the empty iteration (group 1 undefined), Go accepts it -/
example : matchAt (dE false false) (.quant (.group (.quant (.ch (.lit 97)) .star false)) .opt false) [98] 0
    ≠ matchAt (dG false false) (.quant (.group (.quant (.ch (.lit 97)) .star false)) .opt false) [98] 0 := by decide +kernel
/-- Dev `dot_lineterm`: /a.b/ on "a\rb" -/
example : matchAt (dE false false) (.seq (.ch (.lit 97)) (.seq .dot (.ch (.lit 98)))) [97, 13, 98] 0
    ≠ matchAt (dG false false) (.seq (.ch (.lit 97)) (.seq .dot (.ch (.lit 98)))) [97, 13, 98] 0 := by decide +kernel
/-- Dev `space_class`: /\s/ on U+00A0 -/
example : matchAt (dE false false) (.cls .s) [0xA0] 0 ≠ matchAt (dG false false) (.cls .s) [0xA0] 0 := by decide +kernel
/-- Dev `multiline_lineterm`: /^b/m on "a\rb" at 2 -/
example : matchAt (dE false true) (.seq .bol (.ch (.lit 98))) [97, 13, 98] 2 ≠ matchAt (dG false true) (.seq .bol (.ch (.lit 98))) [97, 13, 98] 2 := by decide +kernel
/-- Dev `icase_fold`: /k/i on KELVIN SIGN -/
example : matchAt (dE true false) (.ch (.lit 107)) [0x212A] 0 ≠ matchAt (dG true false) (.ch (.lit 107)) [0x212A] 0 := by decide +kernel

/-- **exec_protocol.**  On a linked subject (`Lem.Link`: ASCII, shorter than 2^63, and the engine run
    on the suffix `t[i:]` = the ES5 search from `i`), RegExp.prototype.exec returns the §15.10.6.2
    result (null, or the array with index / captures / undefined for unmatched groups) and leaves the
    §15.10.6.2 lastIndex, for EVERY value of lastIndex (negative, fractional, NaN, ±Infinity, beyond the
    length) and both values of `global`. -/
theorem exec_protocol (E : Model.Eng) (S : Spec.SEng) (t : List Nat) (L : Link E S t) (rx : RX) :
    Model.builtinRegExpExec E rx t = Spec.exec S rx t := by
  unfold Model.builtinRegExpExec Spec.exec
  obtain ⟨he, hc⟩ := Lem.exec_core E S t L rx
  rw [he]
  cases h : Spec.execCore S rx t with
  | mk rx' o =>
    cases o with
    | none => rfl
    | some c => simp only [Lem.array_eq t L.asc c (hc c (by rw [h]))]

/-- **test_protocol.**  RegExp.prototype.test (§15.10.6.3) on a linked subject: `true` exactly when exec
    finds a match, and the same lastIndex as exec leaves, for every lastIndex and both values of `global`. -/
theorem test_protocol (E : Model.Eng) (S : Spec.SEng) (t : List Nat) (L : Link E S t) (rx : RX) :
    Model.builtinRegExpTest E rx t = Spec.test S rx t := by
  unfold Model.builtinRegExpTest Spec.test
  rw [(Lem.exec_core E S t L rx).1]
  cases h : Spec.execCore S rx t with
  | mk rx' o => cases o <;> rfl

/-- **exec_history.**  All call sequences of exec / test / lastIndex writes on one RegExp object agree
    step by step (results and observed lastIndex); induction over the calls. -/
theorem exec_history (E : Model.Eng) (S : Spec.SEng) (t : List Nat) (L : Link E S t) (repU : List Nat → List Nat)
    (steps : List Step) (rx : RX) (h : steps.all execStep = true) :
    Model.run E t rx steps = Spec.run S t repU rx steps := by
  refine Lem.run_congr E S t repU steps rx (fun rx s hs => ?_)
  have hs : execStep s = true := List.all_eq_true.mp h s hs
  cases s with
  | exec => exact exec_protocol E S t L rx
  | test => exact test_protocol E S t L rx
  | setLI v => rfl
  | _ => exact absurd hs Bool.false_ne_true

/-- **search_protocol.**  String.prototype.search = §15.5.4.12 on a linked subject. -/
theorem search_protocol (E : Model.Eng) (S : Spec.SEng) (t : List Nat) (L : Link E S t) (rx : RX) :
    Model.builtinStringSearch E rx t = Spec.stringSearch S rx t := by
  unfold Model.builtinStringSearch Spec.stringSearch
  have hf := L.find 0 (Nat.zero_le _)
  simp only [List.drop_zero] at hf
  cases hr : E.findAt t 0 with
  | none => rw [hr] at hf; simp at hf; rw [← hf]
  | some r =>
    obtain ⟨a, b, rest, rfl, hab, _⟩ := L.wf 0 r (Nat.zero_le _) (by simpa using hr)
    rw [hr] at hf; simp [shiftCaps_zero] at hf; rw [← hf]
    simp only [utf16Length_take t L.asc (capStart (some (a, b) :: rest)) (by simpa [capStart] using hab)]

/-- String.prototype.match with a non-global regexp = exec (§15.5.4.10 step 7). -/
theorem nonglobal_match (E : Model.Eng) (S : Spec.SEng) (t : List Nat) (L : Link E S t) (rx : RX) (hg : rx.global = false) :
    Model.builtinStringMatch E rx t = Spec.stringMatch S rx t := by
  unfold Model.builtinStringMatch Spec.stringMatch
  simp only [hg, Bool.not_false, if_true]
  exact exec_protocol E S t L rx

/-- **replace_concat.**  For every engine, subject, flag and replaceValue, String.prototype.replace
    returns the §15.5.4.11 concatenation  gap₀ ++ f(m₁) ++ gap₁ ++ … ++ tail  over the matches found,
    where f is `$`-expansion for a string, and the function's own result for a function.  The matches are
    those otto's own search returns (`Model.findAll`) and f is otto's own per-match text (`Lem.modelF`, with
    `Model.expand` for a string): the theorem is about the shape of the concatenation, not about Table 22
    or about which matches are found. -/
theorem replace_concat (E : Model.Eng) (rx : RX) (t : List Nat) (repl : Repl) :
    (Model.builtinStringReplace E rx t repl).2 =
      .str (Model.jsStr (Spec.replaceLoop t (modelF t repl) (Model.findAll E t (if rx.global then none else some 1)) 0 [])) := by
  unfold Model.builtinStringReplace
  simp only
  cases hf : Model.findAll E t (if rx.global then none else some 1) with
  | nil => simp [Spec.replaceLoop]
  | cons mt rest =>
    simp only [List.isEmpty_cons, Bool.false_eq_true, if_false]
    rw [← Lem.replaceLoop_eq t (modelF t repl) (mt :: rest) 0 []]
    cases repl <;> rfl

/-- **replace_function_verbatim.**  A function replacer's result is used as it is: for EVERY list of
    matches and EVERY returned string `ret` (containing `$&`, `$1`, `$$`, … or not) otto's loop yields the
    concatenation of the gaps, `ret` once per match, and the tail – no Table 22 expansion. -/
theorem replace_function_verbatim (t ret : List Nat) (found : List Caps) (li : Nat) (acc : List Nat) :
    (let p := Model.replaceLoop t (fun _ => ret) found li acc
     if p.2 ≠ t.length then p.1 ++ t.drop p.2 else p.1) = Spec.replaceLoop t (fun _ => ret) found li acc :=
  Lem.replaceLoop_eq t (fun _ => ret) found li acc

/-- one match (a, b):  t[0:a] ++ ret ++ t[b:] -/
theorem replace_function_single (t ret : List Nat) (mt : Caps) :
    (let p := Model.replaceLoop t (fun _ => ret) [mt] 0 []
     if p.2 ≠ t.length then p.1 ++ t.drop p.2 else p.1) = t.take (capStart mt) ++ ret ++ t.drop (capEnd mt) := by
  rw [Lem.replaceLoop_eq]
  simp [Spec.replaceLoop, slice]

/-- "abc".replace(/b/, function(){ return "$&$&" }) is "a$&$&c", while the STRING "$&$&" gives "abbc" -/
example : (Model.builtinStringReplace (charEngine (dG false false) (.ch (.lit 98))) ⟨false, .int 0⟩ [97, 98, 99] (.const [36, 38, 36, 38])).2
      = .str [97, 36, 38, 36, 38, 99] ∧
    (Model.builtinStringReplace (charEngine (dG false false) (.ch (.lit 98))) ⟨false, .int 0⟩ [97, 98, 99] (.str [36, 38, 36, 38])).2
      = .str [97, 98, 98, 99] := by decide +kernel

/-- **replacer_arguments.**  A function replacer is called with the §15.5.4.11 arguments (matched text,
    captures with undefined for unmatched groups, offset in code units, subject) on an ASCII subject. -/
theorem replacer_arguments (t : List Nat) (ha : ascii t) (mt : Caps) (h : capStart mt ≤ t.length) :
    Model.replacerArgs t mt = Spec.replacerArgs t mt := by
  unfold Model.replacerArgs Spec.replacerArgs
  rw [utf16Length_take t ha _ h]
  rfl

/-- the offset counts UTF-16 units also after an astral character: "😀x", match of x at byte 4 → "2" -/
example : (Model.replacerArgs [0xF0, 0x9F, 0x98, 0x80, 120] [some (4, 5)])[1]? = some [50] := by decide +kernel

/-- **source_eq.**  The `source` property is the §15.10.4.1 literal form of the pattern: `(?:)` for the
    empty pattern, every unescaped `/` outside a class escaped. -/
theorem source_eq (pat : List Nat) : Model.regExpSource pat = Spec.source pat := by
  have h : ∀ (l : List Nat) (e c : Bool), Model.regExpSourceLoop l e c = Spec.sourceLoop l e c := by
    intro l; induction l with
    | nil => intro e c; rfl
    | cons x xs ih => intro e c; simp only [Model.regExpSourceLoop, Spec.sourceLoop, ih]
  simp only [Model.regExpSource, Spec.source, h]

/-- **regexp_from_regexp.**  `new RegExp(R)` / `new RegExp(R, undefined)` build a new object from R's pattern
    and R's flags, `RegExp(R)` returns R itself, a RegExp with flags given is a TypeError (§15.10.3.1, §15.10.4.1). -/
theorem regexp_from_regexp (pat flags : List Nat) (withNew given : Bool) :
    Model.fromRegExp pat flags withNew given = Spec.fromRegExp pat flags withNew given := by
  unfold Model.fromRegExp Spec.fromRegExp Model.storedFlags
  rfl

example : Spec.source [97, 47, 91, 47, 93, 92, 47] = [97, 92, 47, 91, 47, 93, 92, 47] ∧ Spec.source [] = [40, 63, 58, 41] := by decide +kernel

/-- **replacer_argument_types.**  Every argument a function replacer receives has the §15.5.4.11 type: the
    matched text and the captures are strings (undefined for an unmatched group), the offset a number and
    the last argument the PRIMITIVE string the receiver was converted to (`typeof` "string", `===` the
    subject) – whatever the receiver was (String object, number, object with toString). -/
theorem replacer_argument_types (t : List Nat) (mt : Caps) :
    modelF t .types mt = typeReport [115, 116, 114, 105, 110, 103] mt true := rfl

example : typeReport [115, 116, 114, 105, 110, 103] [some (1, 2), none] true
    = "<string,undefined,number,string|true>".toList.map Char.toNat := by decide +kernel

/-- **replace_global_ignores_stale.**  With a global regexp, whatever a function replacer does with the
    RegExp object (read lastIndex, write it, exec the same regexp, throw), the outcome of
    String.prototype.replace does not depend on the lastIndex the object had before the call: the search of
    §15.5.4.10, including `lastIndex = 0`, is complete before the first call of the function. -/
theorem replace_global_ignores_stale (E : Model.Eng) (rx : RX) (t : List Nat) (kind : Step) (v : LI) (hg : rx.global = true) :
    Model.builtinStringReplaceS E { rx with lastIndex := v } t kind
      = Model.builtinStringReplaceS E { rx with lastIndex := .int 0 } t kind := by
  unfold Model.builtinStringReplaceS
  simp [hg]

/-- /a/g with a stale lastIndex 3 on "aa": every call of the replacer sees lastIndex 0 -/
example : (Model.builtinStringReplaceS (charEngine (dG false false) (.ch (.lit 97))) ⟨true, .int 3⟩ [97, 97] .replaceL).2
    = .str [60, 105, 48, 62, 60, 105, 48, 62] := by decide +kernel

/-- **matcher_context_free.**  A pattern without `^`, `\b`, `\B` matches in the suffix `s[k:]` exactly as
    in `s`, with every position shifted by `k` (all results, in order) – the hypothesis
    "find is context-free" of the design, proved for the reference matcher in both dialects. -/
theorem matcher_context_free (d : Dialect) (s : List Nat) (k : Nat) (hk : k ≤ s.length) (r : Re) (hr : noLeftCtx r = true)
    (gi : Nat) (x : MS) : (m d (s.drop k) r gi x).map (shMS k) = m d s r gi (shMS k x) :=
  Lem.m_shift d s k hk r hr gi x

/-- **exec_end_to_end.**  Pattern in the sub-subset `simpleLoops`, without `^ \b \B`, atoms agreeing on
    an ASCII subject: every history of exec / test / lastIndex writes on the RegExp object behaves
    as ES5 prescribes when otto runs Go's matcher for the translated tree on `target[index:]`.
    (Combines matcher_preserved, matcher_context_free and exec_history.) -/
theorem exec_end_to_end (i mm : Bool) (r : Re) (t : List Nat) (hasc : ascii t) (hsmall : (t.length : Int) < Model.maxInt64)
    (hs : r.simpleLoops = true) (hc : noLeftCtx r = true) (ha : agree i mm t r)
    (repU : List Nat → List Nat) (steps : List Step) (rx : RX) (h : steps.all execStep = true) :
    Model.run (charEngine (dG i mm) r) t rx steps = Spec.run (es5Eng (dE i mm) r) t repU rx steps :=
  exec_history _ _ t (Lem.link_matcher i mm r t hasc hsmall hs hc ha) repU steps rx h

/-- the same for String.prototype.search -/
theorem search_end_to_end (i mm : Bool) (r : Re) (t : List Nat) (hasc : ascii t) (hsmall : (t.length : Int) < Model.maxInt64)
    (hs : r.simpleLoops = true) (hc : noLeftCtx r = true) (ha : agree i mm t r) (rx : RX) :
    Model.builtinStringSearch (charEngine (dG i mm) r) rx t = Spec.stringSearch (es5Eng (dE i mm) r) rx t :=
  search_protocol _ _ t (Lem.link_matcher i mm r t hasc hsmall hs hc ha) rx

/-- Dev `exec_substring`: /^a/g, lastIndex = 1, exec("aa") – the cut string starts with "a" -/
example : Model.run (charEngine (dG false false) (.seq .bol (.ch (.lit 97)))) [97, 97] ⟨true, .int 0⟩ [.setLI (.int 1), .exec]
    ≠ Spec.run (es5Eng (dE false false) (.seq .bol (.ch (.lit 97)))) [97, 97] id ⟨true, .int 0⟩ [.setLI (.int 1), .exec] := by decide +kernel
/-- Dev `match_global_lastindex`: after "ba".match(/a/g) lastIndex is 2, not 0 -/
example : Model.run (charEngine (dG false false) (.ch (.lit 97))) [98, 97] ⟨true, .int 0⟩ [.mtch]
    ≠ Spec.run (es5Eng (dE false false) (.ch (.lit 97))) [98, 97] id ⟨true, .int 0⟩ [.mtch] := by decide +kernel
/-- Dev `empty_adjacent`: "abc".split is fine but "abc".match(/b*/g) loses the empty match after "b" -/
example : (Model.builtinStringMatch (charEngine (dG false false) (.quant (.ch (.lit 98)) .star false)) ⟨true, .int 0⟩ [97, 98, 99]).2
    ≠ (Spec.stringMatch (es5Eng (dE false false) (.quant (.ch (.lit 98)) .star false)) ⟨true, .int 0⟩ [97, 98, 99]).2 := by decide +kernel
/-- non-vacuity of exec_end_to_end: /a+?b|c/ on "xaabc" -/
example : (Re.alt (.seq (.quant (.ch (.lit 97)) .plus true) (.ch (.lit 98))) (.ch (.lit 99))).simpleLoops = true ∧
    noLeftCtx (Re.alt (.seq (.quant (.ch (.lit 97)) .plus true) (.ch (.lit 98))) (.ch (.lit 99))) = true := by decide +kernel
example : ascii [120, 97, 97, 98, 99] := by intro b hb; simp at hb; omega

-- witnesses of the byte-offset and syntax deviation regions, on the driver's concrete engines
section
open OttoVerif OttoVerif.C10.Driver

/-- Dev `astral_subject`: /^.$/ on U+1F600 (one code point, two code units) -/
example : Model.run (goEngine (dG false false) (.seq .bol (.seq .dot .eol))) [0xF0, 0x9F, 0x98, 0x80] ⟨false, .int 0⟩ [.test]
    ≠ Spec.run (es5Engine (dE false false) (.seq .bol (.seq .dot .eol))) (Str.unitsOfBytes [0xF0, 0x9F, 0x98, 0x80]) Str.unitsOfBytes ⟨false, .int 0⟩ [.test] := by decide +kernel
/-- Dev `lenient_syntax`: `a{,2}` is not an ES5 pattern; it is passed through and Go accepts it -/
example : parsePattern false [97, 123, 44, 50, 125] = .err ∧ Model.transform (fun _ => false) [97, 123, 44, 50, 125] = .ok [97, 123, 44, 50, 125]
    ∧ parsePattern true [97, 123, 44, 50, 125] ≠ .err := by decide +kernel
/-- counts with leading zeros are in the proved subset: `a{01,003}` ↦ `a{1,3}` -/
example : transform (fun _ => false) (printES5 (.quant (.ch (.lit 97)) (.repRange [48, 49] [48, 48, 51]) true)) =
    .ok [97, 123, 49, 44, 51, 125, 63] := by
  rw [transform_syntax _ _ (by decide)]; decide +kernel
/-- Dev `repeat_limit`: `a{1001}` -/
example : parsePattern false [97, 123, 49, 48, 48, 49, 125] ≠ .err ∧ parsePattern true [97, 123, 49, 48, 48, 49, 125] = .err := by decide +kernel
end

end OttoVerif.C10.Thm
