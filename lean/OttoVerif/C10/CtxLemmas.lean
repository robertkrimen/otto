/-
  C10/CtxLemmas — the instance of `Link` for the real matcher: for a pattern that never looks left
  (MatchLemmas.m_shift) otto's "engine on target[index:]" protocol is the ES5 search.
-/
import OttoVerif.C10.MatchLemmas
import OttoVerif.C10.ProtoLemmas
namespace OttoVerif.C10.Lem
open OttoVerif.C10

def toCaps (p : Nat × MS) : Caps := some (p.1, p.2.pos) :: p.2.caps

/-- Go's engine on the tree `r`, for ASCII subjects (byte offset = character index) -/
def charEngine (d : Dialect) (r : Re) : Model.Eng where
  findAt := fun s pos => (search d r s pos).map toCaps

/-- ES5 [[Match]] on the tree `r` -/
def es5Eng (d : Dialect) (r : Re) : Spec.SEng where
  matchAt := fun S q => (matchAt d r S q).map fun y => some (q, y.pos) :: y.caps

theorem matchAt_shift (d : Dialect) (s : List Nat) (k : Nat) (hk : k ≤ s.length) (r : Re) (hr : noLeftCtx r = true) (p : Nat) :
    (matchAt d r (s.drop k) p).map (shMS k) = matchAt d r s (p + k) := by
  unfold matchAt
  rw [← List.head?_map, m_shift d s k hk r hr]
  simp [shMS, shiftCaps]

theorem searchFrom_shift (d : Dialect) (s : List Nat) (k : Nat) (hk : k ≤ s.length) (r : Re) (hr : noLeftCtx r = true) :
    ∀ n p, (searchFrom d r (s.drop k) n p).map (fun q => (q.1 + k, shMS k q.2)) = searchFrom d r s n (p + k) := by
  intro n; induction n with
  | zero => intro p; rfl
  | succ n ih =>
    intro p
    unfold searchFrom
    rw [← matchAt_shift d s k hk r hr p]
    cases matchAt d r (s.drop k) p with
    | some y => simp
    | none =>
      simp only [Option.map_none]
      have := ih (p + 1)
      rw [show p + 1 + k = p + k + 1 by omega] at this
      exact this

theorem matchAt_end (d : Dialect) (r : Re) (s : List Nat) (p : Nat) (y : MS) (hp : p ≤ s.length)
    (h : matchAt d r s p = some y) : y.pos ≤ s.length := by
  unfold matchAt at h
  exact m_bound d s r 0 _ y (List.mem_of_mem_head? h) hp

theorem searchFrom_some (d : Dialect) (r : Re) (s : List Nat) : ∀ n p st y, searchFrom d r s n p = some (st, y) →
    st < p + n ∧ matchAt d r s st = some y := by
  intro n; induction n with
  | zero => intro p st y h; simp [searchFrom] at h
  | succ n ih =>
    intro p st y h
    unfold searchFrom at h
    split at h
    · rename_i y' hy'
      simp only [Option.some.injEq, Prod.mk.injEq] at h
      obtain ⟨rfl, rfl⟩ := h
      exact ⟨by omega, hy'⟩
    · have := ih _ _ _ h
      exact ⟨by omega, this.2⟩

theorem searchFrom_dialect (i mm : Bool) (s : List Nat) (r : Re) (hs : r.simpleLoops = true) (ha : agree i mm s r) :
    ∀ n p, searchFrom (dE i mm) r s n p = searchFrom (dG i mm) r s n p := by
  intro n; induction n with
  | zero => intro p; rfl
  | succ n ih =>
    intro p
    unfold searchFrom
    have : matchAt (dE i mm) r s p = matchAt (dG i mm) r s p := by
      unfold matchAt; rw [match_preserved i mm s r hs ha]
    rw [this, ih]

theorem execLoop_es5Eng (d : Dialect) (r : Re) (t : List Nat) : ∀ n q,
    Spec.execLoop (es5Eng d r) t n q = (searchFrom d r t n q).map toCaps := by
  intro n; induction n with
  | zero => intro q; rfl
  | succ n ih =>
    intro q
    unfold Spec.execLoop searchFrom
    simp only [es5Eng]
    cases matchAt d r t q with
    | some y => simp [toCaps]
    | none => simp only [Option.map_none]; exact ih (q + 1)

/-- **the link holds for the real matcher**: pattern in the sub-subset, never looking left, atoms
    agreeing on the (ASCII) subject  ⟹  otto's "run Go's engine on the suffix" = the ES5 search -/
theorem link_matcher (i mm : Bool) (r : Re) (t : List Nat) (hasc : ascii t) (hsmall : (t.length : Int) < Model.maxInt64)
    (hs : r.simpleLoops = true) (hc : noLeftCtx r = true) (ha : agree i mm t r) :
    Link (charEngine (dG i mm) r) (es5Eng (dE i mm) r) t where
  asc := hasc
  small := hsmall
  find := by
    intro k hk
    simp only [charEngine, Spec.searchFrom, search]
    rw [execLoop_es5Eng, searchFrom_dialect i mm t r hs ha]
    have hfuel : (t.drop k).length + 1 - 0 = t.length + 1 - k := by simp [List.length_drop]; omega
    rw [hfuel]
    have hsh := searchFrom_shift (dG i mm) t k hk r hc (t.length + 1 - k) 0
    rw [Nat.zero_add] at hsh
    rw [← hsh]
    cases searchFrom (dG i mm) r (t.drop k) (t.length + 1 - k) 0 with
    | none => rfl
    | some q => simp [toCaps, shiftCaps, shMS]
  wf := by
    intro k c hk h
    simp only [charEngine, search] at h
    cases hq : searchFrom (dG i mm) r (t.drop k) ((t.drop k).length + 1 - 0) 0 with
    | none => rw [hq] at h; simp at h
    | some q =>
      rw [hq] at h; simp at h
      obtain ⟨hb, hm⟩ := searchFrom_some _ _ _ _ _ q.1 q.2 hq
      have he := matchAt_end _ _ _ _ _ (by omega) hm
      refine ⟨q.1, q.2.pos, q.2.caps, ?_, ?_, ?_⟩
      · rw [← h]; rfl
      · simp [List.length_drop] at hb; omega
      · simp [List.length_drop] at hb he; omega
end OttoVerif.C10.Lem
