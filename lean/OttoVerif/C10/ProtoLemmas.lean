/-
  C10/ProtoLemmas — the exec / test / lastIndex protocol over abstract engines:
  otto's execRegExp (byte offsets, engine run on the suffix target[index:]) against §15.10.6.2.
-/
import OttoVerif.C10.Model
import OttoVerif.C10.Spec
import OttoVerif.Base.StrLemmas
namespace OttoVerif.C10.Lem
open OttoVerif OttoVerif.C10

def ascii (bs : List Nat) : Prop := ∀ b ∈ bs, b < 128

theorem ascii_take (bs : List Nat) (h : ascii bs) (a : Nat) : ascii (bs.take a) :=
  fun x hx => h x (List.mem_of_mem_take hx)
theorem ascii_drop (bs : List Nat) (h : ascii bs) (a : Nat) : ascii (bs.drop a) :=
  fun x hx => h x (List.mem_of_mem_drop hx)

theorem utf16Length_take (t : List Nat) (ha : ascii t) (n : Nat) (hn : n ≤ t.length) :
    Model.utf16Length (t.take n) = n := by
  unfold Model.utf16Length
  rw [Str.unitsOfBytes_ascii _ (ascii_take t ha n), List.length_take, Nat.min_eq_left hn]

/-- what ties otto's engine call to the ES5 matcher on one subject: the subject is ASCII (bytes =
    code units), and running the engine on the suffix `t[i:]` is the ES5 search from `i`
    (same matcher AND no dependence on the text left of `i`) -/
structure Link (E : Model.Eng) (S : Spec.SEng) (t : List Nat) : Prop where
  asc : ascii t
  small : (t.length : Int) < Model.maxInt64
  find : ∀ i, i ≤ t.length → (E.findAt (t.drop i) 0).map (shiftCaps i) = Spec.searchFrom S t i
  wf : ∀ i r, i ≤ t.length → E.findAt (t.drop i) 0 = some r → ∃ a b rest, r = some (a, b) :: rest ∧ a + i ≤ t.length ∧ b + i ≤ t.length

theorem capEnd_shift (i a b : Nat) (rest : Caps) : capEnd (shiftCaps i (some (a, b) :: rest)) = b + i := by
  simp [capEnd, shiftCaps]
theorem capStart_shift (i a b : Nat) (rest : Caps) : capStart (shiftCaps i (some (a, b) :: rest)) = a + i := by
  simp [capStart, shiftCaps]

/-- the in-range start index computed from (global, integer lastIndex): none = fail at once -/
def startIndex (len : Nat) (g : Bool) (z : Int) : Option Nat :=
  if !g then some 0 else if z < 0 ∨ z > len then none else some z.toNat

/-- the loop of utf16ByteOffset on ASCII bytes, `d` units short of the target: it advances `d` bytes,
    or to the end if there are fewer -/
theorem byteOffLoop_ascii : ∀ (bs : List Nat) (f off count d : Nat), ascii bs → bs.length < f →
    Model.byteOffLoop f bs off count (count + d) = (off + min d bs.length, decide (d ≤ bs.length)) := by
  intro bs; induction bs with
  | nil =>
    intro f off count d _ hf
    cases f with
    | zero => simp at hf
    | succ f =>
      simp only [Model.byteOffLoop, Str.decodeRune, List.length_nil, Nat.min_zero, Nat.add_zero]
      exact congrArg _ (decide_eq_decide.mpr (by omega))
  | cons b bs ih =>
    intro f off count d ha hf
    cases f with
    | zero => simp at hf
    | succ f =>
      have hb : b < 128 := ha b (by simp)
      simp only [Model.byteOffLoop, Str.decodeRune_ascii b bs hb, List.drop_one, List.tail_cons, List.length_cons]
      cases d with
      | zero => simp
      | succ d =>
        rw [if_neg (by omega), if_neg (by omega : ¬ b > 0xFFFF), show count + (d + 1) = count + 1 + d by omega,
          ih f (off + 1) (count + 1) d (fun x hx => ha x (by simp [hx])) (by simp at hf; omega)]
        simp [Nat.succ_min_succ, Nat.add_assoc, Nat.add_comm 1]

theorem byteOffset_ascii (t : List Nat) (ha : ascii t) (z : Int) :
    Model.utf16ByteOffset t z = if z < 0 then (0, false) else (min z.toNat t.length, decide (z.toNat ≤ t.length)) := by
  unfold Model.utf16ByteOffset
  rw [← Nat.zero_add z.toNat, byteOffLoop_ascii t _ 0 0 z.toNat ha (by omega), Nat.zero_add, Nat.zero_add]

theorem model_at (E : Model.Eng) (rx : RX) (t : List Nat) (ha : ascii t) (z : Int) :
    Model.execAt E rx t z =
      match startIndex t.length rx.global z with
      | none => ({ rx with lastIndex := .int 0 }, none)
      | some i =>
        match E.findAt (t.drop i) 0 with
        | none => ({ rx with lastIndex := .int 0 }, none)
        | some r => (if rx.global then { rx with lastIndex := .int (Model.utf16Length (t.take (capEnd (shiftCaps i r)))) } else rx,
                     some (shiftCaps i r)) := by
  obtain ⟨g, li⟩ := rx
  unfold Model.execAt
  simp only [byteOffset_ascii t ha]
  cases g with
  | false =>
    simp [startIndex]
    cases E.findAt t 0 <;> rfl
  | true =>
    simp only [startIndex, if_true, Bool.not_true, Bool.false_eq_true, if_false]
    by_cases hz : z < 0 ∨ z > (t.length : Int)
    · rw [if_pos hz]
      by_cases h : z < 0
      · simp [h]
      · have h2 : ¬ z.toNat ≤ t.length := by omega
        simp [h, h2]
    · rw [if_neg hz]
      have h : ¬ z < 0 := by omega
      have h2 : z.toNat ≤ t.length := by omega
      simp only [h, h2, Nat.min_eq_left h2, if_false, if_true, decide_true]
      cases E.findAt (t.drop z.toNat) 0 <;> simp

/-- the start index of §15.10.6.2 steps 4-9 from (global, lastIndex): none = fail at once -/
def specStart (len : Nat) (g : Bool) (li : LI) : Option Nat :=
  if !g then some 0 else
  match Spec.toInteger li with
  | .fin z => if z < 0 ∨ z > len then none else some z.toNat
  | _ => none

/-- ToInteger(lastIndex) and `number().int64` pick the same start index.  The bound on the length is
    for +Infinity: int64 saturates it to 2^63 - 1, which must still lie beyond the end of the subject. -/
theorem start_agree (len : Nat) (hs : (len : Int) < Model.maxInt64) (g : Bool) (li : LI) :
    startIndex len g (Model.toInt64 li) = specStart len g li := by
  cases g with
  | false => rfl
  | true =>
    cases li with
    | pinf =>
      show (if false = true then some 0 else
        if Model.maxInt64 < 0 ∨ Model.maxInt64 > (len : Int) then none else _) = none
      rw [if_neg Bool.false_ne_true, if_pos (Or.inr hs)]
    | ninf =>
      show (if false = true then some 0 else
        if Model.minInt64 < 0 ∨ Model.minInt64 > (len : Int) then none else _) = none
      rw [if_neg Bool.false_ne_true, if_pos (Or.inl (by unfold Model.minInt64; omega))]
    | _ => simp [startIndex, specStart, Model.toInt64, Spec.toInteger]

theorem specStart_le (len : Nat) (g : Bool) (li : LI) (i : Nat) (h : specStart len g li = some i) : i ≤ len := by
  unfold specStart at h
  cases g with
  | false => simp at h; omega
  | true =>
    simp only [Bool.not_true, Bool.false_eq_true, if_false] at h
    split at h
    · split at h
      · simp at h
      · simp at h; omega
    · simp at h

theorem spec_core (S : Spec.SEng) (rx : RX) (t : List Nat) :
    Spec.execCore S rx t =
      match specStart t.length rx.global rx.lastIndex with
      | none => ({ rx with lastIndex := .int 0 }, none)
      | some i =>
        match Spec.searchFrom S t i with
        | none => ({ rx with lastIndex := .int 0 }, none)
        | some c => (if rx.global then { rx with lastIndex := .int (capEnd c) } else rx, some c) := by
  obtain ⟨g, li⟩ := rx
  cases g with
  | false =>
    have : ¬ ((t.length : Int) < 0) := by omega
    simp [Spec.execCore, specStart, this]
    cases Spec.searchFrom S t 0 <;> rfl
  | true =>
    simp only [Spec.execCore, specStart, if_true, Bool.not_true, Bool.false_eq_true, if_false]
    cases Spec.toInteger li with
    | fin z =>
      by_cases h : z < 0 ∨ z > (t.length : Int)
      · simp [h]
      · simp only [h, if_false]
        cases Spec.searchFrom S t z.toNat <;> rfl
    | pinf => simp
    | ninf => simp

/-- **the core of exec**: on a linked subject otto's execRegExp and §15.10.6.2 compute the same
    new lastIndex and the same capture vector, for every lastIndex value and both values of global;
    a match found starts inside the subject -/
theorem exec_core (E : Model.Eng) (S : Spec.SEng) (t : List Nat) (L : Link E S t) (rx : RX) :
    Model.execRegExp E rx t = Spec.execCore S rx t ∧
      ∀ c, (Spec.execCore S rx t).2 = some c → capStart c ≤ t.length := by
  unfold Model.execRegExp
  rw [model_at _ _ _ L.asc, spec_core, start_agree t.length L.small]
  cases hi : specStart t.length rx.global rx.lastIndex with
  | none => exact ⟨rfl, nofun⟩
  | some i =>
    have hle := specStart_le _ _ _ _ hi
    have hf := L.find i hle
    simp only
    cases hr : E.findAt (t.drop i) 0 with
    | none => rw [hr] at hf; simp at hf; rw [← hf]; exact ⟨rfl, nofun⟩
    | some r =>
      obtain ⟨a, b, rest, rfl, ha, hb⟩ := L.wf i r hle hr
      rw [hr] at hf; simp at hf; rw [← hf]
      simp only [capEnd_shift, utf16Length_take t L.asc _ hb]
      exact ⟨trivial, fun c hc => by cases hc; rw [capStart_shift]; exact ha⟩

theorem array_eq (t : List Nat) (ha : ascii t) (c : Caps) (hc : capStart c ≤ t.length) :
    Model.execResultToArray t c = Spec.resultArray t c := by
  unfold Model.execResultToArray Spec.resultArray
  have h1 : (if capStart c ≠ 0 then Model.utf16Length (t.take (capStart c)) else 0) = capStart c := by
    by_cases h0 : capStart c = 0
    · simp [h0]
    · rw [if_pos h0, utf16Length_take t ha _ hc]
  have h2 : (c.map fun o => o.map fun (a, b) => Model.jsStr (slice t a b)) = (c.map fun o => o.map fun (a, b) => slice t a b) := by
    apply List.map_congr_left
    intro o _
    cases o with
    | none => rfl
    | some p => simp [Model.jsStr, Str.unitsOfBytes_ascii (slice t p.1 p.2) (ascii_drop _ (ascii_take t ha p.2) p.1)]
  simp only [h1, h2]

/-- the steps whose agreement needs only `Link` -/
def execStep : Step → Bool
  | .exec | .test | .setLI _ => true
  | _ => false

theorem run_congr (E : Model.Eng) (S : Spec.SEng) (t : List Nat) (repU : List Nat → List Nat) :
    ∀ (steps : List Step) (rx : RX), (∀ rx, ∀ s ∈ steps, Model.step E t rx s = Spec.step S t repU rx s) →
      Model.run E t rx steps = Spec.run S t repU rx steps := by
  intro steps; induction steps with
  | nil => intro _ _; rfl
  | cons s ss ih =>
    intro rx h
    simp only [Model.run, Spec.run, h rx s (List.mem_cons_self ..)]
    rw [ih _ (fun rx s hs => h rx s (List.mem_cons_of_mem _ hs))]

theorem shiftCaps_zero (c : Caps) : shiftCaps 0 c = c := by
  unfold shiftCaps
  induction c with
  | nil => rfl
  | cons o rest ih =>
    simp only [List.map_cons, ih]
    cases o with
    | none => rfl
    | some p => simp

theorem slice_self (t : List Nat) (a : Nat) : slice t a a = [] := by
  unfold slice
  rw [List.drop_eq_nil_iff]
  simp [List.length_take]; omega

/-- otto's replace loop (copy the gap only when it is non-empty, append the tail only when it is
    non-empty) is the §15.5.4.11 concatenation, for EVERY list of matches and EVERY replacer `f` -/
theorem replaceLoop_eq (t : List Nat) (f : Caps → List Nat) : ∀ (found : List Caps) (li : Nat) (acc : List Nat),
    (let p := Model.replaceLoop t f found li acc
     if p.2 ≠ t.length then p.1 ++ t.drop p.2 else p.1) = Spec.replaceLoop t f found li acc := by
  intro found; induction found with
  | nil =>
    intro li acc
    simp only [Model.replaceLoop, Spec.replaceLoop]
    by_cases h : li = t.length
    · subst h; simp
    · simp [h]
  | cons mt rest ih =>
    intro li acc
    simp only [Model.replaceLoop, Spec.replaceLoop]
    by_cases h : capStart mt = li
    · have := ih (capEnd mt) (acc ++ f mt)
      simp only [h, ne_eq, not_true_eq_false, if_false, slice_self, List.append_nil]
      exact this
    · have := ih (capEnd mt) (acc ++ slice t li (capStart mt) ++ f mt)
      simp only [ne_eq, h, not_false_eq_true, if_true]
      exact this

/-- the per-match replacement text of the four kinds of replaceValue (`Repl`), as the code computes it -/
def modelF (t : List Nat) : Repl → Caps → List Nat
  | .str rv => fun mt => Model.expand t mt rv
  | .report => fun mt => Model.reportArgs (Model.replacerArgs t mt)
  | .const ret => fun _ => ret
  | .types => fun mt => typeReport [115, 116, 114, 105, 110, 103] mt true

end OttoVerif.C10.Lem
