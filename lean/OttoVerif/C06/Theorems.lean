/-
  C06/Theorems — the ledger for property C06 (numbers <-> text).  Every `theorem` here is audited
  (`#print axioms` ⊆ {propext, Classical.choice, Quot.sound}) on every run.

  Shape: `Model` = otto's code over the strconv layouts (Model.lean), `Spec` = ES5 (Spec.lean),
  theorems `¬Dev → Model = Spec`, and for every deviation region a kernel-checked witness pair
  (`example : model … = …` / `example : Spec … = …`, `by decide +kernel`) that is also replayed on the real code
  (known_findings.jsonl).
  Number → text is in C06/Layout and C06/Format, text → Number in C06/Parse; here: receivers, object arguments, witnesses.
-/
import OttoVerif.C06.Format
import OttoVerif.C06.Parse
namespace OttoVerif.C06.Thm
open OttoVerif.F64 OttoVerif.C06

/-- §15.7.4: toString, toLocaleString, valueOf, toFixed, toExponential, toPrecision accept exactly Number and
    Number-object receivers (all of them go through `thisClassObject("Number")` since e68311c) -/
theorem numberMethodThis_eq (k : ThisKind) : numberMethodThis k = Spec.numberMethodThis k := by
  cases k <;> rfl

/-- an int64-kinded result of parseInt is at most 2^53 in magnitude (beyond, the Value is a float64) -/
theorem parseIntIsInt_bound (s : Bool) (m : Nat) (e : Int) (h : parseIntIsInt (.fin s m e) = true) :
    truncAbs m e ≤ 2 ^ 53 := by
  simp [parseIntIsInt] at h
  exact h.2

/-- otto's Value.float64() on an object is ToNumber(ToPrimitive(hint Number)): same result, same calls -/
theorem convert_eq (sc : Script) (st : CState) : convert sc st = Spec.toNumberObj sc st := by
  unfold convert Spec.toNumberObj
  cases pick sc.vs st.vi with
  | num x => rfl
  | throw => rfl
  | obj =>
    simp only
    cases pick sc.ss st.si <;> simp [List.append_assoc]

/-- one conversion appends "v" or "vs" to the call log -/
theorem convert_log (sc : Script) (st : CState) :
    (convert sc st).2.log = st.log ++ [118] ∨ (convert sc st).2.log = st.log ++ [118, 115] := by
  rw [convert_eq]; unfold Spec.toNumberObj
  cases pick sc.vs st.vi with
  | num x => exact Or.inl rfl
  | throw => exact Or.inl rfl
  | obj => right; simp only; cases pick sc.ss st.si <;> rfl

/-- what the primitive-argument theorems say about one method, receiver value and converted argument -/
def PrimAgree (L : Lib) (m : Meth) (x v : FV) : Prop :=
  match m with
  | .toFixed => toFixed L x (.num v) = Spec.toFixed x (.num v)
  | .toExponential => toExponential L x (.num v) = Spec.toExponential x (.num v)
  | .toPrecision => toPrecision L x (.num v) = Spec.toPrecision x (.num v)
  | .toString => some (numberToString L x (.num v)) = Spec.toStringRadix x (.num v)

/-- C06.argument_conversion: for every method, receiver (Number, Number object, anything else) and scripted
    object argument (any sequence of valueOf / toString results: numbers, objects, throws), otto converts the
    argument exactly as ES5 15.7.4.2/5/6/7 order it — same call log, same exception, same RangeError /
    TypeError precedence — and the result is the spec's whenever the method agrees on the converted number. -/
theorem callWithObject_eq (L : Lib) (m : Meth) (r : Recv) (sc : Script)
    (h : ∀ x v, r.value? = some x → (Spec.toNumberObj sc st0).1 = .val v → PrimAgree L m x v) :
    callWithObject L m r sc = Spec.callWithObject m r sc := by
  cases m with
  | toFixed =>
    simp only [callWithObject, Spec.callWithObject, convert_eq]
    cases hc : Spec.toNumberObj sc st0 with
    | mk c st =>
      cases c with
      | thrown => rfl
      | typeError => rfl
      | val v =>
        simp only [toInteger_eq, Spec.ltI, Spec.gtI, ofInt_zero]
        by_cases hr : lt (ofInt 20) (Spec.toInteger v) = true ∨ lt (Spec.toInteger v) zero = true
        · rw [if_pos hr, if_pos hr.symm]
        · rw [if_neg hr, if_neg (fun x => hr x.symm)]
          cases hv : r.value? with
          | none => rfl
          | some x => simp only [show toFixed L x (.num v) = _ from h x v hv (by rw [hc])]
  | toExponential | toPrecision | toString =>
    simp only [callWithObject, Spec.callWithObject, convert_eq]
    cases hv : r.value? with
    | none => rfl
    | some x =>
      cases hc : Spec.toNumberObj sc st0 with
      | mk c st =>
        cases c with
        | thrown => rfl
        | typeError => rfl
        | val v =>
          have := h x v hv (by rw [hc])
          simp only [PrimAgree] at this
          simp only [← this]

/-- the argument is converted at most once: the call log is empty (receiver rejected first), "v" or "vs" -/
theorem converted_once (L : Lib) (m : Meth) (r : Recv) (sc : Script) :
    (callWithObject L m r sc).2 = [] ∨ (callWithObject L m r sc).2 = [118] ∨ (callWithObject L m r sc).2 = [118, 115] := by
  have hconv : (convert sc st0).2.log = [118] ∨ (convert sc st0).2.log = [118, 115] := convert_log sc st0
  cases m <;> simp only [callWithObject]
  · cases hc : convert sc st0 with
    | mk c st =>
      rw [hc] at hconv
      cases c with
      | thrown => exact Or.inr hconv
      | typeError => exact Or.inr hconv
      | val v =>
        simp only
        split
        · exact Or.inr hconv
        · cases r.value? <;> exact Or.inr hconv
  all_goals (
    cases r.value? with
    | none => left; rfl
    | some x =>
      cases hc : convert sc st0 with
      | mk c st =>
        rw [hc] at hconv
        cases c <;> exact Or.inr hconv)

/-- instances: check-then-use script (valueOf answers 1, then 25) and a NaN receiver -/
example : callWithObject Spec.exactLib .toFixed (.num (decode 0x3fe0000000000000)) ⟨[.num (ofInt 1), .num (ofInt 25)], [.num (ofInt 2)]⟩
    = (.res (.str [48, 46, 53]), [118]) := by decide +kernel
example : (callWithObject Spec.exactLib .toExponential (.num .nan) ⟨[.throw], [.num (ofInt 2)]⟩).2 = [118] := by decide +kernel
example : (Spec.callWithObject .toPrecision (.num .nan) ⟨[.obj], [.num (ofInt 2)]⟩).2 = [118, 115] := by decide +kernel

/-- C06.parseInt_argument_order: for every string argument (primitive, object with a logging toString, object
    whose toString throws) and every scripted radix object, otto's parseInt performs ToString(string) first and
    ToInt32(radix) next and ALWAYS (also for a string without digits: ae747ea) — same call log and same
    exception as §15.1.2.2 steps 1 and 6 — and returns the spec's value whenever parseInt agrees on the
    converted primitives. -/
theorem parseIntWithObjects_eq (sa : StrArg) (sc : Script)
    (h : ∀ s v, (sa = .prim s ∨ sa = .obj s) → parseInt s (.num v) = Spec.parseInt s (.num v)) :
    parseIntWithObjects sa sc = Spec.parseIntWithObjects sa sc := by
  cases sa with
  | throws => rfl
  | prim s | obj s =>
    simp only [parseIntWithObjects, Spec.parseIntWithObjects, convert_eq]
    split
    · next heq => rw [heq]
    · next heq => rw [heq]
    · next v st heq => rw [heq, h s v (by simp)]

/-- the radix is converted whatever the string is: unless ToString(string) throws, the log contains 'v' -/
theorem radix_always_converted (sa : StrArg) (sc : Script) (hs : sa ≠ .throws) :
    118 ∈ (parseIntWithObjects sa sc).2 := by
  have hlog : ∀ st : CState, 118 ∈ (convert sc st).2.log := fun st => by
    rcases convert_log sc st with h | h <;> simp [h]
  cases sa with
  | throws => exact absurd rfl hs
  | prim s | obj s =>
    simp only [parseIntWithObjects]
    split <;> (rename_i heq; rw [← congrArg (·.2.log) heq]; exact hlog _)

example : parseIntWithObjects (.prim []) ⟨[.num (ofInt 10)], [.num (ofInt 2)]⟩ = (.num .nan, [118]) := by decide +kernel
example : (parseIntWithObjects (.obj [32]) ⟨[.throw], [.num (ofInt 2)]⟩).2 = [83, 118] := by decide +kernel

/-! ## non-vacuity of the layout theorem, witnesses of the remaining deviation regions, and the
    former regions (now model = spec) -/

def fv (b : UInt64) : FV := decode b
def L0 : Lib := Spec.exactLib
def bytes (s : String) : Str := OttoVerif.Str.ofString s

/-- the hypotheses of `toString_layout` hold for 1.5, 1e21, and the doubles next to the two thresholds -/
example : Spec.Dev.sideOK (fv 0x3ff8000000000000) (Spec.shortestDigits (2^52 + 2^51) (-52)).dp = true := by decide +kernel
example : (Spec.shortestDigits (2^52 + 2^51) (-52)) = ⟨[1, 5], 1⟩ := by decide +kernel
example : numToString L0 (fv 0x3ff8000000000000) = bytes "1.5" := by decide +kernel
example : numToString L0 (fv 0x444b1ae4d6e2ef50) = bytes "1e+21" := by decide +kernel
example : Spec.toStringNum (fv 0x0000000000000001) = bytes "5e-324" := by decide +kernel
example : Spec.toStringNum (fv 0x7fefffffffffffff) = bytes "1.7976931348623157e+308" := by decide +kernel
example : Spec.toStringNum (fv 0x3eb0c6f7a0b5ed8d) = bytes "0.000001" := by decide +kernel
/-- former Dev toString_threshold: the double below 1e21 and a double below 1e-6 -/
example : Spec.Dev.toStr (fv 0x444b1ae4d6e2ef4f) = [] := by decide +kernel
example : numToString L0 (fv 0x444b1ae4d6e2ef4f) = bytes "999999999999999900000" := by decide +kernel
example : Spec.toStringNum (fv 0x444b1ae4d6e2ef4f) = bytes "999999999999999900000" := by decide +kernel
example : numToString L0 (fv 0x3eb0c6f7a0b5ed8a) = Spec.toStringNum (fv 0x3eb0c6f7a0b5ed8a) := by decide +kernel
example : numToString L0 (fv 0x3eb0c6f7a0b5ed8d) = bytes "0.000001" := by decide +kernel

/-- former Dev toFixed_tie / toFixed_negzero -/
example : toFixed L0 (fv 0x3fe0000000000000) (.num (fv 0)) = .str (bytes "1") := by decide +kernel
example : Spec.toFixed (fv 0x3fe0000000000000) (.num (fv 0)) = .str (bytes "1") := by decide +kernel
example : toFixed L0 (fv 0x8000000000000000) (.num (fv 0x4000000000000000)) = .str (bytes "0.00") := by decide +kernel
example : Spec.toFixed (fv 0x8000000000000000) (.num (fv 0x4000000000000000)) = .str (bytes "0.00") := by decide +kernel

/-- Dev toExponential_exp2: (1).toExponential() -/
example : toExponential L0 (fv 0x3ff0000000000000) .undef = .str (bytes "1e+00") := by decide +kernel
example : Spec.toExponential (fv 0x3ff0000000000000) .undef = .str (bytes "1e+0") := by decide +kernel
/-- former Dev toExponential_inf: Infinity.toExponential(), (-Infinity).toExponential(800) -/
example : toExponential L0 (.inf false) .undef = .str (bytes "Infinity") := by decide +kernel
example : toExponential L0 (.inf true) (.num (fv 0x4089000000000000)) = .str (bytes "-Infinity") := by decide +kernel
/-- former Dev toExponential_negzero: (-0).toExponential(2) now differs only by the exponent padding -/
example : toExponential L0 (fv 0x8000000000000000) (.num (fv 0x4000000000000000)) = .str (bytes "0.00e+00") := by decide +kernel
example : Spec.toExponential (fv 0x8000000000000000) (.num (fv 0x4000000000000000)) = .str (bytes "0.00e+0") := by decide +kernel
/-- (1.5).toExponential(25) is a RangeError on both sides (fix 94625b0) -/
example : toExponential L0 (fv 0x3ff8000000000000) (.num (fv 0x4039000000000000)) = .rangeError := by decide +kernel
example : Spec.toExponential (fv 0x3ff8000000000000) (.num (fv 0x4039000000000000)) = .rangeError := by decide +kernel
/-- former Dev toExponential_tie: (2.5).toExponential(0), (1.125).toExponential(2), (105).toExponential(1)
    (only the exponent padding still differs) -/
example : toExponential L0 (fv 0x4004000000000000) (.num (fv 0)) = .str (bytes "3e+00") := by decide +kernel
example : Spec.toExponential (fv 0x4004000000000000) (.num (fv 0)) = .str (bytes "3e+0") := by decide +kernel
example : toExponential L0 (fv 0x3ff2000000000000) (.num (fv 0x4000000000000000)) = .str (bytes "1.13e+00") := by decide +kernel
example : toExponential L0 (fv 0x405a400000000000) (.num (fv 0x3ff0000000000000)) = .str (bytes "1.1e+02") := by decide +kernel
example : Spec.toExponential (fv 0x405a400000000000) (.num (fv 0x3ff0000000000000)) = .str (bytes "1.1e+2") := by decide +kernel

/-- Dev toPrecision_exp2: (123456).toPrecision(2) -/
example : toPrecision L0 (fv 0x40fe240000000000) (.num (fv 0x4000000000000000)) = .str (bytes "1.2e+05") := by decide +kernel
example : Spec.toPrecision (fv 0x40fe240000000000) (.num (fv 0x4000000000000000)) = .str (bytes "1.2e+5") := by decide +kernel
/-- former Dev toPrecision_inf / toPrecision_negzero -/
example : toPrecision L0 (.inf false) (.num (fv 0x4000000000000000)) = .str (bytes "Infinity") := by decide +kernel
example : toPrecision L0 (fv 0x8000000000000000) (.num (fv 0x3ff0000000000000)) = .str (bytes "0") := by decide +kernel
example : Spec.toPrecision (fv 0x8000000000000000) (.num (fv 0x3ff0000000000000)) = .str (bytes "0") := by decide +kernel
/-- (1.5).toPrecision(30) is a RangeError on both sides (fix 94625b0) -/
example : toPrecision L0 (fv 0x3ff8000000000000) (.num (fv 0x403e000000000000)) = .rangeError := by decide +kernel
example : Spec.toPrecision (fv 0x3ff8000000000000) (.num (fv 0x403e000000000000)) = .rangeError := by decide +kernel
/-- Dev toPrecision_small: (0.00001).toPrecision(1) -/
example : toPrecision L0 (fv 0x3ee4f8b588e368f1) (.num (fv 0x3ff0000000000000)) = .str (bytes "1e-05") := by decide +kernel
example : Spec.toPrecision (fv 0x3ee4f8b588e368f1) (.num (fv 0x3ff0000000000000)) = .str (bytes "0.00001") := by decide +kernel
/-- Dev toPrecision_tie: (2.5).toPrecision(1) -/
example : toPrecision L0 (fv 0x4004000000000000) (.num (fv 0x3ff0000000000000)) = .str (bytes "2") := by decide +kernel
example : Spec.toPrecision (fv 0x4004000000000000) (.num (fv 0x3ff0000000000000)) = .str (bytes "3") := by decide +kernel
/-- Dev toPrecision_zeros: (1).toPrecision(3) -/
example : toPrecision L0 (fv 0x3ff0000000000000) (.num (fv 0x4008000000000000)) = .str (bytes "1") := by decide +kernel
example : Spec.toPrecision (fv 0x3ff0000000000000) (.num (fv 0x4008000000000000)) = .str (bytes "1.00") := by decide +kernel

/-- former Dev radix_big: (1e21).toString(7) -/
example : numberToString L0 (fv 0x444b1ae4d6e2ef50) (.num (fv 0x401c000000000000)) = .str (bytes "5135235413265003022550266") := by decide +kernel
example : Spec.toStringRadix (fv 0x444b1ae4d6e2ef50) (.num (fv 0x401c000000000000)) = some (.str (bytes "5135235413265003022550266")) := by decide +kernel
/-- Dev radix_fraction: (0.5).toString(2) -/
example : numberToString L0 (fv 0x3fe0000000000000) (.num (fv 0x4000000000000000)) = .str (bytes "0") := by decide +kernel
example : Spec.toStringRadix (fv 0x3fe0000000000000) (.num (fv 0x4000000000000000)) = some (.str (bytes "0.1")) := by decide +kernel

/-- former Dev num_hex_big / num_hexfloat / num_inf_spelling / num_underscore -/
example : same (stringToNumber (bytes "0x8000000000000000")) (fv 0x43e0000000000000) = true := by decide +kernel
example : same (Spec.stringToNumber (bytes "0x8000000000000000")) (fv 0x43e0000000000000) = true := by decide +kernel
example : stringToNumber (bytes "0x1.8p1") = .nan ∧ Spec.stringToNumber (bytes "0x1.8p1") = .nan := by decide +kernel
example : stringToNumber (bytes "infinity") = .nan ∧ Spec.stringToNumber (bytes "infinity") = .nan := by decide +kernel
example : stringToNumber (bytes "1_000") = .nan ∧ Spec.stringToNumber (bytes "1_000") = .nan := by decide +kernel
example : stringToNumber (bytes " -Infinity ") = .inf true := by decide +kernel

/-- former Dev parseFloat_goext / parseFloat_inf / parseFloat_overflow -/
example : same (parseFloat (bytes "0x1p3")) zero = true ∧ same (Spec.parseFloat (bytes "0x1p3")) zero = true := by decide +kernel
example : same (parseFloat (bytes "1inf")) one = true ∧ same (Spec.parseFloat (bytes "1inf")) one = true := by decide +kernel
example : parseFloat (bytes "1e999") = .inf false ∧ Spec.parseFloat (bytes "1e999") = .inf false := by decide +kernel
example : parseFloat (bytes "INF") = .nan ∧ Spec.parseFloat (bytes "INF") = .nan := by decide +kernel

/-- former Dev parseInt_big / parseInt_negzero -/
example : same (parseInt (bytes "0x8000000000000401") .undef) (fv 0x43e0000000000001) = true := by decide +kernel
example : same (Spec.parseInt (bytes "0x8000000000000401") .undef) (fv 0x43e0000000000001) = true := by decide +kernel
example : same (parseInt (bytes "-0") .undef) negZero = true := by decide +kernel
example : same (Spec.parseInt (bytes "-0") .undef) negZero = true := by decide +kernel

/-- former Dev lit_hex_big / lit_octal_big: numeric literals of 2^63 and more -/
example : (literalValue (bytes "0x8000000000000401")).map encode = some 0x43e0000000000001 := by decide +kernel
example : (Spec.literalValue (bytes "0x8000000000000401")).map encode = some 0x43e0000000000001 := by decide +kernel
example : (literalValue (bytes "01000000000000000000000")).map encode = some 0x43e0000000000000 := by decide +kernel  -- 2^63
example : (Spec.literalValue (bytes "01000000000000000000000")).map encode = some 0x43e0000000000000 := by decide +kernel
example : (literalValue (bytes "1.5e3")).map encode = (Spec.literalValue (bytes "1.5e3")).map encode := by decide +kernel
example : literalValue (bytes "09") = none ∧ Spec.literalValue (bytes "09") = none := by decide +kernel

/-- former int_kind_tostring sources repaired at creation: the literal 9007199254740993 and parseInt of it -/
example : literalString L0 (bytes "9007199254740993") = some (bytes "9007199254740992") := by decide +kernel
example : Spec.literalString (bytes "9007199254740993") = some (bytes "9007199254740992") := by decide +kernel
example : literalString L0 (bytes "1000000000000000128") = some (bytes "1000000000000000100") := by decide +kernel
example : parseIntString L0 (bytes "9007199254740993") .undef = bytes "9007199254740992" := by decide +kernel
example : parseIntString L0 (bytes "-123") .undef = bytes "-123" := by decide +kernel
/-- Dev int_kind_tostring (now only Go integers handed to the VM): String of an int64-kinded 9007199254740993 -/
example : formatInt 9007199254740993 10 = bytes "9007199254740993" := by decide +kernel
example : Spec.toStringNum (ofInt 9007199254740993) = bytes "9007199254740992" := by decide +kernel

/-- round trip: Number(String(x)) on the model for a few values, including the threshold region -/
example : same (stringToNumber (numToString L0 (fv 0x444b1ae4d6e2ef4f))) (fv 0x444b1ae4d6e2ef4f) = true := by decide +kernel
example : same (stringToNumber (Spec.toStringNum (fv 0x0000000000000001))) (fv 0x0000000000000001) = true := by decide +kernel

end OttoVerif.C06.Thm
