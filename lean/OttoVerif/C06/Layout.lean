/-
  C06/Layout — the text layouts of a digit string, no doubles involved.  Two notations: positional (`fixedNote`) and
  scientific (`pointed` digits, `e`, sign, exponent: `es5ExpLayout`).  strconv's %f and %e (and through them %g) and
  each ES5 layout (§9.8.1 steps 6–10, §15.7.4.5 step 8, §15.7.4.6 steps 10–13, §15.7.4.7 steps 10c–13) are
  characterised once against a notation; the layout theorems compose two such characterisations.  strconv pads the
  exponent to two digits, otto's regexp takes the padding off again (`expDigits_eq`, `strip_exponent`).
-/
import OttoVerif.C06.Digits
namespace OttoVerif.C06.Thm
open OttoVerif.F64 OttoVerif.C06

/-- the character fmtF prints for decimal position j of the digit slice -/
def digitAt (ds : List Nat) (j : Int) : Nat :=
  if 0 ≤ j ∧ j < (ds.length : Int) then digitCh (ds.getD j.toNat 0) else 48

theorem digitAt_nat (ds : List Nat) (i : Nat) (h : i < ds.length) : digitAt ds (i : Int) = digitCh ds[i] := by
  have h' : (i : Int) < (ds.length : Int) := by omega
  simp [digitAt, h', List.getElem?_eq_getElem h]

theorem digitAt_window (ds : List Nat) (a n : Nat) (h : a + n ≤ ds.length) :
    (List.range n).map (fun (i : Nat) => digitAt ds ((a : Int) + (i : Int))) = ((ds.drop a).take n).map digitCh := by
  apply List.ext_getElem
  · simp; omega
  · intro i h1 h2
    simp at h1 h2
    rw [List.getElem_map, List.getElem_range, List.getElem_map, List.getElem_take, List.getElem_drop,
      ← Int.natCast_add, digitAt_nat ds (a + i) (by omega)]

theorem digitAt_window_out (ds : List Nat) (a : Int) (n : Nat) (h : a + n ≤ 0 ∨ (ds.length : Int) ≤ a) :
    (List.range n).map (fun (i : Nat) => digitAt ds (a + (i : Int))) = List.replicate n 48 := by
  rw [List.eq_replicate_iff]
  refine ⟨by simp, fun b hb => ?_⟩
  obtain ⟨i, hi, rfl⟩ := List.mem_map.mp hb
  have := List.mem_range.mp hi
  unfold digitAt
  rw [if_neg]
  omega

theorem digitAt_take (ds : List Nat) (n : Nat) (h : n ≤ ds.length) :
    (List.range n).map (fun (i : Nat) => digitAt ds (i : Int)) = (ds.take n).map digitCh := by
  simpa using digitAt_window ds 0 n (by omega)

theorem fmtF_char (neg : Bool) (ds : List Nat) (dp prec : Int) :
    fmtF neg ⟨ds, dp⟩ prec = (if neg then [45] else []) ++
      (if dp > 0 then (List.range dp.toNat).map (fun (i : Nat) => digitAt ds i) else [48]) ++
      (if prec > 0 then 46 :: (List.range prec.toNat).map (fun (i : Nat) => digitAt ds (dp + i)) else []) := by
  simp only [fmtF]
  congr 2
  by_cases hdp : dp > 0
  · rw [if_pos hdp, if_pos hdp]
    by_cases hle : dp.toNat ≤ ds.length
    · rw [Nat.min_eq_right hle, Nat.sub_self, List.replicate_zero, List.append_nil, digitAt_take ds _ hle]
    · -- the digits, then zeros up to the point
      have hz := digitAt_window_out ds ds.length (dp.toNat - ds.length) (Or.inr (Int.le_refl _))
      have hsplit : dp.toNat = ds.length + (dp.toNat - ds.length) := by omega
      rw [Nat.min_eq_left (by omega), ← hz, ← digitAt_take ds _ (Nat.le_refl _)]
      conv => rhs; rw [hsplit, List.range_add, List.map_append, List.map_map]
      simp [Function.comp_def]
  · rw [if_neg hdp, if_neg hdp]

theorem digitAt_append_zeros (ds : List Nat) (z : Nat) (j : Int) :
    digitAt (ds ++ List.replicate z 0) j = digitAt ds j := by
  unfold digitAt
  by_cases h0 : 0 ≤ j
  · by_cases h1 : j < (ds.length : Int)
    · have h2 : j < ((ds ++ List.replicate z 0).length : Int) := by simp; omega
      have h3 : j.toNat < ds.length := by omega
      rw [if_pos ⟨h0, h2⟩, if_pos ⟨h0, h1⟩]
      simp [List.getElem?_append_left h3]
    · by_cases h2 : j < ((ds ++ List.replicate z 0).length : Int)
      · have h3 : ds.length ≤ j.toNat := by omega
        have h4 : j.toNat - ds.length < z := by simp at h2; omega
        rw [if_pos ⟨h0, h2⟩, if_neg (fun h => h1 h.2)]
        simp [List.getElem?_append_right h3, h4, digitCh]
      · rw [if_neg (fun h => h2 h.2), if_neg (fun h => h1 h.2)]
  · rw [if_neg (fun h => h0 h.1), if_neg (fun h => h0 h.1)]

theorem fmtF_trim (neg : Bool) (ds : List Nat) (z : Nat) (dp prec : Int) :
    fmtF neg ⟨ds ++ List.replicate z 0, dp⟩ prec = fmtF neg ⟨ds, dp⟩ prec := by
  rw [fmtF_char, fmtF_char]
  simp only [digitAt_append_zeros]

/-- positional notation: the digit characters `ms` with the point after the first `n` of them, zeros filling the
    gap on either side, no point when nothing follows it -/
def fixedNote (ms : Str) (n : Int) : Str :=
  if (ms.length : Int) ≤ n then ms ++ List.replicate (n - (ms.length : Int)).toNat 48
  else if 0 < n then ms.take n.toNat ++ 46 :: ms.drop n.toNat
  else 48 :: 46 :: (List.replicate (-n).toNat 48 ++ ms)

/-- strconv's %f showing every digit and no more -/
theorem fmtF_note (neg : Bool) (ds : List Nat) (dp : Int) (hne : ds ≠ []) :
    fmtF neg ⟨ds, dp⟩ (if (ds.length : Int) - dp > 0 then (ds.length : Int) - dp else 0)
      = (if neg then [45] else []) ++ fixedNote (ds.map digitCh) dp := by
  have hk : 0 < ds.length := List.length_pos_iff.mpr hne
  unfold fixedNote
  rw [List.length_map]
  by_cases c6 : (ds.length : Int) ≤ dp
  · -- all digits, then zeros up to the point
    have hm : min ds.length dp.toNat = ds.length := by omega
    rw [if_neg (show ¬ (ds.length : Int) - dp > 0 by omega), if_pos c6,
      ← show dp.toNat - ds.length = (dp - (ds.length : Int)).toNat by omega]
    simp [fmtF, show dp > 0 by omega, hm]
  · rw [if_pos (show (ds.length : Int) - dp > 0 by omega), fmtF_char, if_pos (show (ds.length : Int) - dp > 0 by omega),
      if_neg c6, List.append_assoc]
    congr 1
    by_cases c7 : 0 < dp
    · -- the point inside the digits
      obtain ⟨k, rfl⟩ : ∃ k : Nat, dp = k := ⟨dp.toNat, by omega⟩
      have hfr := digitAt_window ds k (ds.length - k) (by omega)
      rw [List.take_of_length_le (by simp)] at hfr
      rw [if_pos c7, if_pos c7, show ((ds.length : Int) - (k : Int)).toNat = ds.length - k by omega, Int.toNat_natCast,
        digitAt_take ds k (by omega), hfr, List.map_take, List.map_drop]
    · -- `0.`, zeros down to the first digit, the digits
      have hz := digitAt_window_out ds dp (-dp).toNat (Or.inl (by omega))
      have hd := digitAt_window ds 0 ds.length (by omega)
      have hsh : ∀ i : Nat, dp + (((-dp).toNat + i : Nat) : Int) = ((0 : Nat) : Int) + (i : Int) := by intro i; omega
      rw [if_neg c7, if_neg c7, show ((ds.length : Int) - dp).toNat = (-dp).toNat + ds.length by omega, List.range_add,
        List.map_append, List.map_map, hz]
      simp only [Function.comp_def, hsh, hd]
      simp

/-- §9.8.1 steps 6–8 -/
theorem layout981_note (ds : List Nat) (n : Int) (h6 : -6 < n) (h21 : n ≤ 21) :
    Spec.layout981 ds n = fixedNote (ds.map digitCh) n := by
  unfold Spec.layout981 fixedNote
  rw [List.length_map]
  by_cases c6 : (ds.length : Int) ≤ n
  · rw [if_pos ⟨c6, h21⟩, if_pos c6]
  · rw [if_neg (fun h => c6 h.1), if_neg c6]
    by_cases c7 : 0 < n
    · rw [if_pos ⟨c7, h21⟩, if_pos c7]
    · rw [if_neg (fun h => c7 h.1), if_neg c7, if_pos ⟨h6, by omega⟩]

/-- §9.8.1 steps 6–8 are strconv's %f with the shortest digits -/
theorem fixedForm (s : Bool) (ds : List Nat) (dp : Int) (hne : ds ≠ []) (h1 : -6 < dp) (h2 : dp ≤ 21) :
    fmtF s ⟨ds, dp⟩ (if (ds.length : Int) - dp > 0 then (ds.length : Int) - dp else 0)
      = (if s then [45] else []) ++ Spec.layout981 ds dp := by
  rw [fmtF_note s ds dp hne, layout981_note ds dp h1 h2]

/-- the §15.7.4.5 step 8b–c layout of the digit string `ms` with `f` fraction digits -/
def es5Fixed (ms : Str) (f : Nat) : Str :=
  if f = 0 then ms
  else
    let ms := Spec.padLeft (f + 1) ms
    ms.take (ms.length - f) ++ 46 :: ms.drop (ms.length - f)

/-- §15.7.4.5 step 8: `f` digits after the point -/
theorem es5Fixed_note (ms : Str) (f : Nat) (hne : ms ≠ []) :
    es5Fixed ms f = fixedNote ms ((ms.length : Int) - (f : Int)) := by
  have hk : 0 < ms.length := List.length_pos_iff.mpr hne
  unfold es5Fixed fixedNote Spec.padLeft
  by_cases hf : f = 0
  · subst hf; simp
  · rw [if_neg hf, if_neg (by omega)]
    by_cases hkf : f < ms.length
    · rw [if_pos (by omega), show ((ms.length : Int) - (f : Int)).toNat = ms.length - f by omega]
      simp [show f + 1 - ms.length = 0 by omega]
    · rw [if_neg (by omega), show (-((ms.length : Int) - (f : Int))).toNat = f - ms.length by omega]
      simp [show f + 1 - ms.length = (f - ms.length) + 1 by omega, List.replicate_succ,
        show f - ms.length + ms.length + 1 - f = 1 by omega]

/-- strconv's %f layout of a non-empty digit string positioned `f` places before its end is the
    ES5 toFixed layout, for every digit string and every f -/
theorem fixed_layout (neg : Bool) (ds : List Nat) (f : Nat) (hne : ds ≠ []) :
    fmtF neg ⟨ds, (ds.length : Int) - (f : Int)⟩ (f : Int)
      = (if neg then [45] else []) ++ es5Fixed (ds.map digitCh) f := by
  have h := fmtF_note neg ds ((ds.length : Int) - (f : Int)) hne
  rw [show (if (ds.length : Int) - ((ds.length : Int) - (f : Int)) > 0 then (ds.length : Int) - ((ds.length : Int) - (f : Int)) else 0)
      = (f : Int) by split <;> omega] at h
  rw [h, es5Fixed_note _ f (by simpa using hne), List.length_map]

/-- the zero case: no digits at all -/
theorem fixed_layout_zero (neg : Bool) (f : Nat) :
    fmtF neg ⟨[], 0⟩ (f : Int) = (if neg then [45] else []) ++ es5Fixed [48] f := by
  unfold es5Fixed Spec.padLeft
  by_cases hf : f = 0
  · subst hf; simp [fmtF]
  · obtain ⟨g, rfl⟩ : ∃ g, f = g + 1 := ⟨f - 1, by omega⟩
    have hz := digitAt_window_out [] 0 (g + 1) (Or.inr (Int.le_refl 0))
    rw [fmtF_char, if_neg (show ¬ (0 : Int) > 0 by decide), if_pos (show ((g + 1 : Nat) : Int) > 0 by omega),
      Int.toNat_natCast, hz]
    simp [← List.replicate_succ']

/-- a digit string with the point after its first character (§15.7.4.6 steps 10–11) -/
def pointed (ms : Str) : Str := if ms.length ≤ 1 then ms else ms.take 1 ++ 46 :: ms.drop 1

theorem pointed_cons (c : Nat) (t : Str) : pointed (c :: t) = c :: (if t = [] then [] else 46 :: t) := by
  cases t <;> simp [pointed]

theorem mem_pointed (ms : Str) (x : Nat) (h : x ∈ pointed ms) : x ∈ ms ∨ x = 46 := by
  cases ms with
  | nil => cases h
  | cons c t =>
    rw [pointed_cons] at h
    cases t with
    | nil => exact Or.inl h
    | cons d u =>
      simp only [if_neg (List.cons_ne_nil d u), List.mem_cons] at h ⊢
      rcases h with h | h | h <;> simp [h]

theorem digitCh_noE (c : Nat) (h : c < 10) : digitCh c ≠ 101 ∧ digitCh c ≠ 69 := by
  unfold digitCh; omega

/-- the sign and the pointed digits hold no `e`/`E`: `stripExpZeros` and `bumpBeforeE` pass over them -/
theorem sign_pointed_noE (neg : Bool) (ds : List Nat) (hdig : ∀ c ∈ ds, c < 10) :
    ∀ x ∈ (if neg then [45] else []) ++ pointed (ds.map digitCh), x ≠ 101 ∧ x ≠ 69 := by
  intro x hx
  rcases List.mem_append.mp hx with hx | hx
  · cases neg <;> simp at hx; omega
  · rcases mem_pointed _ x hx with h | h
    · obtain ⟨c, hc, rfl⟩ := List.mem_map.mp h
      exact digitCh_noE c (hdig c hc)
    · omega

/-- §15.7.4.6 steps 10–13: the layout of the digit string `ms` with exponent `ex` -/
def es5ExpLayout (ms : Str) (ex : Int) : Str :=
  (if ms.length ≤ 1 then ms else ms.take 1 ++ 46 :: ms.drop 1) ++ Spec.expSuffix ex

/-- %e of the digits `c :: cs` (`z` trailing zeros trimmed) with precision `cs.length + z`: the full digit
    string with the point after its first digit, `e`, sign, and strconv's two-or-three-digit exponent -/
theorem fmtE_shape (neg : Bool) (c : Nat) (cs : List Nat) (z : Nat) (dp : Int) :
    fmtE neg ⟨c :: cs, dp⟩ ((cs.length + z : Nat) : Int)
      = (if neg then [45] else []) ++ pointed ((c :: cs ++ List.replicate z 0).map digitCh)
          ++ 101 :: (if dp - 1 < 0 then 45 else 43) :: expDigits (dp - 1).natAbs := by
  simp only [fmtE, List.cons_append, List.map_cons, pointed_cons]
  by_cases hp : cs.length + z = 0
  · have hcs : cs = [] := by cases cs with | nil => rfl | cons _ _ => simp at hp
    have hz : z = 0 := by omega
    subst hcs; subst hz
    simp
  · have hpos : ((cs.length + z : Nat) : Int) > 0 := by omega
    have hm : min (c :: cs).length ((cs.length + z) + 1) = cs.length + 1 := by simp
    have hne : ¬ (List.map digitCh (cs ++ List.replicate z 0) = []) := by
      intro h; apply hp; simpa using congrArg List.length h
    simp only [hpos, if_true, Int.toNat_natCast, hm, hne, if_false]
    simp [digitCh]

/-- strconv pads the exponent to two digits; from 10 on it is the plain decimal -/
theorem expDigits_eq (E : Nat) (h10 : 10 ≤ E) (h : E < 1000) : expDigits E = Spec.decimalStr E := by
  have hE := natDigits_step E (by omega)
  unfold expDigits Spec.decimalStr
  rw [if_neg (show ¬ E < 10 by omega), if_neg (show ¬ E = 0 by omega), hE]
  by_cases h100 : E < 100
  · rw [if_pos h100, natDigits_digit (E / 10) (by omega) (by omega)]; rfl
  · rw [if_neg h100, natDigits_step (E / 10) (by omega), Nat.div_div_eq_div_mul,
      natDigits_digit (E / (10 * 10)) (by omega) (by omega)]; rfl

/-- `stripExpZeros` passes over text without `e`/`E`, whatever the fuel -/
theorem strip_prefix (pre rest : Str) (h : ∀ c ∈ pre, c ≠ 101 ∧ c ≠ 69) (fuel : Nat) :
    stripExpZeros fuel (pre ++ rest) = pre ++ stripExpZeros (fuel - pre.length) rest := by
  induction pre generalizing fuel with
  | nil => simp
  | cons c r ih =>
    have hc := h c (by simp)
    have hr : ∀ c ∈ r, c ≠ 101 ∧ c ≠ 69 := fun c hc => h c (by simp [hc])
    cases fuel with
    | zero => simp [stripExpZeros]
    | succ k => simp [stripExpZeros, hc.1, hc.2, ih hr k]

theorem strip_noE (fuel : Nat) (s : Str) (h : ∀ c ∈ s, c ≠ 101 ∧ c ≠ 69) : stripExpZeros fuel s = s := by
  have := strip_prefix s [] h fuel
  rw [List.append_nil] at this
  rw [this]
  cases fuel - s.length <;> simp [stripExpZeros]

/-- `matchLeading0Exponent` on strconv's exponent: the padding zero of a one-digit exponent goes, longer
    exponents (no leading zero) stay -/
theorem strip_exponent (sg : Nat) (hsg : sg = 43 ∨ sg = 45) (E : Nat) (h1 : 1 ≤ E) (h : E < 1000) :
    stripExpZeros (101 :: sg :: expDigits E).length (101 :: sg :: expDigits E) = 101 :: sg :: Spec.decimalStr E := by
  by_cases h10 : E < 10
  · have hd : 49 ≤ 48 + E ∧ 48 + E ≤ 57 := by omega
    simp [stripExpZeros, expDigits, h10, hsg, List.takeWhile, List.dropWhile, hd, Spec.decimalStr,
      natDigits_digit E (by omega) h10, digitCh, show E ≠ 0 by omega]
  · obtain ⟨d, rest, hd, hnd⟩ := natDigits_head E (by omega)
    have hdig := natDigits_lt10 E
    rw [expDigits_eq E (by omega) h]
    have hstr : Spec.decimalStr E = digitCh d :: rest.map digitCh := by
      simp [Spec.decimalStr, show E ≠ 0 by omega, hnd]
    have hd48 : digitCh d ≠ 48 := by unfold digitCh; omega
    have hnoE : ∀ x ∈ sg :: Spec.decimalStr E, x ≠ 101 ∧ x ≠ 69 := by
      intro x hx
      rcases List.mem_cons.mp hx with rfl | hx
      · omega
      · rw [Spec.decimalStr, if_neg (by omega)] at hx
        obtain ⟨c, hc, rfl⟩ := List.mem_map.mp hx
        exact digitCh_noE c (hdig c hc)
    have hstrip := strip_noE (sg :: Spec.decimalStr E).length _ hnoE
    rw [List.length_cons, stripExpZeros]
    rw [hstr] at hstrip ⊢
    simp [hsg, List.takeWhile, List.dropWhile, hd48]
    simpa using hstrip

/-- strconv's %e layout of the digits `c :: cs` (trailing zeros possibly trimmed: `z` of them) with
    precision `cs.length + z` is the ES5 toExponential layout of the full digit string whenever the
    exponent needs at least two digits. -/
theorem exp_layout (neg : Bool) (c : Nat) (cs : List Nat) (z : Nat) (dp : Int)
    (h10 : 10 ≤ (dp - 1).natAbs) (h1000 : (dp - 1).natAbs < 1000) :
    fmtE neg ⟨c :: cs, dp⟩ ((cs.length + z : Nat) : Int)
      = (if neg then [45] else []) ++ es5ExpLayout ((c :: cs ++ List.replicate z 0).map digitCh) (dp - 1) := by
  rw [fmtE_shape, expDigits_eq _ h10 h1000, List.append_assoc]
  rfl

/-- §9.8.1 steps 9–10 -/
theorem layout981_exp (ds : List Nat) (n : Int) (hne : ds ≠ []) (h : n > 21 ∨ n ≤ -6) :
    Spec.layout981 ds n = es5ExpLayout (ds.map digitCh) (n - 1) := by
  have h6 : ¬ (((ds.length : Int) ≤ n) ∧ n ≤ 21) := by omega
  have h7 : ¬ (0 < n ∧ n ≤ 21) := by omega
  have h8 : ¬ (-6 < n ∧ n ≤ 0) := by omega
  simp only [Spec.layout981, h6, h7, h8, if_false]
  obtain ⟨c, cs, rfl⟩ := List.exists_cons_of_ne_nil hne
  cases cs <;> simp [es5ExpLayout, Spec.expSuffix]

/-- §9.8.1 steps 9–10 are strconv's %e with the shortest digits, the exponent rewritten by otto -/
theorem expForm (s : Bool) (ds : List Nat) (dp : Int) (hne : ds ≠ []) (hdig : ∀ c ∈ ds, c < 10)
    (h : dp > 21 ∨ dp ≤ -6) (hb : -999 < dp ∧ dp < 1000) :
    stripExpZeros (fmtE s ⟨ds, dp⟩ ((ds.length : Int) - 1)).length (fmtE s ⟨ds, dp⟩ ((ds.length : Int) - 1))
      = (if s then [45] else []) ++ Spec.layout981 ds dp := by
  rw [layout981_exp ds dp hne h]
  obtain ⟨c, cs, rfl⟩ := List.exists_cons_of_ne_nil hne
  have hsh := fmtE_shape s c cs 0 dp
  rw [Nat.add_zero, List.replicate_zero, List.append_nil] at hsh
  rw [show ((c :: cs).length : Int) - 1 = ((cs.length : Nat) : Int) by simp, hsh,
    strip_prefix _ _ (sign_pointed_noE s (c :: cs) hdig), List.length_append, Nat.add_sub_cancel_left,
    strip_exponent _ (by split <;> simp) _ (by omega) (by omega), List.append_assoc]
  rfl

/-! otto's tie correction `digits[e-1]++` (42433cc) on the layouts -/

/-- `digits[e-1]++` finds the byte before the first 'e' -/
theorem bump_spec (W : Str) (x : Nat) (suf : Str) (hW : ∀ c ∈ W, c ≠ 101) (hx : x ≠ 101) :
    bumpBeforeE (W ++ x :: 101 :: suf) = W ++ (x + 1) :: 101 :: suf := by
  induction W with
  | nil => simp [bumpBeforeE]
  | cons c t ih =>
    have ht : ∀ c ∈ t, c ≠ 101 := fun c hc => hW c (by simp [hc])
    cases t with
    | nil =>
      simp only [List.cons_append, List.nil_append, bumpBeforeE, hx, if_false]
      simp
    | cons d r =>
      have hd : d ≠ 101 := hW d (by simp)
      simp only [List.cons_append, bumpBeforeE, hd, if_false]
      have := ih ht
      simp only [List.cons_append] at this
      rw [this]

/-- on the ES5 layout the correction increments the last mantissa digit -/
theorem bump_layout (neg : Bool) (D : List Nat) (d : Nat) (ex : Int) (hD : ∀ c ∈ D, c < 10) (hd : d < 9) :
    bumpBeforeE ((if neg then [45] else []) ++ es5ExpLayout ((D ++ [d]).map digitCh) ex)
      = (if neg then [45] else []) ++ es5ExpLayout ((D ++ [d + 1]).map digitCh) ex := by
  obtain ⟨W, hW⟩ : ∃ W : Str, ∀ y, pointed (D.map digitCh ++ [y]) = W ++ [y] := by
    cases D.map digitCh with
    | nil => exact ⟨[], fun y => rfl⟩
    | cons c t => exact ⟨c :: 46 :: t, fun y => by simp [pointed_cons]⟩
  have hshape : ∀ y, (if neg then [45] else []) ++ es5ExpLayout ((D ++ [y]).map digitCh) ex
      = ((if neg then [45] else []) ++ W) ++ digitCh y :: 101 :: (if ex < 0 then 45 else 43) :: Spec.decimalStr ex.natAbs := by
    intro y
    show _ ++ (pointed ((D ++ [y]).map digitCh) ++ Spec.expSuffix ex) = _
    rw [List.map_append, List.map_singleton, hW]
    simp [Spec.expSuffix]
  have hnoE : ∀ x ∈ (if neg then [45] else []) ++ W, x ≠ 101 := by
    -- `W` is part of the pointed digits `W ++ [digitCh d]`
    have hDd : ∀ c ∈ D ++ [d], c < 10 := by
      intro c hc
      rcases List.mem_append.mp hc with h | h
      · exact hD c h
      · simp at h; omega
    intro x hx
    refine (sign_pointed_noE neg (D ++ [d]) hDd x ?_).1
    rw [List.map_append, List.map_singleton, hW, ← List.append_assoc]
    exact List.mem_append_left _ hx
  rw [hshape, hshape, bump_spec _ _ _ hnoE (digitCh_noE d (by omega)).1]
  rfl

/-- §15.7.4.7 steps 11–13 -/
theorem precLayout_note (ms : Str) (ex : Int) (h1 : -6 ≤ ex) (h2 : ex < ms.length) :
    Spec.precLayout ms ex ms.length = fixedNote ms (ex + 1) := by
  have hnexp : ¬ (ex < -6 ∨ ex ≥ (ms.length : Int)) := by omega
  simp only [Spec.precLayout, fixedNote, hnexp, if_false]
  by_cases c11 : ex = (ms.length : Int) - 1
  · rw [if_pos c11, if_pos (show (ms.length : Int) ≤ ex + 1 by omega),
      show (ex + 1 - (ms.length : Int)).toNat = 0 by omega, List.replicate_zero, List.append_nil]
  · rw [if_neg c11, if_neg (show ¬ (ms.length : Int) ≤ ex + 1 by omega)]
    by_cases c12 : ex ≥ 0
    · rw [if_pos c12, if_pos (show 0 < ex + 1 by omega), show (ex + 1).toNat = ex.toNat + 1 by omega]
    · rw [if_neg c12, if_neg (show ¬ 0 < ex + 1 by omega)]

/-- §15.7.4.7 step 10c -/
theorem precLayout_sci (ms : Str) (ex : Int) (hne : ms ≠ []) (h : ex < -6 ∨ ex ≥ (ms.length : Int)) :
    Spec.precLayout ms ex ms.length = es5ExpLayout ms ex := by
  have hk : 0 < ms.length := List.length_pos_iff.mpr hne
  simp only [Spec.precLayout, es5ExpLayout, h, if_true, show ms.length = 1 ↔ ms.length ≤ 1 by omega]

/-- §15.7.4.7 steps 10c–13 are strconv's %g on exactly p digits, outside exponents −5, −6 and one-digit exponents
    in exponential notation -/
theorem precForm (neg : Bool) (c : Nat) (cs : List Nat) (ex : Int)
    (hsmall : ex ≠ -5 ∧ ex ≠ -6)
    (hexp : (ex < -6 ∨ ex ≥ ((c :: cs).length : Int)) → 10 ≤ ex.natAbs ∧ ex.natAbs < 1000) :
    formatDigits false neg ⟨c :: cs, ex + 1⟩ ((c :: cs).length : Int) .g
      = (if neg then [45] else []) ++ Spec.precLayout ((c :: cs).map digitCh) ex (c :: cs).length := by
  have hx : ex + 1 - 1 = ex := by omega
  have hlen : ((c :: cs).map digitCh).length = (c :: cs).length := List.length_map _
  simp only [formatDigits, if_false, Bool.false_eq_true, ite_self, hx]
  by_cases hE : ex < -6 ∨ ex ≥ ((c :: cs).length : Int)
  · -- exponential notation on both sides
    have h10 := hexp hE
    have hs := precLayout_sci ((c :: cs).map digitCh) ex (by simp) (by rw [hlen]; exact hE)
    have := exp_layout neg c cs 0 (ex + 1) (by rw [hx]; exact h10.1) (by rw [hx]; exact h10.2)
    rw [hlen] at hs
    rw [if_pos (show ex < -4 ∨ ex ≥ ((c :: cs).length : Int) by omega), hs,
      show ((c :: cs).length : Int) - 1 = ((cs.length + 0 : Nat) : Int) by simp, this, hx,
      List.replicate_zero, List.append_nil]
  · have hp := precLayout_note ((c :: cs).map digitCh) ex (by omega) (by rw [hlen]; omega)
    rw [hlen] at hp
    rw [if_neg (show ¬ (ex < -4 ∨ ex ≥ ((c :: cs).length : Int)) by omega), fmtF_note neg (c :: cs) (ex + 1) (by simp), hp]

/-- strconv's %g with precision p on exactly p digits (no trimmed zeros) is the ES5 toPrecision
    layout, for every digit string, outside exponents −5, −6 (Go switches to %e below −4) and
    one-digit exponents in exponential notation. -/
theorem prec_layout (neg : Bool) (c : Nat) (cs : List Nat) (ex : Int)
    (h21 : (c :: cs).length ≤ 21)
    (hsmall : ex ≠ -5 ∧ ex ≠ -6)
    (hexp : (ex < -6 ∨ ex ≥ ((c :: cs).length : Int)) → 10 ≤ ex.natAbs ∧ ex.natAbs < 1000) :
    formatDigits false neg ⟨c :: cs, ex + 1⟩ ((c :: cs).length : Int) .g
      = (if neg then [45] else []) ++ Spec.precLayout ((c :: cs).map digitCh) ex (c :: cs).length :=
  precForm neg c cs ex hsmall hexp

end OttoVerif.C06.Thm
