/-
  C06/Parse — text → Number: parseInt (§15.1.2.2), ToNumber on strings (§9.3.1) and parseFloat
  (§15.1.2.3): otto's scanners and strconv's readers against the ES5 grammar.
-/
import OttoVerif.C06.Spec
import OttoVerif.Base.StrLemmas
import OttoVerif.Base.GoStdLemmas
namespace OttoVerif.C06.Thm
open OttoVerif.F64 OttoVerif.C06

theorem ch_plus : GoStd.ch '+' = 43 := by decide
theorem ch_minus : GoStd.ch '-' = 45 := by decide
theorem ch_dot : GoStd.ch '.' = 46 := by decide
theorem ch_underscore : GoStd.ch '_' = 95 := by decide

/-- strconv's digit value is otto's on every byte otto takes for a digit: those are ASCII, a table of 128 -/
theorem digitVal_eq (c : Nat) (h : digitValue c < 36) : GoStd.digitVal c = some (digitValue c) := by
  have hc : c < 128 := by
    unfold digitValue at h
    split at h
    · omega
    · split at h
      · omega
      · split at h <;> omega
  have table : ∀ c : Fin 128, digitValue c.val < 36 → GoStd.digitVal c.val = some (digitValue c.val) := by
    decide +kernel
  exact table ⟨c, hc⟩ h

/-- strconv.ParseInt on a non-empty string of valid digits in an explicit base 2..36 -/
theorem parseInt_digits (b : Nat) (hb2 : 2 ≤ b) (hb36 : b ≤ 36) (z : List Nat) (hne : z ≠ [])
    (hz : ∀ c ∈ z, digitValue c < b) :
    GoStd.parseInt z b =
      (if z.foldl (fun n c => n * b + digitValue c) 0 ≥ 2 ^ 63 then .range
       else .ok (z.foldl (fun n c => n * b + digitValue c) 0 : Nat)) := by
  exact GoStd.parseInt_digits b b ⟨hb2, hb36⟩ digitValue z hne
    (fun c hc => ⟨digitVal_eq c (by have := hz c hc; omega), hz c hc⟩) (Or.inl rfl)

theorem signSplit_eq (input : Str) : signSplit input = Spec.signOf input := by
  cases input with
  | nil => rfl
  | cons c r =>
    simp only [signSplit, Spec.signOf]
    by_cases h43 : c = 43
    · subst h43; simp
    · by_cases h45 : c = 45
      · subst h45; simp
      · simp [h43, h45]

theorem hexStrip_eq (strip : Bool) (input : Str) (radix : Nat) :
    hexStrip strip input radix = Spec.hexPrefix strip input radix := by
  match input with
  | [] => rfl
  | [_] => rfl
  | a :: c :: r => simp only [hexStrip, Spec.hexPrefix, and_left_comm]

theorem hexPrefix_radix (strip : Bool) (rs : List Nat) (radix : Nat) (h2 : 2 ≤ radix) (h36 : radix ≤ 36) :
    2 ≤ (Spec.hexPrefix strip rs radix).2 ∧ (Spec.hexPrefix strip rs radix).2 ≤ 36 := by
  match rs with
  | [] => exact ⟨h2, h36⟩
  | [_] => exact ⟨h2, h36⟩
  | a :: x :: t =>
    simp only [Spec.hexPrefix]
    split
    · simp
    · exact ⟨h2, h36⟩

theorem neg_ofRatParts (num den : Nat) : neg (ofRatParts false num den) = ofRatParts true num den := by
  unfold ofRatParts
  by_cases h0 : num = 0
  · simp [h0, neg]
  · simp only [h0, if_false]
    cases roundPos num den with
    | none => simp [neg]
    | some p => obtain ⟨m, e⟩ := p; simp [neg]

/-- beyond 2^53 `ofInt` rounds the exact integer -/
theorem ofInt_big (s : Bool) (v : Nat) (h : v ≥ 2 ^ 53) :
    ofInt (if s = true then -(v : Int) else (v : Int)) = ofRatParts s v 1 := by
  have h1 : ¬ (v < 2 ^ 53) := by omega
  cases s
  · have h2 : ¬ ((v : Int) < 0) := by omega
    simp only [Bool.false_eq_true, if_false, ofInt, Int.natAbs_natCast, h1, h2]
  · have h2 : (-(v : Int)) < 0 := by omega
    simp only [if_true, ofInt, Int.natAbs_neg, Int.natAbs_natCast, h1, if_false, h2]

/-- what otto makes of an int64 answer of strconv.ParseInt: the Number value of ±v, with −0 for a negative zero -/
theorem intResult_small (neg : Bool) (v : Nat) :
    (if neg = true ∧ (v : Int) = 0 then negZero else ofInt (if neg = true then -(v : Int) else (v : Int)))
      = if v = 0 then .fin neg 0 0 else ofInt (if neg = true then -(v : Int) else (v : Int)) := by
  by_cases hv0 : v = 0
  · subst hv0
    cases neg
    · simp [ofInt]
    · simp [negZero]
  · simp [hv0]

/-- beyond int64: the exact integer, rounded once, with the sign applied afterwards -/
theorem intResult_big (neg : Bool) (v : Nat) (hv : v ≥ 2 ^ 63) :
    (if neg = true then F64.neg (bigToFloat v) else bigToFloat v)
      = ofInt (if neg = true then -(v : Int) else (v : Int)) := by
  rw [ofInt_big neg v (by omega)]
  cases neg
  · rfl
  · exact neg_ofRatParts v 1

/-- C06.parseInt_spec: for EVERY white-space-stripped input (any byte/code-unit list) and EVERY radix
    value r = ToInt32(radix) — no exception left — otto's parseInt body (sign, radix defaulting, 0x strip,
    digit prefix, strconv.ParseInt, exact big-integer conversion beyond int64, −0 for a negative zero)
    returns the Number value §15.1.2.2 prescribes.  No library parameter: strconv.ParseInt's digit loop
    is modelled and proved. -/
theorem parseInt_body (input : Str) (r : Int) :
    parseIntBody input r = Spec.parseIntBody input r := by
  simp only [parseIntBody, Spec.parseIntBody, signSplit_eq, hexStrip_eq]
  by_cases hbad : r ≠ 0 ∧ (r < 2 ∨ r > 36)
  · simp [hbad]
  · have hbad' : (decide (r ≠ 0 ∧ (r < 2 ∨ r > 36))) = false := by simpa using hbad
    simp only [hbad', Bool.false_eq_true, if_false, if_neg hbad]
    have hr2 : 2 ≤ (if r = 0 then 10 else r.toNat) ∧ (if r = 0 then 10 else r.toNat) ≤ 36 := by
      by_cases h0 : r = 0
      · simp [h0]
      · simp only [h0, if_false]; omega
    generalize hR : (if r = 0 then 10 else r.toNat) = R at *
    generalize hS : (decide (r = 0 ∨ r = 16)) = strip at *
    have hb := hexPrefix_radix strip (Spec.signOf input).2 R hr2.1 hr2.2
    generalize hR' : (Spec.hexPrefix strip (Spec.signOf input).2 R).2 = R' at *
    generalize hI : (Spec.hexPrefix strip (Spec.signOf input).2 R).1 = inp at *
    generalize hz : List.takeWhile (fun c => decide (digitValue c < R')) inp = z at *
    have hzall : ∀ c ∈ z, digitValue c < R' := by
      intro c hc
      rw [← hz] at hc
      simpa using List.all_eq_true.mp List.all_takeWhile c hc
    by_cases hze : z = []
    · -- no digits: NaN on both sides (also when the input was empty)
      subst hze
      have hsyn : GoStd.parseInt [] R' = .syntax := by simp [GoStd.parseInt]
      simp [hsyn]
    · have hzi := List.isEmpty_eq_false_iff.mpr hze
      have hin : input.isEmpty = false := List.isEmpty_eq_false_iff.mpr (fun h => hze (by rw [← hz, ← hI, h]; rfl))
      have hin2 : (Spec.signOf input).2.isEmpty = false :=
        List.isEmpty_eq_false_iff.mpr (fun h => hze (by rw [← hz, ← hI, h]; rfl))
      simp only [hin, hin2, hzi, Bool.false_eq_true, if_false]
      rw [parseInt_digits R' hb.1 hb.2 z hze hzall]
      generalize List.foldl (fun n c => n * R' + digitValue c) 0 z = v at *
      by_cases hv : v ≥ 2 ^ 63
      · simp only [hv, if_true, show ¬ v = 0 by omega, if_false]
        exact intResult_big _ v hv
      · simp only [hv, if_false]
        exact intResult_small _ v

/-- instances of `parseInt_body`, including the former deviation regions ("-0", digits beyond 2^63) -/
example : Spec.parseIntBody (OttoVerif.Str.ofString "-12abc") 0 = ofInt (-12) := by decide +kernel
example : Spec.parseIntBody (OttoVerif.Str.ofString "zz") 36 = ofInt 1295 := by decide +kernel
example : parseIntBody (OttoVerif.Str.ofString "-0") 0 = negZero := by decide +kernel
example : same (parseIntBody (OttoVerif.Str.ofString "0x8000000000000401") 0) (decode 0x43e0000000000001) = true := by decide +kernel

section ToNumber
open OttoVerif.GoStd OttoVerif.Str

/-! ### the regular expression of parseNumber / parseFloat is the §9.3.1 grammar -/

theorem reIsDigit_eq : reIsDigit = Spec.isDigit := rfl

/-- the two are the same text up to the name of the digit test -/
theorem reFrac_eq (b : Bool) (r : Str) : reFrac b r = Spec.fracStep b r := rfl

theorem reSign_eq (t : Str) : reSign t = (Spec.expSign t).2 := by
  cases t with
  | nil => rfl
  | cons c u =>
    simp only [reSign, Spec.expSign]
    by_cases h43 : c = 43
    · simp [h43]
    · by_cases h45 : c = 45
      · simp [h45]
      · simp [h43, h45]

theorem reExpRest_eq (r : Str) : reExpRest r = (Spec.expStep r).2 := by
  cases r with
  | nil => rfl
  | cons c t =>
    simp only [reExpRest, Spec.expStep, reSign_eq, reIsDigit_eq]
    split
    · split <;> rfl
    · rfl

/-- the unsigned part of the regular expression consumes what §9.3.1's StrUnsignedDecimalLiteral prefix does -/
theorem reUnsigned_eq (body : Str) :
    (if sInfinity.isPrefixOf body then some (body.drop 8) else
      if (body.takeWhile reIsDigit).isEmpty ∧ (reFrac (body.takeWhile reIsDigit).isEmpty (body.dropWhile reIsDigit)).1.isEmpty
      then none else some (reExpRest (reFrac (body.takeWhile reIsDigit).isEmpty (body.dropWhile reIsDigit)).2))
    = (Spec.unsignedDecPrefix body).map (·.rest) := by
  simp only [Spec.unsignedDecPrefix, reFrac_eq, reExpRest_eq, reIsDigit_eq]
  split
  · rfl
  · split <;> rfl

theorem sign_split (s : Str) : ∃ sgn body, s = sgn ++ body ∧ (sgn = [] ∨ sgn = [43] ∨ sgn = [45]) ∧
    (sgn = [] → ∀ c t, body = c :: t → c ≠ 43 ∧ c ≠ 45) ∧ reSign s = body := by
  cases s with
  | nil => exact ⟨[], [], rfl, Or.inl rfl, (fun _ c t h => nomatch h), rfl⟩
  | cons c t =>
    by_cases h43 : c = 43
    · subst h43; exact ⟨[43], t, rfl, Or.inr (Or.inl rfl), (fun h => nomatch h), by simp [reSign]⟩
    · by_cases h45 : c = 45
      · subst h45; exact ⟨[45], t, rfl, Or.inr (Or.inr rfl), (fun h => nomatch h), by simp [reSign]⟩
      · refine ⟨[], c :: t, rfl, Or.inl rfl, fun _ c' t' h => ?_, by simp [reSign, h43, h45]⟩
        obtain ⟨rfl, _⟩ := List.cons.inj h
        exact ⟨h43, h45⟩

theorem strDecimalPrefix_signed (sgn : List Nat) (hsg : sgn = [] ∨ sgn = [43] ∨ sgn = [45]) (body : List Nat)
    (hb : sgn = [] → ∀ c t, body = c :: t → c ≠ 43 ∧ c ≠ 45) :
    Spec.strDecimalPrefix (sgn ++ body) = (Spec.unsignedDecPrefix body).map (fun d =>
      (if d.inf then .inf (decide (sgn = [45])) else Spec.mvRound (decide (sgn = [45])) d.mant d.exp10, d.rest)) := by
  unfold Spec.strDecimalPrefix
  rcases hsg with rfl | rfl | rfl
  · rw [List.nil_append]
    split
    rename_i x neg body' heq
    split at heq
    · rename_i t; exact absurd rfl (hb rfl 43 t rfl).1
    · rename_i t; exact absurd rfl (hb rfl 45 t rfl).2
    · simp at heq
      obtain ⟨rfl, rfl⟩ := heq
      cases Spec.unsignedDecPrefix body <;> rfl
  · simp only [List.cons_append, List.nil_append]
    cases Spec.unsignedDecPrefix body <;> rfl
  · simp only [List.cons_append, List.nil_append]
    cases Spec.unsignedDecPrefix body <;> rfl

/-- the regular expression of parseNumber / parseFloat finds exactly the longest StrDecimalLiteral prefix
    of §9.3.1, for EVERY text -/
theorem reDecRest_eq (s : Str) : reDecRest s = (Spec.strDecimalPrefix s).map (·.2) := by
  obtain ⟨sgn, body, rfl, hsg, hb, hre⟩ := sign_split s
  rw [strDecimalPrefix_signed sgn hsg body hb, Option.map_map]
  unfold reDecRest
  rw [hre]
  exact reUnsigned_eq body

theorem reIsHexDigit_eq : reIsHexDigit = Spec.isHexDigit := by
  funext c
  simp [reIsHexDigit, Spec.isHexDigit, Spec.isDigit]

theorem isHexLit_eq (v : Str) : isHexLit v = Spec.isHexIntegerLiteral v := by
  unfold isHexLit Spec.isHexIntegerLiteral
  rw [reIsHexDigit_eq]
  rfl

/-- bytes of the numeric alphabet: ASCII and not ES5/otto white space -/
def Plain (c : Nat) : Prop := 33 ≤ c ∧ c < 127

theorem plain_not_ws (c : Nat) (h : Plain c) : OttoVerif.PN.wsRunes.contains c = false := by
  have hws : ∀ r ∈ OttoVerif.PN.wsRunes, r < 33 ∨ 127 ≤ r := by decide
  rw [List.contains_eq_mem, decide_eq_false_iff_not]
  intro hm
  have := hws c hm
  unfold Plain at h; omega

theorem dropWhile_eq_self {α : Type} (p : α → Bool) (l : List α) (h : ∀ x ∈ l, p x = false) : l.dropWhile p = l := by
  cases l with
  | nil => rfl
  | cons a t => simp [List.dropWhile, h a (by simp)]

theorem segments_plain (bs : List Nat) (h : ∀ c ∈ bs, Plain c) (fuel : Nat) (hf : bs.length ≤ fuel) :
    segments fuel bs = bs.map (fun c => (c, 1)) := by
  induction bs generalizing fuel with
  | nil => cases fuel <;> rfl
  | cons c r ih =>
    obtain ⟨k, rfl⟩ : ∃ k, fuel = k + 1 := ⟨fuel - 1, by simp at hf; omega⟩
    have hc := h c (by simp)
    have hr : ∀ x ∈ r, Plain x := fun x hx => h x (by simp [hx])
    simp only [segments, decodeRune_ascii c r (by unfold Plain at hc; omega)]
    simp [ih hr k (by simp at hf; omega)]

/-- strings.Trim with otto's white-space cut set leaves a string of plain ASCII bytes alone -/
theorem trim_plain (bs : List Nat) (h : ∀ c ∈ bs, Plain c) : trim OttoVerif.PN.wsRunes bs = bs := by
  cases bs with
  | nil => simp [trim, trimLeftRunes, trimRightRunes, segments]
  | cons c r =>
    have hc := h c (by simp)
    have hl : trimLeftRunes OttoVerif.PN.wsRunes (c :: r).length (c :: r) = c :: r := by
      simp only [List.length_cons, trimLeftRunes, decodeRune_ascii c r (by unfold Plain at hc; omega), plain_not_ws c hc]
      simp
    simp only [trim, hl, trimRightRunes, segments_plain (c :: r) h _ (Nat.le_refl _)]
    -- no segment is in the cut set
    have hdw := dropWhile_eq_self (fun p : Nat × Nat => OttoVerif.PN.wsRunes.contains p.1)
      (List.map (fun c => (c, 1)) (c :: r)).reverse (fun p hp => by
        obtain ⟨x, hx, rfl⟩ := List.mem_map.mp (List.mem_reverse.mp hp)
        exact plain_not_ws x (h x hx))
    rw [hdw, List.reverse_reverse, List.foldl_map]
    simp [Nat.add_comm 1]

theorem runes_plain (bs : List Nat) (h : ∀ c ∈ bs, Plain c) : Spec.runes bs = bs :=
  decodeRunes_ascii bs fun c hc => Nat.lt_trans (h c hc).2 (by decide)

theorem dropWhile_white_plain (bs : List Nat) (h : ∀ c ∈ bs, Plain c) : bs.dropWhile Spec.isWhite = bs := by
  refine dropWhile_eq_self _ bs (fun c hc => ?_)
  have := h c hc
  unfold Plain at this
  simp only [Spec.isWhite, decide_eq_false_iff_not]
  omega

theorem stripBoth_plain (bs : List Nat) (h : ∀ c ∈ bs, Plain c) : Spec.stripBoth (Spec.runes bs) = bs := by
  rw [runes_plain bs h]
  simp only [Spec.stripBoth, Spec.stripLeft, dropWhile_white_plain bs h]
  rw [dropWhile_white_plain bs.reverse (fun c hc => h c (List.mem_reverse.mp hc)), List.reverse_reverse]

def IsDig (c : Nat) : Prop := 48 ≤ c ∧ c ≤ 57

/-- also for `Spec.isDigit`, which is the same test -/
theorem isDigit_of (c : Nat) (h : IsDig c) : GoStd.isDigit c = true := decide_eq_true h

/-- strconv readFloat's mantissa loop over a run of decimal digits -/
theorem mloop_digits (ds rest : List Nat) (hds : ∀ c ∈ ds, IsDig c) (fuel i mant frac : Nat) (sawdot sawdig us : Bool) :
    readFloat.mloop false 10 (ds.length + fuel) (ds ++ rest) i mant frac sawdot sawdig us
      = readFloat.mloop false 10 fuel rest (i + ds.length) (ds.foldl (fun n c => n * 10 + (c - 48)) mant)
          (if sawdot then frac + ds.length else frac) sawdot (sawdig || !ds.isEmpty) us := by
  induction ds generalizing i mant frac sawdig with
  | nil => simp
  | cons c r ih =>
    have hc := hds c (by simp)
    have hr : ∀ x ∈ r, IsDig x := fun x hx => hds x (by simp [hx])
    have h95 : ¬ (c = 95) := by unfold IsDig at hc; omega
    have h46 : ¬ (c = 46) := by unfold IsDig at hc; omega
    have hl : (c :: r).length + fuel = (r.length + fuel) + 1 := by simp; omega
    rw [hl]
    simp only [List.cons_append, readFloat.mloop, ch_underscore, ch_dot, h95, h46, if_false, isDigit_of c hc, if_true]
    rw [ih hr]
    have e1 : i + 1 + r.length = i + (c :: r).length := by simp; omega
    have e2 : frac + 1 + r.length = frac + (c :: r).length := by simp; omega
    rw [e1]
    cases sawdot <;> simp [e2]

theorem mloop_nil (fuel i mant frac : Nat) (sawdot sawdig us : Bool) :
    readFloat.mloop false 10 fuel [] i mant frac sawdot sawdig us = ([], i, mant, frac, sawdig, us) := by
  cases fuel <;> simp [readFloat.mloop]

theorem mloop_dot (rest : List Nat) (fuel i mant frac : Nat) (sawdig us : Bool) :
    readFloat.mloop false 10 (fuel + 1) (46 :: rest) i mant frac false sawdig us
      = readFloat.mloop false 10 fuel rest (i + 1) mant frac true sawdig us := by
  simp [readFloat.mloop, ch_underscore, ch_dot]

def DecBody (c : Nat) : Prop := IsDig c ∨ c = 46

theorem lower_ne_x (c : Nat) (h : c < 128) (h1 : c ≠ 120) (h2 : c ≠ 88) : GoStd.lower c ≠ ch 'x' := by
  have : ∀ d : Fin 128, d.val ≠ 120 → d.val ≠ 88 → GoStd.lower d.val ≠ ch 'x' := by decide
  exact this ⟨c, h⟩ h1 h2

/-- what strconv's readFloat does after a decimal mantissa: the optional exponent read at byte `i2`;
    (exponent, bytes consumed, underscore seen), `none` = syntax error -/
def rfExp (rest : List Nat) (i2 : Nat) : Option (Int × Nat × Bool) :=
  match rest with
  | c :: r =>
    if lower c = ch 'e' then
      match r with
      | [] => none
      | d :: r' =>
        let (esign, r2, i3) : Int × List Nat × Nat :=
          if d = ch '+' then (1, r', i2 + 2) else if d = ch '-' then (-1, r', i2 + 2) else (1, r, i2 + 1)
        match r2 with
        | [] => none
        | d0 :: _ =>
          if !isDigit d0 then none else
          let ds := r2.takeWhile (fun c => isDigit c ∨ c = ch '_')
          let e := ds.foldl (fun (e : Nat) c => if c = ch '_' then e else if e < 10000 then e * 10 + (c - 48) else e) 0
          some (esign * (e : Int), i3 + ds.length, ds.contains (ch '_'))
    else some (0, i2, false)
  | [] => some (0, i2, false)

/-- strconv readFloat on `sgn ++ c :: tl` (optional sign, then text that neither starts with a sign nor is
    hexadecimal), given what its mantissa loop `R` and then its exponent reader `hE` do on that text -/
theorem readFloat_decimal (sgn : List Nat) (hsg : sgn = [] ∨ sgn = [43] ∨ sgn = [45]) (c : Nat) (tl : List Nat)
    (hc43 : c ≠ 43) (hc45 : c ≠ 45) (hx : ∀ b ∈ tl, b < 128 ∧ b ≠ 120 ∧ b ≠ 88)
    (rest : List Nat) (i2 mant frac : Nat)
    (R : readFloat.mloop false 10 ((sgn ++ c :: tl).length + 1) (c :: tl) sgn.length 0 0 false false false
          = (rest, i2, mant, frac, true, false))
    (ex : Int) (i4 : Nat) (hE : rfExp rest i2 = some (ex, i4, false)) :
    readFloat (sgn ++ c :: tl) = some ⟨decide (sgn = [45]), false, mant, frac, ex, i4⟩ := by
  have hhead : ∃ a u, sgn ++ c :: tl = a :: u ∧
      (if a = 43 then (false, 1) else if a = 45 then (true, 1) else (false, 0)) = (decide (sgn = [45]), sgn.length) ∧
      (a :: u).drop sgn.length = c :: tl := by
    rcases hsg with rfl | rfl | rfl
    · exact ⟨_, _, rfl, by simp [hc43, hc45], rfl⟩
    · exact ⟨_, _, rfl, by simp, rfl⟩
    · exact ⟨_, _, rfl, by simp, rfl⟩
  obtain ⟨a, u, hs, hneg, hdrop⟩ := hhead
  rw [hs] at R ⊢
  unfold readFloat
  simp only [List.isEmpty_cons, Bool.false_eq_true, if_false, ch_plus, ch_minus, hneg]
  rw [hdrop]
  -- what is left once the mantissa loop is replaced by `R`: the inlined exponent reader is `rfExp` up to
  -- unfolding, so `hE` applies to it
  have close : ∀ o : Option (Int × Nat × Bool), o = some (ex, i4, false) →
      (match o with
        | none => none
        | some (e, i4', us2) =>
          if (False ∨ us2 = true) ∧ (!underscoreOK (List.take i4' (a :: u))) = true then none
          else some ({ neg := decide (sgn = [45]), hex := false, mant := mant, fracDigits := frac, exp := e,
                       consumed := i4' } : RF))
        = some ⟨decide (sgn = [45]), false, mant, frac, ex, i4⟩ := by
    intro o ho; subst ho; simp
  -- the `0x` test looks at three characters
  rcases tl with _ | ⟨b, _ | ⟨d, tl3⟩⟩
  · simp only [Bool.false_eq_true, if_false, hdrop, R, Bool.not_true]
    exact close _ hE
  · simp only [Bool.false_eq_true, if_false, hdrop, R, Bool.not_true]
    exact close _ hE
  · have hb := hx b (by simp)
    simp only [lower_ne_x b hb.1 hb.2.1 hb.2.2, and_false, decide_false, Bool.false_eq_true, if_false, hdrop, R,
      Bool.not_true]
    exact close _ hE

/-- the text of an unsigned decimal without exponent: digits, optionally a point and more digits -/
def decBody (ip fp : List Nat) (dot : Bool) : List Nat := ip ++ (if dot then 46 :: fp else [])

theorem takeWhile_digits (ip rest : List Nat) (hip : ∀ c ∈ ip, IsDig c)
    (hrest : ∀ c t, rest = c :: t → Spec.isDigit c = false) :
    (ip ++ rest).takeWhile Spec.isDigit = ip ∧ (ip ++ rest).dropWhile Spec.isDigit = rest := by
  have hp : ∀ a ∈ ip, Spec.isDigit a = true := fun a h => isDigit_of a (hip a h)
  rw [List.takeWhile_append_of_pos hp, List.dropWhile_append_of_pos hp]
  cases rest with
  | nil => simp
  | cons c t => simp [List.takeWhile, List.dropWhile, hrest c t rfl]

/-- ExponentPart: e/E, optional sign, digits -/
def expPart (ec : Nat) (esg ed : List Nat) : List Nat := ec :: (esg ++ ed)

def esignVal (esg : List Nat) : Int := if esg = [45] then -1 else 1

/-- a text tail after the mantissa: empty, or starting with a character that is no digit, no point -/
def TailOK (tail : List Nat) : Prop := ∀ c t, tail = c :: t → Spec.isDigit c = false ∧ c ≠ 46

theorem fracStep_nil (b : Bool) : Spec.fracStep b [] = ([], []) := rfl

theorem fracStep_tail (b : Bool) (tail : List Nat) (h : TailOK tail) : Spec.fracStep b tail = ([], tail) := by
  cases tail with
  | nil => rfl
  | cons c t =>
    have := (h c t rfl).2
    simp [Spec.fracStep, this]

theorem fracStep_dot (b : Bool) (fp tail : List Nat) (hfp : ∀ c ∈ fp, IsDig c) (h : TailOK tail)
    (hok : ¬ (b = true ∧ fp.isEmpty = true)) :
    Spec.fracStep b (46 :: (fp ++ tail)) = (fp, tail) := by
  have htd := takeWhile_digits fp tail hfp (fun c t e => (h c t e).1)
  simp only [Spec.fracStep, if_true, htd.1, htd.2, hok, if_false]

theorem expSign_nosign (d0 : Nat) (et : List Nat) (h43 : ¬ d0 = 43) (h45 : ¬ d0 = 45) :
    Spec.expSign (d0 :: et) = (1, d0 :: et) := by
  simp [Spec.expSign, h43, h45]

theorem expStep_part (ec : Nat) (hec : ec = 101 ∨ ec = 69) (esg ed : List Nat)
    (hesg : esg = [] ∨ esg = [43] ∨ esg = [45]) (hed : ∀ x ∈ ed, IsDig x) (hedne : ed ≠ []) :
    Spec.expStep (expPart ec esg ed)
      = (esignVal esg * ((ed.foldl (fun n c => n * 10 + (c - 48)) 0 : Nat) : Int), []) := by
  obtain ⟨d0, et, rfl⟩ := List.exists_cons_of_ne_nil hedne
  have hd0 := hed d0 (by simp)
  have hd0p : ¬ (d0 = 43) := by unfold IsDig at hd0; omega
  have hd0m : ¬ (d0 = 45) := by unfold IsDig at hd0; omega
  have hted := takeWhile_digits (d0 :: et) [] hed (by intro c t h; cases h)
  simp only [List.append_nil] at hted
  rcases hesg with rfl | rfl | rfl <;>
    simp [expPart, Spec.expStep, hec, Spec.expSign, hd0p, hd0m, hted.1, hted.2, esignVal, Spec.digitsVal]

theorem mloop_stop_e (ec : Nat) (hec : ec = 101 ∨ ec = 69) (r : List Nat) (fuel i mant frac : Nat) (sawdot sawdig us : Bool) :
    readFloat.mloop false 10 fuel (ec :: r) i mant frac sawdot sawdig us = (ec :: r, i, mant, frac, sawdig, us) := by
  cases fuel with
  | zero => simp [readFloat.mloop]
  | succ k =>
    rcases hec with rfl | rfl <;> simp [readFloat.mloop, ch_underscore, ch_dot, GoStd.isDigit]

/-- the capped exponent accumulation of readFloat is exact for at most four digits -/
theorem capfold_eq (ed : List Nat) (hed : ∀ c ∈ ed, IsDig c) (e j : Nat) (he : e < 10 ^ j) (hj : j + ed.length ≤ 4) :
    ed.foldl (fun e c => if c = ch '_' then e else if e < 10000 then e * 10 + (c - 48) else e) e
      = ed.foldl (fun n c => n * 10 + (c - 48)) e := by
  induction ed generalizing e j with
  | nil => rfl
  | cons a t ih =>
    have ha := hed a (by simp)
    unfold IsDig at ha
    have h95 : ¬ (a = 95) := by omega
    have ht : ∀ c ∈ t, IsDig c := fun c hc => hed c (by simp [hc])
    have hj3 : j ≤ 3 := by simp at hj; omega
    have hpow : 10 ^ j ≤ 10 ^ 3 := Nat.pow_le_pow_right (by decide) hj3
    have hlt : e < 10000 := by omega
    simp only [List.foldl_cons, ch_underscore, h95, if_false, hlt, if_true]
    have hnext : e * 10 + (a - 48) < 10 ^ (j + 1) := by
      rw [Nat.pow_succ]; omega
    exact ih ht _ (j + 1) hnext (by simp at hj ⊢; omega)

theorem rfExp_part (ec : Nat) (hec : ec = 101 ∨ ec = 69) (esg ed : List Nat)
    (hesg : esg = [] ∨ esg = [43] ∨ esg = [45]) (hed : ∀ x ∈ ed, IsDig x) (hedne : ed ≠ []) (hed4 : ed.length ≤ 4)
    (i : Nat) :
    rfExp (expPart ec esg ed) i
      = some (esignVal esg * ((ed.foldl (fun n c => n * 10 + (c - 48)) 0 : Nat) : Int),
          i + (expPart ec esg ed).length, false) := by
  obtain ⟨d0, et, rfl⟩ := List.exists_cons_of_ne_nil hedne
  have hd0 := hed d0 (by simp)
  have hd0p : ¬ (d0 = 43) := by unfold IsDig at hd0; omega
  have hd0m : ¬ (d0 = 45) := by unfold IsDig at hd0; omega
  have hle : GoStd.lower ec = ch 'e' := by rcases hec with rfl | rfl <;> decide
  -- the exponent digits are all taken, and none is an underscore
  have htw : (d0 :: et).takeWhile (fun c => decide (GoStd.isDigit c = true ∨ c = ch '_')) = d0 :: et := by
    have h : ∀ a ∈ d0 :: et, decide (GoStd.isDigit a = true ∨ a = ch '_') = true :=
      fun a ha => decide_eq_true (Or.inl (isDigit_of a (hed a ha)))
    simpa using List.takeWhile_append_of_pos (l₂ := []) h
  have hnu : (d0 :: et).contains (ch '_') = false := by
    rw [ch_underscore, List.contains_eq_mem, decide_eq_false_iff_not]
    intro hm
    have := hed 95 hm
    unfold IsDig at this
    omega
  have hcap := capfold_eq (d0 :: et) hed 0 0 (by decide) (by simpa using hed4)
  have h4543 : ¬ ((45 : Nat) = 43) := by decide
  rcases hesg with rfl | rfl | rfl <;>
    simp only [rfExp, expPart, List.nil_append, List.cons_append, hle, if_true, ch_plus, ch_minus, hd0p,
      hd0m, h4543, if_false, isDigit_of d0 hd0, Bool.not_true, Bool.false_eq_true, htw, hnu, hcap, esignVal] <;>
    simp <;> omega

theorem sign_plain (sg : List Nat) (h : sg = [] ∨ sg = [43] ∨ sg = [45]) : ∀ x ∈ sg, Plain x ∧ x ≠ 120 ∧ x ≠ 88 := by
  intro x hx
  rcases h with rfl | rfl | rfl
  · cases hx
  · simp at hx; subst hx; unfold Plain; omega
  · simp at hx; subst hx; unfold Plain; omega

theorem expPart_plain (ec : Nat) (hec : ec = 101 ∨ ec = 69) (esg ed : List Nat)
    (hesg : esg = [] ∨ esg = [43] ∨ esg = [45]) (hed : ∀ x ∈ ed, IsDig x) :
    ∀ x ∈ expPart ec esg ed, Plain x ∧ x ≠ 120 ∧ x ≠ 88 := by
  intro x hx
  simp only [expPart, List.mem_cons, List.mem_append] at hx
  rcases hx with rfl | hx | hx
  · rcases hec with rfl | rfl <;> (unfold Plain; omega)
  · exact sign_plain esg hesg x hx
  · have := hed x hx; unfold IsDig at this; unfold Plain; omega

/-- The text after a decimal mantissa, as the three readers see it: strconv's mantissa loop stops at it,
    strconv's exponent reader and ES5's ExponentPart both take all of it and read `ex`, and its bytes are
    plain.  Two instances: the empty tail and a complete exponent part. -/
structure ExpTail (tail : List Nat) (ex : Int) : Prop where
  stop : ∀ fuel i mant frac sawdot sawdig us,
    readFloat.mloop false 10 fuel tail i mant frac sawdot sawdig us = (tail, i, mant, frac, sawdig, us)
  go : ∀ i, rfExp tail i = some (ex, i + tail.length, false)
  ok : TailOK tail
  spec : Spec.expStep tail = (ex, [])
  plain : ∀ x ∈ tail, Plain x ∧ x ≠ 120 ∧ x ≠ 88

theorem expTail_nil : ExpTail [] 0 where
  stop := mloop_nil
  go := fun _ => rfl
  ok := fun c t h => by cases h
  spec := rfl
  plain := fun x hx => by cases hx

theorem expTail_part (ec : Nat) (hec : ec = 101 ∨ ec = 69) (esg ed : List Nat)
    (hesg : esg = [] ∨ esg = [43] ∨ esg = [45]) (hed : ∀ x ∈ ed, IsDig x) (hedne : ed ≠ []) (hed4 : ed.length ≤ 4) :
    ExpTail (expPart ec esg ed) (esignVal esg * ((ed.foldl (fun n c => n * 10 + (c - 48)) 0 : Nat) : Int)) where
  stop := mloop_stop_e ec hec (esg ++ ed)
  go := rfExp_part ec hec esg ed hesg hed hedne hed4
  ok := by
    intro c t h
    simp [expPart] at h
    rw [← h.1]
    rcases hec with rfl | rfl <;> decide
  spec := expStep_part ec hec esg ed hesg hed hedne
  plain := expPart_plain ec hec esg ed hesg hed

theorem mloop_body (ip fp : List Nat) (dot : Bool) (hip : ∀ c ∈ ip, IsDig c) (hfp : ∀ c ∈ fp, IsDig c)
    (hne : ip ≠ [] ∨ fp ≠ []) (hdot : dot = false → fp = []) (tail : List Nat)
    (hstop : ∀ fuel i mant frac sawdot sawdig us,
      readFloat.mloop false 10 fuel tail i mant frac sawdot sawdig us = (tail, i, mant, frac, sawdig, us))
    (i k : Nat) :
    readFloat.mloop false 10 ((decBody ip fp dot).length + k) (decBody ip fp dot ++ tail) i 0 0 false false false
      = (tail, i + (decBody ip fp dot).length, (ip ++ fp).foldl (fun n c => n * 10 + (c - 48)) 0, fp.length, true, false) := by
  cases dot with
  | false =>
    have hfp0 : fp = [] := hdot rfl
    subst hfp0
    have hipne : ip ≠ [] := by cases hne with | inl h => exact h | inr h => exact absurd rfl h
    have hie := List.isEmpty_eq_false_iff.mpr hipne
    simp only [decBody, Bool.false_eq_true, if_false, List.append_nil]
    rw [mloop_digits ip tail hip, hstop]
    simp [hie]
  | true =>
    simp only [decBody, if_true]
    have hlen : (ip ++ 46 :: fp).length + k = ip.length + ((fp.length + k) + 1) := by simp; omega
    rw [hlen, List.append_assoc, mloop_digits ip ((46 :: fp) ++ tail) hip]
    simp only [List.cons_append]
    rw [mloop_dot]
    simp only [Bool.false_eq_true, if_false]
    rw [mloop_digits fp tail hfp, hstop]
    have hs : ((false || !ip.isEmpty) || !fp.isEmpty) = true := by
      cases hne with
      | inl h => rw [List.isEmpty_eq_false_iff.mpr h]; rfl
      | inr h => rw [List.isEmpty_eq_false_iff.mpr h, Bool.not_false, Bool.or_true]
    rw [hs, List.foldl_append, if_pos rfl, Nat.zero_add, List.length_append, List.length_cons,
      show i + ip.length + 1 + fp.length = i + (ip.length + (fp.length + 1)) by omega]

theorem decBody_all (ip fp : List Nat) (dot : Bool) (hip : ∀ c ∈ ip, IsDig c) (hfp : ∀ c ∈ fp, IsDig c) :
    ∀ x ∈ decBody ip fp dot, DecBody x := by
  intro x hx
  unfold decBody at hx
  cases dot with
  | false => simp at hx; exact Or.inl (hip x hx)
  | true =>
    simp at hx
    rcases hx with h | h | h
    · exact Or.inl (hip x h)
    · exact Or.inr h
    · exact Or.inl (hfp x h)

theorem decBody_cons (ip fp : List Nat) (dot : Bool) (hne : ip ≠ [] ∨ fp ≠ []) (hdot : dot = false → fp = []) :
    ∃ c tl, decBody ip fp dot = c :: tl := by
  cases ip with
  | cons a r => exact ⟨a, _, rfl⟩
  | nil =>
    cases dot with
    | true => exact ⟨46, fp, rfl⟩
    | false =>
      have := hdot rfl
      cases hne with
      | inl h => exact absurd rfl h
      | inr h => exact absurd this h

theorem unsignedDecPrefix_gen (ip fp : List Nat) (dot : Bool) (hip : ∀ c ∈ ip, IsDig c) (hfp : ∀ c ∈ fp, IsDig c)
    (hne : ip ≠ [] ∨ fp ≠ []) (hdot : dot = false → fp = []) (tail : List Nat) (ht : TailOK tail) :
    Spec.unsignedDecPrefix (decBody ip fp dot ++ tail)
      = some ⟨false, (ip ++ fp).foldl (fun n c => n * 10 + (c - 48)) 0,
          (Spec.expStep tail).1 - (fp.length : Int), (Spec.expStep tail).2⟩ := by
  have hinf : sInfinity.isPrefixOf (decBody ip fp dot ++ tail) = false := by
    obtain ⟨c, tl, hb⟩ := decBody_cons ip fp dot hne hdot
    have hc := decBody_all ip fp dot hip hfp c (by rw [hb]; simp)
    have : ¬ (73 = c) := by unfold DecBody IsDig at hc; omega
    simp [hb, sInfinity, List.isPrefixOf, this]
  have hboth : ¬ (ip.isEmpty = true ∧ fp.isEmpty = true) := by
    intro ⟨h1, h2⟩
    cases hne with
    | inl h => exact h (List.isEmpty_iff.mp h1)
    | inr h => exact h (List.isEmpty_iff.mp h2)
  cases dot with
  | false =>
    have hfp0 : fp = [] := hdot rfl
    subst hfp0
    have htd := takeWhile_digits ip tail hip (fun c t e => (ht c t e).1)
    simp only [decBody, Bool.false_eq_true, if_false, List.append_nil] at hinf ⊢
    have hie : ip.isEmpty = false := List.isEmpty_eq_false_iff.mpr (hne.resolve_right (fun h => h rfl))
    simp only [Spec.unsignedDecPrefix, hinf, Bool.false_eq_true, if_false, htd.1, htd.2, fracStep_tail _ tail ht, hie,
      false_and, Spec.digitsVal]
    simp
  | true =>
    have h46 : Spec.isDigit 46 = false := by decide
    have htd := takeWhile_digits ip (46 :: (fp ++ tail)) hip (by intro c t h; cases h; exact h46)
    simp only [decBody, if_true, List.append_assoc, List.cons_append] at hinf ⊢
    simp only [Spec.unsignedDecPrefix, hinf, Bool.false_eq_true, if_false, htd.1, htd.2,
      fracStep_dot _ fp tail hfp ht hboth, hboth, Spec.digitsVal]

theorem special_dec (sgn : List Nat) (hsg : sgn = [] ∨ sgn = [43] ∨ sgn = [45]) (c : Nat) (tl : List Nat)
    (hc : DecBody c) : GoStd.special (sgn ++ c :: tl) = none := by
  have e3 : ch 'i' = 105 := by decide
  have e4 : ch 'I' = 73 := by decide
  have e5 : ch 'n' = 110 := by decide
  have e6 : ch 'N' = 78 := by decide
  unfold DecBody IsDig at hc
  have hpl : prefixLenIgnoreCase (c :: tl) (Str.ofString "infinity") = 0 := by
    have : Str.ofString "infinity" = [105, 110, 102, 105, 110, 105, 116, 121] := by decide +kernel
    rw [this]
    have hh : ¬ ((if 65 ≤ c ∧ c ≤ 90 then c + 32 else c) = 105) := by split <;> omega
    simp [prefixLenIgnoreCase, hh]
  rcases hsg with rfl | rfl | rfl
  · have h1 : ¬ c = 43 := by omega
    have h2 : ¬ c = 45 := by omega
    have h3 : ¬ (c = 105 ∨ c = 73) := by omega
    have h4 : ¬ (c = 110 ∨ c = 78) := by omega
    simp [GoStd.special, ch_plus, ch_minus, e3, e4, e5, e6, h1, h2, h3, h4]
  · simp [GoStd.special, ch_plus, hpl]
  · simp [GoStd.special, ch_plus, ch_minus, hpl]

/-- the double both sides compute for sign · mant · 10^e10 -/
def expValue (neg : Bool) (mant : Nat) (e10 : Int) : FV :=
  if mant = 0 then .fin neg 0 0
  else if e10 ≥ 0 then ofRatParts neg (mant * 10 ^ e10.toNat) 1 else ofRatParts neg mant (10 ^ (-e10).toNat)

theorem rfValue_exp (neg : Bool) (mant frac n : Nat) (ex : Int) :
    rfValue ⟨neg, false, mant, frac, ex, n⟩ = expValue neg mant (ex - (frac : Int)) := by
  unfold rfValue expValue
  by_cases hm : mant = 0
  · simp [hm]
  · simp only [hm, if_false, Bool.false_eq_true]

theorem mvRound_exp (neg : Bool) (mant : Nat) (e10 : Int) (h1 : -400 ≤ e10) (h2 : e10 ≤ 400) :
    Spec.mvRound neg mant e10 = expValue neg mant e10 := by
  unfold Spec.mvRound expValue
  by_cases hm : mant = 0
  · simp [hm]
  · by_cases hp : e10 ≥ 0
    · have : ¬ (e10 > 400) := by omega
      simp only [hm, if_false, hp, if_true, this]
    · have h3 : ¬ ((-e10).toNat > (natDigits mant).length + 400) := by omega
      simp only [hm, if_false, hp, h3]

/-- what readFloat's `0x` test needs after the first byte of a decimal body: ASCII bytes other than x/X -/
theorem not_x_after (c : Nat) (tl tail : List Nat) (hall : ∀ x ∈ c :: tl, DecBody x)
    (hp : ∀ x ∈ tail, Plain x ∧ x ≠ 120 ∧ x ≠ 88) : ∀ b ∈ tl ++ tail, b < 128 ∧ b ≠ 120 ∧ b ≠ 88 := by
  intro b hb
  rcases List.mem_append.mp hb with h | h
  · have := hall b (by simp [h]); unfold DecBody IsDig at this; omega
  · have := hp b h; unfold Plain at this; omega

/-- strconv.ParseFloat on a signed decimal body and tail -/
theorem goParseFloat_dec (sgn : List Nat) (hsg : sgn = [] ∨ sgn = [43] ∨ sgn = [45])
    (ip fp : List Nat) (dot : Bool) (hip : ∀ c ∈ ip, IsDig c) (hfp : ∀ c ∈ fp, IsDig c)
    (hne : ip ≠ [] ∨ fp ≠ []) (hdot : dot = false → fp = []) (tail : List Nat) (ex : Int) (ht : ExpTail tail ex) :
    GoStd.parseFloat (sgn ++ (decBody ip fp dot ++ tail))
      = some (expValue (decide (sgn = [45])) ((ip ++ fp).foldl (fun n c => n * 10 + (c - 48)) 0)
          (ex - (fp.length : Int))) := by
  have hall := decBody_all ip fp dot hip hfp
  obtain ⟨c, tl, hb⟩ := decBody_cons ip fp dot hne hdot
  have hR := mloop_body ip fp dot hip hfp hne hdot tail ht.stop sgn.length (sgn.length + tail.length + 1)
  rw [hb] at hall hR ⊢
  have hc := hall c (by simp)
  have hc' : c ≠ 43 ∧ c ≠ 45 := by unfold DecBody IsDig at hc; omega
  have hx := not_x_after c tl tail hall ht.plain
  have hrf := readFloat_decimal sgn hsg c (tl ++ tail) hc'.1 hc'.2 hx tail _ _ _
    (by rw [← hR]; simp only [List.length_append, List.length_cons, List.cons_append]; congr 1; omega) ex _ (ht.go _)
  simp only [List.cons_append] at hrf ⊢
  simp only [GoStd.parseFloat, special_dec sgn hsg c _ hc, hrf, rfValue_exp]
  rw [if_pos (by simp only [List.length_append, List.length_cons]; omega)]

/-- §9.3.1 on a signed decimal body and tail -/
theorem strDecimalPrefix_dec (sgn : List Nat) (hsg : sgn = [] ∨ sgn = [43] ∨ sgn = [45])
    (ip fp : List Nat) (dot : Bool) (hip : ∀ c ∈ ip, IsDig c) (hfp : ∀ c ∈ fp, IsDig c)
    (hne : ip ≠ [] ∨ fp ≠ []) (hdot : dot = false → fp = []) (tail : List Nat) (ex : Int) (ht : ExpTail tail ex)
    (hlo : -400 ≤ ex - (fp.length : Int)) (hhi : ex - (fp.length : Int) ≤ 400) :
    Spec.strDecimalPrefix (sgn ++ (decBody ip fp dot ++ tail))
      = some (expValue (decide (sgn = [45])) ((ip ++ fp).foldl (fun n c => n * 10 + (c - 48)) 0)
          (ex - (fp.length : Int)), []) := by
  have hd := unsignedDecPrefix_gen ip fp dot hip hfp hne hdot tail ht.ok
  rw [ht.spec] at hd
  have hfirst : ∀ c t, decBody ip fp dot ++ tail = c :: t → c ≠ 43 ∧ c ≠ 45 := by
    intro c t h
    obtain ⟨c', tl, hb⟩ := decBody_cons ip fp dot hne hdot
    have hc := decBody_all ip fp dot hip hfp c' (by rw [hb]; simp)
    rw [hb] at h
    obtain ⟨rfl, _⟩ := List.cons.inj h
    unfold DecBody IsDig at hc; omega
  rw [strDecimalPrefix_signed sgn hsg _ (fun _ => hfirst), hd]
  simp [mvRound_exp _ _ _ hlo hhi]

/-- `readFloat_decimal` on an unsigned body followed by an exponent part -/
theorem readFloat_unsigned_exp (c : Nat) (tl : List Nat) (hall : ∀ x ∈ c :: tl, DecBody x)
    (ec : Nat) (hec : ec = 101 ∨ ec = 69) (esg ed : List Nat) (hesg : esg = [] ∨ esg = [43] ∨ esg = [45])
    (hed : ∀ x ∈ ed, IsDig x) (hedne : ed ≠ []) (hed4 : ed.length ≤ 4) (mant frac : Nat)
    (R : readFloat.mloop false 10 (((c :: tl) ++ expPart ec esg ed).length + 1) ((c :: tl) ++ expPart ec esg ed)
          0 0 0 false false false
          = (expPart ec esg ed, (c :: tl).length, mant, frac, true, false)) :
    readFloat ((c :: tl) ++ expPart ec esg ed)
      = some ⟨false, false, mant, frac, esignVal esg * ((ed.foldl (fun n c => n * 10 + (c - 48)) 0 : Nat) : Int),
          ((c :: tl) ++ expPart ec esg ed).length⟩ := by
  have hc := hall c (by simp)
  have hc' : c ≠ 43 ∧ c ≠ 45 := by unfold DecBody IsDig at hc; omega
  have ht := expTail_part ec hec esg ed hesg hed hedne hed4
  have hx := not_x_after c tl _ hall ht.plain
  rw [List.length_append]
  exact readFloat_decimal [] (Or.inl rfl) c (tl ++ expPart ec esg ed) hc'.1 hc'.2 hx _ _ _ _ R _ _ (ht.go _)

/-- parseNumber after the Trim on a text that is a StrDecimalLiteral and that strconv.ParseFloat reads as x -/
theorem parseNumberBody_float (v : Str) (hne : v ≠ []) (x y : FV)
    (hsp : Spec.strDecimalPrefix v = some (y, [])) (h0x : OttoVerif.PN.startsWith0x v = false)
    (hpf : GoStd.parseFloat v = some x) : parseNumberBody v = x := by
  have hie := List.isEmpty_eq_false_iff.mpr hne
  have hvalid : stringToNumberValid v = true := by simp [stringToNumberValid, reDecRest_eq, hsp]
  simp only [parseNumberBody, hie, Bool.false_eq_true, if_false, hvalid, Bool.not_true, h0x, OttoVerif.PN.pfOrNaN, hpf]
  split <;> rfl

theorem not_hex_of_second (rs : List Nat) (hx : ∀ a b t, rs = a :: b :: t → ¬ (b = 120 ∨ b = 88)) :
    Spec.isHexIntegerLiteral rs = false := by
  unfold Spec.isHexIntegerLiteral
  split
  · rename_i x hs
    have := hx 48 x hs rfl
    simp [this]
  · rfl

theorem startsWith0x_false (rs : List Nat) (hx : ∀ a b t, rs = a :: b :: t → ¬ (b = 120 ∨ b = 88)) :
    OttoVerif.PN.startsWith0x rs = false := by
  unfold OttoVerif.PN.startsWith0x
  split
  · rename_i c t
    have := hx 48 c t rfl
    simp [this]
  · rfl

/-- §9.3.1 on a stripped text that is a StrDecimalLiteral -/
theorem specBody_decimal (rs : List Nat) (hne : rs ≠ []) (y : FV)
    (hsp : Spec.strDecimalPrefix rs = some (y, [])) (hnh : Spec.isHexIntegerLiteral rs = false) :
    Spec.stringToNumberBody rs = y := by
  have hie := List.isEmpty_eq_false_iff.mpr hne
  simp [Spec.stringToNumberBody, hie, hnh, Spec.decimalLiteralValue, hsp]

/-- ToNumber: model = spec on every plain-ASCII text that is a StrDecimalLiteral with value x (spec)
    and that strconv.ParseFloat reads as the same x -/
theorem toNumber_sound_of (s : Str) (hplain : ∀ x ∈ s, Plain x) (hne : s ≠ [])
    (hx : ∀ a b t, s = a :: b :: t → ¬ (b = 120 ∨ b = 88)) (x : FV)
    (hsp : Spec.strDecimalPrefix s = some (x, [])) (hpf : GoStd.parseFloat s = some x) :
    stringToNumber s = Spec.stringToNumber s := by
  simp only [stringToNumber, Spec.stringToNumber, trim_plain s hplain, stripBoth_plain s hplain]
  rw [parseNumberBody_float s hne x x hsp (startsWith0x_false s hx) hpf,
    specBody_decimal s hne x hsp (not_hex_of_second s hx)]

theorem dec_text_plain (sgn : List Nat) (hsg : sgn = [] ∨ sgn = [43] ∨ sgn = [45])
    (ip fp : List Nat) (dot : Bool) (hip : ∀ c ∈ ip, IsDig c) (hfp : ∀ c ∈ fp, IsDig c)
    (tail : List Nat) (ex : Int) (ht : ExpTail tail ex) :
    ∀ x ∈ sgn ++ (decBody ip fp dot ++ tail), Plain x ∧ x ≠ 120 ∧ x ≠ 88 := by
  intro x hx
  rcases List.mem_append.mp hx with h | h
  · exact sign_plain sgn hsg x h
  · rcases List.mem_append.mp h with h | h
    · have := decBody_all ip fp dot hip hfp x h
      unfold DecBody IsDig at this; unfold Plain; omega
    · exact ht.plain x h

/-- what the four literal theorems below instantiate: a signed decimal body followed by an admissible tail
    is plain text, not hexadecimal, and read to the same double by strconv.ParseFloat and by §9.3.1 -/
theorem dec_text (sgn : List Nat) (hsg : sgn = [] ∨ sgn = [43] ∨ sgn = [45])
    (ip fp : List Nat) (dot : Bool) (hip : ∀ c ∈ ip, IsDig c) (hfp : ∀ c ∈ fp, IsDig c)
    (hne : ip ≠ [] ∨ fp ≠ []) (hdot : dot = false → fp = []) (tail : List Nat) (ex : Int) (ht : ExpTail tail ex)
    (hlo : -400 ≤ ex - (fp.length : Int)) (hhi : ex - (fp.length : Int) ≤ 400) :
    (∀ x ∈ sgn ++ (decBody ip fp dot ++ tail), Plain x) ∧ sgn ++ (decBody ip fp dot ++ tail) ≠ [] ∧
    (∀ a b t, sgn ++ (decBody ip fp dot ++ tail) = a :: b :: t → ¬ (b = 120 ∨ b = 88)) ∧
    ∃ v, Spec.strDecimalPrefix (sgn ++ (decBody ip fp dot ++ tail)) = some (v, []) ∧
      GoStd.parseFloat (sgn ++ (decBody ip fp dot ++ tail)) = some v := by
  have hchars := dec_text_plain sgn hsg ip fp dot hip hfp tail ex ht
  obtain ⟨c, tl, hb⟩ := decBody_cons ip fp dot hne hdot
  refine ⟨fun x hx => (hchars x hx).1, by rw [hb]; simp, fun a b t h => ?_, _,
    strDecimalPrefix_dec sgn hsg ip fp dot hip hfp hne hdot tail ex ht hlo hhi,
    goParseFloat_dec sgn hsg ip fp dot hip hfp hne hdot tail ex ht⟩
  have := hchars b (by rw [h]; simp)
  omega

/-- C06.toNumber_string_sound (decimal literals without exponent): for every sign, every digit
    strings `ip`, `fp` (at most 400 fraction digits; not both empty; with or without the point),
    otto's `parseNumber` (Trim, grammar check, strconv.ParseFloat) returns exactly the Number
    value §9.3.1 assigns: the correctly rounded value of ±ip.fp (and ±0 for zero mantissas). -/
theorem toNumber_decimal_sound (sgn : List Nat) (hsg : sgn = [] ∨ sgn = [43] ∨ sgn = [45])
    (ip fp : List Nat) (dot : Bool) (hip : ∀ c ∈ ip, IsDig c) (hfp : ∀ c ∈ fp, IsDig c)
    (hne : ip ≠ [] ∨ fp ≠ []) (hdot : dot = false → fp = []) (hfl : fp.length ≤ 400) :
    stringToNumber (sgn ++ decBody ip fp dot) = Spec.stringToNumber (sgn ++ decBody ip fp dot) := by
  obtain ⟨hplain, hne', hnx, v, hsp, hpf⟩ :=
    dec_text sgn hsg ip fp dot hip hfp hne hdot [] 0 expTail_nil (by omega) (by omega)
  rw [List.append_nil] at hplain hne' hnx hsp hpf
  exact toNumber_sound_of _ hplain hne' hnx v hsp hpf

/-- C06.toNumber_string_complete (after white-space stripping): EVERY text that is neither a
    StrDecimalLiteral nor a HexIntegerLiteral converts to NaN (and the empty text to +0) in otto exactly
    as in §9.3.1 — the grammar check of parseNumber is the grammar. -/
theorem toNumber_complete_body (v : Str) (hdec : ∀ y, Spec.strDecimalPrefix v ≠ some (y, []))
    (hhex : Spec.isHexIntegerLiteral v = false) :
    parseNumberBody v = Spec.stringToNumberBody v := by
  by_cases hv : v = []
  · subst hv; rfl
  · have hie := List.isEmpty_eq_false_iff.mpr hv
    have hre : (reDecRest v == some []) = false := by
      rw [reDecRest_eq]
      cases hp : Spec.strDecimalPrefix v with
      | none => rfl
      | some p =>
        obtain ⟨y, r⟩ := p
        cases r with
        | nil => exact absurd hp (hdec y)
        | cons a t => simp
    have hvalid : stringToNumberValid v = false := by
      simp [stringToNumberValid, hre, isHexLit_eq, hhex]
    have hspec : Spec.decimalLiteralValue v = .nan := by
      unfold Spec.decimalLiteralValue
      split
      · rename_i y hp; exact absurd hp (hdec y)
      · rfl
    simp [parseNumberBody, Spec.stringToNumberBody, hie, hvalid, hhex, hspec]

/-- C06.toNumber_string_sound (decimal literals WITH exponent part): every sign, digit strings ip/fp
    (not both empty), e/E, optional exponent sign, 1–4 exponent digits, total decimal exponent within
    ±400 (beyond which both sides saturate to 0/∞ — not covered here): parseNumber = §9.3.1. -/
theorem toNumber_decimal_exp_sound (sgn : List Nat) (hsg : sgn = [] ∨ sgn = [43] ∨ sgn = [45])
    (ip fp : List Nat) (dot : Bool) (hip : ∀ c ∈ ip, IsDig c) (hfp : ∀ c ∈ fp, IsDig c)
    (hne : ip ≠ [] ∨ fp ≠ []) (hdot : dot = false → fp = [])
    (ec : Nat) (hec : ec = 101 ∨ ec = 69) (esg ed : List Nat) (hesg : esg = [] ∨ esg = [43] ∨ esg = [45])
    (hed : ∀ x ∈ ed, IsDig x) (hedne : ed ≠ []) (hed4 : ed.length ≤ 4)
    (hlo : -400 ≤ esignVal esg * ((ed.foldl (fun n c => n * 10 + (c - 48)) 0 : Nat) : Int) - (fp.length : Int))
    (hhi : esignVal esg * ((ed.foldl (fun n c => n * 10 + (c - 48)) 0 : Nat) : Int) - (fp.length : Int) ≤ 400) :
    stringToNumber (sgn ++ (decBody ip fp dot ++ expPart ec esg ed))
      = Spec.stringToNumber (sgn ++ (decBody ip fp dot ++ expPart ec esg ed)) := by
  obtain ⟨hplain, hne', hnx, v, hsp, hpf⟩ := dec_text sgn hsg ip fp dot hip hfp hne hdot _ _
    (expTail_part ec hec esg ed hesg hed hedne hed4) hlo hhi
  exact toNumber_sound_of _ hplain hne' hnx v hsp hpf

example : [45] ++ (decBody [49] [53] true ++ expPart 101 [43] [51]) = OttoVerif.Str.ofString "-1.5e+3" := by decide +kernel
example : same (Spec.stringToNumber (OttoVerif.Str.ofString "-1.5e+3")) (decode 0xc097700000000000) = true := by decide +kernel

/-- parseFloat after the Trim: the §15.1.2.3 value whenever strconv.ParseFloat reads the text in front of the remainder
    as the value of the longest StrDecimalLiteral prefix (NaN on both sides when there is none) -/
theorem parseFloatBody_eq (input : Str)
    (h : ∀ x rest, Spec.strDecimalPrefix input = some (x, rest) →
      GoStd.parseFloat (input.take (input.length - rest.length)) = some x) :
    parseFloatBody input = Spec.parseFloatBody input := by
  simp only [parseFloatBody, Spec.parseFloatBody, reDecRest_eq]
  cases hs : Spec.strDecimalPrefix input with
  | none => rfl
  | some p => simp [h p.1 p.2 (by rw [hs])]

/-- parseFloat after the Trim on a text with no StrDecimalLiteral prefix: NaN on both sides, for EVERY text -/
theorem parseFloat_nomatch (input : Str) (h : Spec.strDecimalPrefix input = none) :
    parseFloatBody input = Spec.parseFloatBody input :=
  parseFloatBody_eq input fun x rest hx => by rw [h] at hx; cases hx

/-- parseFloat after the Trim on a text that is, as a whole, a StrDecimalLiteral of value x which
    strconv.ParseFloat reads as the same x -/
theorem parseFloat_whole (input : Str) (x : FV) (hsp : Spec.strDecimalPrefix input = some (x, []))
    (hpf : GoStd.parseFloat input = some x) :
    parseFloatBody input = Spec.parseFloatBody input :=
  parseFloatBody_eq input fun y rest hy => by rw [hsp] at hy; cases hy; simpa using hpf

/-- parseFloat on plain text that is, as a whole, a StrDecimalLiteral which strconv reads as the same value -/
theorem parseFloat_plain (s : Str) (hplain : ∀ x ∈ s, Plain x) (v : FV)
    (hsp : Spec.strDecimalPrefix s = some (v, [])) (hpf : GoStd.parseFloat s = some v) :
    C06.parseFloat s = Spec.parseFloat s := by
  have hstrip : Spec.stripLeft (Spec.runes s) = s := by
    rw [runes_plain _ hplain]; exact dropWhile_white_plain _ hplain
  simp only [C06.parseFloat, Spec.parseFloat, trim_plain _ hplain, hstrip]
  exact parseFloat_whole _ _ hsp hpf

/-- C06.parseFloat_prefix (decimal literals without exponent, whole string): for every sign and digit
    strings as in `toNumber_decimal_sound` (overflow to ±Infinity included), otto's parseFloat (regexp
    prefix, strconv.ParseFloat) returns the §15.1.2.3 value. -/
theorem parseFloat_decimal_sound (sgn : List Nat) (hsg : sgn = [] ∨ sgn = [43] ∨ sgn = [45])
    (ip fp : List Nat) (dot : Bool) (hip : ∀ c ∈ ip, IsDig c) (hfp : ∀ c ∈ fp, IsDig c)
    (hne : ip ≠ [] ∨ fp ≠ []) (hdot : dot = false → fp = []) (hfl : fp.length ≤ 400) :
    C06.parseFloat (sgn ++ decBody ip fp dot) = Spec.parseFloat (sgn ++ decBody ip fp dot) := by
  obtain ⟨hplain, _, _, v, hsp, hpf⟩ :=
    dec_text sgn hsg ip fp dot hip hfp hne hdot [] 0 expTail_nil (by omega) (by omega)
  rw [List.append_nil] at hplain hsp hpf
  exact parseFloat_plain _ hplain v hsp hpf

/-- the same with an ExponentPart (1–4 exponent digits, total exponent within ±400) -/
theorem parseFloat_decimal_exp_sound (sgn : List Nat) (hsg : sgn = [] ∨ sgn = [43] ∨ sgn = [45])
    (ip fp : List Nat) (dot : Bool) (hip : ∀ c ∈ ip, IsDig c) (hfp : ∀ c ∈ fp, IsDig c)
    (hne : ip ≠ [] ∨ fp ≠ []) (hdot : dot = false → fp = [])
    (ec : Nat) (hec : ec = 101 ∨ ec = 69) (esg ed : List Nat) (hesg : esg = [] ∨ esg = [43] ∨ esg = [45])
    (hed : ∀ x ∈ ed, IsDig x) (hedne : ed ≠ []) (hed4 : ed.length ≤ 4)
    (hlo : -400 ≤ esignVal esg * ((ed.foldl (fun n c => n * 10 + (c - 48)) 0 : Nat) : Int) - (fp.length : Int))
    (hhi : esignVal esg * ((ed.foldl (fun n c => n * 10 + (c - 48)) 0 : Nat) : Int) - (fp.length : Int) ≤ 400) :
    C06.parseFloat (sgn ++ (decBody ip fp dot ++ expPart ec esg ed))
      = Spec.parseFloat (sgn ++ (decBody ip fp dot ++ expPart ec esg ed)) := by
  obtain ⟨hplain, _, _, v, hsp, hpf⟩ := dec_text sgn hsg ip fp dot hip hfp hne hdot _ _
    (expTail_part ec hec esg ed hesg hed hedne hed4) hlo hhi
  exact parseFloat_plain _ hplain v hsp hpf

theorem pn_parseNumberBody_eq : OttoVerif.PN.parseNumberBody = parseNumberBody := rfl

/-- the shared Base model of parseNumber (used by the C05, C08, C09, C13, C15 drivers) is definitionally the
    C06 model, so every ToNumber theorem above is a theorem about `PN.parseNumber` -/
theorem pn_parseNumber_eq (s : Str) : OttoVerif.PN.parseNumber s = stringToNumber s :=
  -- through the bodies: `rfl` on the whole statement makes the kernel walk into the two (identical) Trims
  congrFun pn_parseNumberBody_eq (trim OttoVerif.PN.wsRunes s)

end ToNumber

/-- `toNumber_decimal_sound` instances: "-12.50", ".5" -/
example : [45] ++ decBody [49, 50] [53, 48] true = OttoVerif.Str.ofString "-12.50" := by decide +kernel
example : same (Spec.stringToNumber (OttoVerif.Str.ofString "-12.50")) (decode 0xc029000000000000) = true := by decide +kernel
example : same (stringToNumber (OttoVerif.Str.ofString ".5")) (decode 0x3fe0000000000000) = true := by decide +kernel

end OttoVerif.C06.Thm
