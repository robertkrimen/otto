/-
  C06/Digits — the arithmetic under C06/Layout and C06/Format: every fact about `natDigits` is an induction along
  `natDigits_step` (the last digit split off); the two roundings of a scaled fraction (half-even: strconv,
  half-up: ES5) are both read off quotient and remainder (`divRHU_eq`) and differ only on an exact tie with an
  even quotient (`rne_eq_rhu`).
-/
import OttoVerif.C06.Spec
import OttoVerif.Base.F64Lemmas
namespace OttoVerif.C06.Thm
open OttoVerif.F64 OttoVerif.C06

theorem natDigitsAux_acc (n : Nat) : ∀ fuel acc, fuel ≥ n → natDigitsAux fuel n acc = natDigitsAux n n [] ++ acc := by
  induction n using Nat.strongRecOn with
  | _ n ih =>
    intro fuel acc hf
    by_cases hn : n = 0
    · subst hn; cases fuel <;> simp [natDigitsAux]
    · obtain ⟨k, rfl⟩ : ∃ k, fuel = k + 1 := ⟨fuel - 1, by omega⟩
      obtain ⟨j, hj⟩ : ∃ j, n = j + 1 := ⟨n - 1, by omega⟩
      have hlt : n / 10 < n := by omega
      have lhs : natDigitsAux (k + 1) n acc = natDigitsAux (n / 10) (n / 10) [] ++ (n % 10 :: acc) := by
        simp only [natDigitsAux, hn, if_false]
        exact ih (n / 10) hlt k (n % 10 :: acc) (by omega)
      have rhs : natDigitsAux n n [] = natDigitsAux (n / 10) (n / 10) [] ++ [n % 10] := by
        conv => lhs; rw [hj]
        simp only [natDigitsAux, ← hj, hn, if_false]
        exact ih (n / 10) hlt j [n % 10] (by omega)
      rw [lhs, rhs]; simp

theorem natDigits_snoc (a d : Nat) (hd : d < 10) (hne : 10 * a + d ≠ 0) :
    natDigits (10 * a + d) = natDigits a ++ [d] := by
  unfold natDigits
  obtain ⟨j, hj⟩ : ∃ j, 10 * a + d = j + 1 := ⟨10 * a + d - 1, by omega⟩
  have h1 : (10 * a + d) / 10 = a := by omega
  have h2 : (10 * a + d) % 10 = d := by omega
  conv => lhs; rw [hj]
  simp only [natDigitsAux, ← hj, hne, if_false, h1, h2]
  exact natDigitsAux_acc a j [d] (by omega)

theorem natDigits_step (n : Nat) (hn : n ≠ 0) : natDigits n = natDigits (n / 10) ++ [n % 10] := by
  have := natDigits_snoc (n / 10) (n % 10) (by omega) (by omega)
  rwa [Nat.div_add_mod] at this

theorem natDigits_digit (d : Nat) (h0 : d ≠ 0) (h : d < 10) : natDigits d = [d] := by
  rw [natDigits_step d h0, Nat.div_eq_of_lt h, Nat.mod_eq_of_lt h]; rfl

theorem natDigits_head (n : Nat) (hn : n ≠ 0) : ∃ d rest, d ≠ 0 ∧ natDigits n = d :: rest := by
  induction n using Nat.strongRecOn with
  | _ n ih =>
    by_cases h10 : n < 10
    · exact ⟨n, [], hn, natDigits_digit n hn h10⟩
    · obtain ⟨d, rest, hd, h⟩ := ih (n / 10) (by omega) (by omega)
      exact ⟨d, rest ++ [n % 10], hd, by rw [natDigits_step n hn, h]; rfl⟩

theorem natDigits_ne_nil (n : Nat) (hn : n ≠ 0) : natDigits n ≠ [] := by
  obtain ⟨d, rest, _, h⟩ := natDigits_head n hn
  simp [h]

theorem natDigits_lt10 (n : Nat) : ∀ c ∈ natDigits n, c < 10 := by
  induction n using Nat.strongRecOn with
  | _ n ih =>
    by_cases hn : n = 0
    · subst hn; intro c hc; cases hc
    · rw [natDigits_step n hn]
      intro c hc
      rcases List.mem_append.mp hc with h | h
      · exact ih (n / 10) (by omega) c h
      · have : c = n % 10 := by simpa using h
        omega

theorem natDigits_succ_even (q : Nat) (hq : q ≠ 0) (heven : q % 2 = 0) :
    ∃ D d, d < 9 ∧ natDigits q = D ++ [d] ∧ natDigits (q + 1) = D ++ [d + 1] := by
  refine ⟨natDigits (q / 10), q % 10, by omega, natDigits_step q hq, ?_⟩
  have := natDigits_step (q + 1) (by omega)
  rwa [show (q + 1) / 10 = q / 10 by omega, show (q + 1) % 10 = q % 10 + 1 by omega] at this

theorem trim_append (ds : List Nat) : ∃ z, ds = trimZeros ds ++ List.replicate z 0 := by
  refine ⟨(ds.reverse.takeWhile (· = 0)).length, ?_⟩
  have hz : (ds.reverse.takeWhile (· = 0)).reverse = List.replicate (ds.reverse.takeWhile (· = 0)).length 0 := by
    rw [List.eq_replicate_iff]
    refine ⟨List.length_reverse, fun b hb => ?_⟩
    simpa using List.all_eq_true.mp List.all_takeWhile b (List.mem_reverse.mp hb)
  rw [trimZeros, ← hz, ← List.reverse_append, List.takeWhile_append_dropWhile, List.reverse_reverse]

theorem trim_natDigits (n : Nat) (hn : n ≠ 0) :
    ∃ c cs z, trimZeros (natDigits n) = c :: cs ∧ natDigits n = c :: cs ++ List.replicate z 0 := by
  obtain ⟨d, rest, hd, hnd⟩ := natDigits_head n hn
  obtain ⟨z, hz⟩ := trim_append (natDigits n)
  cases ht : trimZeros (natDigits n) with
  | nil =>
    rw [ht, hnd] at hz
    cases z with
    | zero => simp at hz
    | succ z => simp [List.replicate_succ] at hz; exact absurd hz.1 hd
  | cons c cs => exact ⟨c, cs, z, rfl, by rw [ht] at hz; exact hz⟩

theorem trim_id (ds : List Nat) (h : ds.getLast? ≠ some 0) : trimZeros ds = ds := by
  unfold trimZeros
  cases hr : ds.reverse with
  | nil => simp [List.reverse_eq_nil_iff.mp hr]
  | cons a t =>
    have hlast : ds.getLast? = some a := by
      rw [← List.reverse_reverse ds, hr]; simp
    have ha : a ≠ 0 := by intro h0; rw [hlast, h0] at h; exact h rfl
    have : (a :: t).dropWhile (· = 0) = a :: t := by simp [List.dropWhile, ha]
    rw [this, ← hr, List.reverse_reverse]

/-- half-up rounding in the form in which `divRNE` is defined: the quotient, one more from the half on -/
theorem divRHU_eq (a b : Nat) (hb : 0 < b) :
    Spec.divRHU a b = if 2 * (a % b) < b then a / b else a / b + 1 := by
  unfold Spec.divRHU
  have hr : a % b < b := Nat.mod_lt _ hb
  have key : 2 * a + b = (2 * (a % b) + b) + (2 * b) * (a / b) := by
    have := Nat.div_add_mod a b
    have : 2 * a = 2 * (b * (a / b)) + 2 * (a % b) := by omega
    rw [this, Nat.mul_assoc]; omega
  rw [key, Nat.add_mul_div_left _ _ (by omega : 0 < 2 * b)]
  split
  · rw [Nat.div_eq_of_lt (by omega)]; omega
  · rw [show (2 * (a % b) + b) / (2 * b) = 1 from Nat.div_eq_of_lt_le (by omega) (by omega)]; omega

theorem rhu_tie (a b : Nat) (hb : 0 < b) (ht : 2 * (a % b) = b) : Spec.divRHU a b = a / b + 1 := by
  rw [divRHU_eq a b hb, if_neg (by omega)]

theorem rne_tie (a b : Nat) (ht : 2 * (a % b) = b) : divRNE a b = if (a / b) % 2 = 0 then a / b else a / b + 1 := by
  unfold divRNE
  have h1 : ¬ (2 * (a % b) < b) := by omega
  have h2 : ¬ (2 * (a % b) > b) := by omega
  simp only [h1, h2, if_false]

/-- the two roundings differ only on an exact tie with an even quotient -/
theorem rne_eq_rhu (a b : Nat) (hb : 0 < b) (h : ¬ (2 * (a % b) = b ∧ (a / b) % 2 = 0)) :
    divRNE a b = Spec.divRHU a b := by
  rw [divRHU_eq a b hb]
  unfold divRNE
  by_cases h1 : 2 * (a % b) < b
  · simp only [h1, if_true]
  · by_cases h2 : 2 * (a % b) > b
    · simp only [h1, h2, if_false, if_true]
    · simp only [h1, h2, if_false, if_neg (fun hev => h ⟨by omega, hev⟩)]

theorem ratOf_den_pos (m : Nat) (e : Int) : 0 < (ratOf m e).2 := by
  unfold ratOf; split
  · simp
  · exact Nat.pow_pos (by decide)

theorem scale10_den_pos (num den : Nat) (sh : Int) (hd : 0 < den) : 0 < (scale10 num den sh).2 := by
  unfold scale10; split
  · exact hd
  · exact Nat.mul_pos hd (Nat.pow_pos (by decide))

end OttoVerif.C06.Thm
