/-
  C06/Format — Number → text, the methods: otto's Number → String conversion is the §9.8.1 layout of the generated
  digits, the RangeError conditions, toString(radix) on integers, toFixed, and toExponential / toPrecision with
  strconv's half-even digits against ES5's half-up ones (`sigDec`, `sigPair`: both as functions of the rounded value).
  The layouts themselves are in C06/Layout.
-/
import OttoVerif.C06.Layout
namespace OttoVerif.C06.Thm
open OttoVerif.F64 OttoVerif.C06

/-- what the layout theorem assumes of strconv's shortest-digit generator for one value -/
structure WFDec (d : Dec) : Prop where
  nonempty : d.ds ≠ []
  digits : ∀ c ∈ d.ds, c < 10
  dpBound : -999 < d.dp ∧ d.dp < 1000

theorem formatFloat_g_shortest (L : Lib) (s : Bool) (m : Nat) (e : Int) (hm : m ≠ 0)
    (h : (L.shortest m e).dp > 21 ∨ (L.shortest m e).dp ≤ -6) :
    formatFloat L (.fin s m e) .g (-1)
      = fmtE s (L.shortest m e) (((L.shortest m e).ds.length : Int) - 1) := by
  have hx : (L.shortest m e).dp - 1 < -4 ∨ (L.shortest m e).dp - 1 ≥ 6 := by omega
  simp [formatFloat, formatDigits, hm, hx]

theorem formatFloat_f_shortest (L : Lib) (s : Bool) (m : Nat) (e : Int) (hm : m ≠ 0) :
    formatFloat L (.fin s m e) .f (-1)
      = fmtF s (L.shortest m e) (if ((L.shortest m e).ds.length : Int) - (L.shortest m e).dp > 0
          then ((L.shortest m e).ds.length : Int) - (L.shortest m e).dp else 0) := by
  simp [formatFloat, formatDigits, hm]

/-- C06.layout: for every value and every digit generator output `(ds, n)` (non-empty decimal digits,
    |n| < 999) that is consistent with the magnitude of the value (`sideOK`: n > 21 ⇔ |x| ≥ 1e21,
    n ≤ −6 ⇔ |x| < 1e-6), otto's Number → String conversion is exactly the §9.8.1 layout of those digits. -/
theorem toString_layout (L : Lib) (s : Bool) (m : Nat) (e : Int) (hm : m ≠ 0)
    (hwf : WFDec (L.shortest m e)) (hside : Spec.Dev.sideOK (.fin s m e) (L.shortest m e).dp = true) :
    numToString L (.fin s m e)
      = (if s then [45] else []) ++ Spec.layout981 (L.shortest m e).ds (L.shortest m e).dp := by
  have hz : isZero (.fin s m e) = false := by
    cases m with
    | zero => exact absurd rfl hm
    | succ k => rfl
  simp only [numToString, hz, floatToString]
  rw [Spec.Dev.sideOK, beq_iff_eq] at hside
  have hiff : (le f1e21 (abs (.fin s m e)) = true ∨ lt (abs (.fin s m e)) f1em6 = true) ↔
      ((L.shortest m e).dp > 21 ∨ (L.shortest m e).dp ≤ -6) := by
    rw [← Bool.or_eq_true, hside, decide_eq_true_eq]
  by_cases hexp : (L.shortest m e).dp > 21 ∨ (L.shortest m e).dp ≤ -6
  · rw [if_pos (hiff.mpr hexp), formatFloat_g_shortest L s m e hm hexp]
    exact expForm s _ _ hwf.nonempty hwf.digits hexp hwf.dpBound
  · rw [if_neg (mt hiff.mp hexp), formatFloat_f_shortest L s m e hm]
    exact fixedForm s (L.shortest m e).ds (L.shortest m e).dp hwf.nonempty (by omega) (by omega)

/-- the same, against the specification function, with the exact digit oracle as the generator -/
theorem toString_eq_spec (x : FV)
    (h : ∀ s m e, x = .fin s m e → m ≠ 0 →
      WFDec (Spec.shortestDigits m e) ∧ Spec.Dev.sideOK x (Spec.shortestDigits m e).dp = true) :
    numToString Spec.exactLib x = Spec.toStringNum x := by
  cases x with
  | nan => rfl
  | inf s => rfl
  | fin s m e =>
    by_cases hm : m = 0
    · subst hm; rfl
    · obtain ⟨hwf, hside⟩ := h s m e rfl hm
      have := toString_layout Spec.exactLib s m e hm hwf hside
      simp only [Spec.toStringNum, hm, if_false]
      exact this

/-- otto's toIntegerFloat (floor for positive, ceil otherwise) is ES5 ToInteger (§9.4) on every value -/
theorem toInteger_eq (f : FV) : toIntegerFloat f = Spec.toInteger f := by
  cases f with
  | nan => rfl
  | inf s => rfl
  | fin s m e =>
    simp only [toIntegerFloat, Spec.toInteger, isInf, isNaN]
    by_cases hi : isIntegral m e = true
    · simp [floor, ceil, trunc, hi]
    · cases s with
      | false =>
        have hm : m ≠ 0 := by
          intro h; subst h; simp [isIntegral] at hi
        simp [zero, lt_zero_fin, hm, floor, trunc, hi]
      | true =>
        simp [zero, lt_zero_fin, ceil, trunc, hi]

theorem ofInt_zero : ofInt 0 = zero := by decide

/-- C06.range_errors (toFixed): RangeError exactly when ToInteger(fractionDigits) ∉ [0, 20], for every
    argument (all doubles, NaN, ±∞, undefined) and every receiver. -/
theorem toFixed_range (L : Lib) (x : FV) (a : Arg) :
    toFixed L x a = .rangeError ↔ Spec.toFixed x a = .rangeError := by
  have ite_iff : ∀ {c : Prop} [Decidable c] (s : Str), (if c then Res.rangeError else .str s) = .rangeError ↔ c := by
    intro c _ s; split <;> simp [*]
  simp only [toFixed, Spec.toFixed, toInteger_eq, Spec.argInt, Spec.ltI, Spec.gtI, ofInt_zero, ite_iff]
  exact Or.comm

/-- C06.range_errors (toString radix): RangeError exactly when ToInteger(radix) ∉ [2, 36] -/
theorem radix_range (L : Lib) (x : FV) (a : Arg) :
    numberToString L x a = .rangeError ↔ Spec.toStringRadix x a = some .rangeError := by
  -- past its range test §15.7.4.2 answers a string or nothing, branch by branch
  have ite_ne_rangeError : ∀ {c : Prop} [Decidable c] {a b : Option Res},
      a ≠ some .rangeError → b ≠ some .rangeError → (if c then a else b) ≠ some .rangeError := by
    intro c _ a b ha hb
    split <;> assumption
  cases a with
  | undef =>
    have c : ¬ (Spec.ltI (ofInt 10) 2 = true ∨ Spec.gtI (ofInt 10) 36 = true) := by decide
    simp only [numberToString, Spec.toStringRadix, if_neg c]
    refine ⟨nofun, fun h => absurd h (ite_ne_rangeError nofun ?_)⟩
    cases x with
    | nan => nofun
    | inf s => nofun
    | fin s m e => exact ite_ne_rangeError nofun (ite_ne_rangeError nofun (ite_ne_rangeError nofun nofun))
  | num r =>
    simp only [numberToString, Spec.toStringRadix, toInteger_eq, Spec.ltI, Spec.gtI]
    by_cases c : lt (Spec.toInteger r) (ofInt 2) = true ∨ lt (ofInt 36) (Spec.toInteger r) = true
    · simp only [if_pos c]
    · rw [if_neg c, if_neg c]
      refine ⟨(fun h => by split at h <;> cases h), fun h => absurd h (ite_ne_rangeError nofun ?_)⟩
      cases x with
      | nan => nofun
      | inf s => nofun
      | fin s m e => exact ite_ne_rangeError nofun (ite_ne_rangeError nofun (ite_ne_rangeError nofun nofun))

/-- C06.range_errors (toExponential): for EVERY receiver (NaN and ±∞ never throw: §15.7.4.6 steps 3–6 come
    first) RangeError exactly when the argument is defined, the receiver finite and ToInteger(arg) ∉ [0, 20]. -/
theorem toExponential_range (L : Lib) (x : FV) (a : Arg) :
    toExponential L x a = .rangeError ↔ Spec.toExponential x a = .rangeError := by
  cases x with
  | nan => simp [toExponential, Spec.toExponential, isNaN]
  | inf s => simp [toExponential, Spec.toExponential, isNaN, isInf]
  | fin s m e =>
    cases a with
    | undef => simp [toExponential, Spec.toExponential, isNaN, isInf, Arg.isDefined]
    | num v =>
      simp [toExponential, Spec.toExponential, isNaN, isInf, toInteger_eq, Spec.argInt, Arg.toFloat, Arg.isDefined,
        Spec.ltI, Spec.gtI, ofInt_zero]

/-- C06.range_errors (toPrecision): for EVERY receiver, RangeError exactly when the receiver is finite and
    ToInteger(arg) ∉ [1, 21] -/
theorem toPrecision_range (L : Lib) (x v : FV) :
    toPrecision L x (.num v) = .rangeError ↔ Spec.toPrecision x (.num v) = .rangeError := by
  cases x with
  | nan => simp [toPrecision, Spec.toPrecision, isNaN]
  | inf s => simp [toPrecision, Spec.toPrecision, isNaN, isInf]
  | fin s m e =>
    have ofInt_one : ofInt 1 = one := by decide
    simp [toPrecision, Spec.toPrecision, isNaN, isInf, toInteger_eq, Spec.ltI, Spec.gtI, ofInt_one]

/-- ±Infinity: toExponential and toPrecision return "Infinity" / "-Infinity" as §15.7.4.6/7 prescribe -/
theorem toExponential_inf (L : Lib) (s : Bool) (a : Arg) :
    toExponential L (.inf s) a = Spec.toExponential (.inf s) a := by
  simp [toExponential, Spec.toExponential, isNaN, isInf, floatToString]

theorem toPrecision_inf (L : Lib) (s : Bool) (a : Arg) :
    toPrecision L (.inf s) a = Spec.toPrecision (.inf s) a := by
  cases a with
  | undef => simp [toPrecision, Spec.toPrecision, isNaN, numToString, isZero, floatToString, Spec.toStringNum]
  | num v => simp [toPrecision, Spec.toPrecision, isNaN, isInf, floatToString]

/-- C06.radix: for every finite non-zero INTEGRAL x (any magnitude) and every radix, otto's
    numberToStringRadix (the exact integer part in base `radix`) is the exact positional expansion. -/
theorem radix_partial (s : Bool) (m : Nat) (e : Int) (radix : Nat) (hm : m ≠ 0)
    (hint : isIntegral m e = true) :
    numberToStringRadix (.fin s m e) radix = (if s then [45] else []) ++ Spec.radixStr (truncAbs m e) radix := by
  have ht := Nat.ne_of_gt (truncAbs_pos m e hm hint)
  simp only [numberToStringRadix, hm, if_false, truncInt, Spec.radixStr, ht]
  generalize truncAbs m e = t at *
  cases s with
  | false =>
    have h3 : ¬ ((t : Int) < 0) := by omega
    simp [formatInt, h3, ht]
  | true =>
    simp [formatInt, ht]

/-- C06.radix at the level of Number.prototype.toString: every radix 2..36 except 10, every finite
    non-zero integral receiver: model = spec. -/
theorem radix_eq_spec (L : Lib) (s : Bool) (m : Nat) (e : Int) (r : Fin 37) (h2 : 2 ≤ r.val)
    (h10 : r.val ≠ 10) (hm : m ≠ 0) (hint : isIntegral m e = true) :
    some (numberToString L (.fin s m e) (.num (ofInt r.val))) = Spec.toStringRadix (.fin s m e) (.num (ofInt r.val)) := by
  -- the radix argument passes both range tests and converts to itself: a table of 37
  have table : ∀ r : Fin 37, 2 ≤ r.val →
      lt (Spec.toInteger (ofInt r.val)) (ofInt 2) = false ∧ lt (ofInt 36) (Spec.toInteger (ofInt r.val)) = false ∧
      goInt (Spec.toInteger (ofInt r.val)) = r.val ∧ Spec.intOf (Spec.toInteger (ofInt r.val)) = r.val := by
    decide +kernel
  obtain ⟨t1, t2, t3, t4⟩ := table r h2
  have h10' : ¬ ((r.val : Int) = 10) := by omega
  simp only [numberToString, Spec.toStringRadix, toInteger_eq, Spec.ltI, Spec.gtI, t1, t2, t3, t4, h10']
  simp [radix_partial s m e r.val hm hint, hm, hint, h10]

theorem fixedStr_eq (s : Bool) (m : Nat) (e : Int) (f : Nat)
    (hsmall : ¬ ((ratOf m e).1 ≥ 10 ^ 21 * (ratOf m e).2)) :
    Spec.fixedStr (.fin s m e) f = (if s ∧ m ≠ 0 then [45] else []) ++
      es5Fixed (Spec.decimalStr (Spec.divRHU ((ratOf m e).1 * 10 ^ f) (ratOf m e).2)) f := by
  cases hr : ratOf m e with
  | mk num den =>
    rw [hr] at hsmall
    simp only at hsmall
    simp only [Spec.fixedStr, hr, hsmall, if_false, es5Fixed]
    split <;> simp

theorem fixedLayout_eq (d : Str) (f : Nat) : fixedLayout d f = es5Fixed d f := by
  unfold fixedLayout es5Fixed Spec.padLeft
  by_cases hf : f = 0
  · simp [hf]
  · have hf' : f > 0 := by omega
    simp only [hf', if_true, hf, if_false]
    by_cases hl : d.length ≤ f
    · simp [hl]
    · have : f + 1 - d.length = 0 := by omega
      simp [hl, this]

/-- C06.toFixed: x.toFixed(f) for EVERY finite double x with |x| < 10^21 (zero and −0 included, exact
    ties included) and every digit count f = 0..20: otto's exact rounding floor(|x|·10^f + 1/2) and its
    layout are the §15.7.4.5 string.  (`hle` states that otto's float comparison `|x| >= 1e21` agrees with
    the exact one `hsmall`; checked on every sample as region `f64_le_mismatch`.) -/
theorem toFixed_eq (L : Lib) (s : Bool) (m : Nat) (e : Int) (f : Fin 21)
    (hsmall : ¬ ((ratOf m e).1 ≥ 10 ^ 21 * (ratOf m e).2))
    (hle : le f1e21 (abs (.fin s m e)) = false) :
    toFixed L (.fin s m e) (.num (ofInt f.val)) = Spec.toFixed (.fin s m e) (.num (ofInt f.val)) := by
  -- the digit count passes both range tests and converts to itself: a table of 21
  have table : ∀ f : Fin 21,
      lt (ofInt 20) (Spec.toInteger (ofInt f.val)) = false ∧ lt (Spec.toInteger (ofInt f.val)) zero = false ∧
      goInt (Spec.toInteger (ofInt f.val)) = f.val ∧ Spec.intOf (Spec.toInteger (ofInt f.val)) = f.val := by
    decide +kernel
  obtain ⟨t1, t2, t3, t4⟩ := table f
  have t2' : lt (Spec.toInteger (ofInt f.val)) (ofInt 0) = false := by rw [ofInt_zero]; exact t2
  simp only [toFixed, Spec.toFixed, toInteger_eq, Arg.toFloat, Spec.argInt, Spec.ltI, Spec.gtI, t1, t2, t2',
    toFixedStr, isNaN, t3, t4, Int.toNat_natCast, Bool.false_eq_true, if_false, or_self]
  rw [fixedStr_eq s m e f.val hsmall]
  have hden := ratOf_den_pos m e
  by_cases hm : m = 0
  · -- ±0: the sign is dropped, the digits are zeros
    subst hm
    have hz : dropZeroSign (.fin s 0 e) = .fin false 0 0 := by simp [dropZeroSign, isZero, zero]
    have hnum : (ratOf 0 e).1 = 0 := by unfold ratOf; split <;> simp
    have hr0 : fixedRound (ratOf 0 0).1 (ratOf 0 0).2 f.val = 0 := by simp [fixedRound, ratOf]
    have hd0 : Spec.divRHU ((ratOf 0 e).1 * 10 ^ f.val) (ratOf 0 e).2 = 0 := by
      rw [hnum]; simp only [Spec.divRHU, Nat.zero_mul, Nat.mul_zero, Nat.zero_add]
      exact Nat.div_eq_of_lt (by omega)
    have hle0 : le f1e21 (abs (.fin false 0 0)) = false := by decide +kernel
    have hlt0 : lt (FV.fin false 0 0) zero = false := by decide
    simp only [hz, hle0, Bool.false_eq_true, if_false, hr0, hd0, fixedLayout_eq, hlt0]
    simp [bigIntString, Spec.decimalStr]
  · have hz : dropZeroSign (.fin s m e) = .fin s m e := by
      cases m with
      | zero => exact absurd rfl hm
      | succ k => simp [dropZeroSign, isZero]
    simp only [hz, hle, Bool.false_eq_true, if_false, fixedLayout_eq]
    have hrnd : fixedRound (ratOf m e).1 (ratOf m e).2 f.val
        = Spec.divRHU ((ratOf m e).1 * 10 ^ f.val) (ratOf m e).2 := rfl
    have hstr : ∀ n, bigIntString n = Spec.decimalStr n := fun _ => rfl
    rw [hrnd, hstr]
    cases s <;> simp [zero, lt_fin_zero, hm]

/-- `toFixed_eq` covers the former tie and −0 regions: (0.5).toFixed(0) = "1", (−0).toFixed(2) = "0.00" -/
example : ¬ ((ratOf (2^52) (-53)).1 ≥ 10 ^ 21 * (ratOf (2^52) (-53)).2) := by decide +kernel
example : le f1e21 (abs (.fin false (2^52) (-53))) = false := by decide +kernel
example : toFixed Spec.exactLib (.fin false (2^52) (-53)) (.num (ofInt 0)) = .str [49] := by decide +kernel
example : toFixed Spec.exactLib (.fin true 0 0) (.num (ofInt 2)) = .str [48, 46, 48, 48] := by decide +kernel

/-- the scaled fraction (a, b) = x·10^(n−p) from which both sides round x = m·2^e to n significant
    digits (p = `decExp`, the position of the decimal point of x) -/
def scaled (m : Nat) (e : Int) (n : Nat) : Nat × Nat :=
  scale10 (ratOf m e).1 (ratOf m e).2 ((n : Int) - decExp (ratOf m e).1 (ratOf m e).2)

theorem scaled_den_pos (m : Nat) (e : Int) (n : Nat) : 0 < (scaled m e n).2 :=
  scale10_den_pos _ _ _ (ratOf_den_pos m e)

/-- strconv's digit slice for the rounded value `r` (`sigDigitsWith`) -/
def sigDec (r n : Nat) (p : Int) : Dec :=
  if r ≥ 10 ^ n then ⟨[1], p + 1⟩ else ⟨trimZeros (natDigits r), p⟩

/-- ES5's digits and exponent for the rounded value `r` (`Spec.sigRoundUp`) -/
def sigPair (r n : Nat) (p : Int) : List Nat × Int :=
  if r ≥ 10 ^ n then (1 :: List.replicate (n - 1) 0, p) else (natDigits r, p - 1)

theorem sig_ge (r n : Nat) (p : Int) (h : r ≥ 10 ^ n) :
    sigDec r n p = ⟨[1], p + 1⟩ ∧ sigPair r n p = (1 :: List.replicate (n - 1) 0, p) := by
  simp [sigDec, sigPair, h]

theorem sig_lt (r n : Nat) (p : Int) (h : r < 10 ^ n) :
    sigDec r n p = ⟨trimZeros (natDigits r), p⟩ ∧ sigPair r n p = (natDigits r, p - 1) := by
  simp [sigDec, sigPair, Nat.not_le.mpr h]

theorem goFixedSig_eq (m : Nat) (e : Int) (n : Nat) :
    goFixedSig m e n
      = sigDec (divRNE (scaled m e n).1 (scaled m e n).2) n (decExp (ratOf m e).1 (ratOf m e).2) := by
  unfold goFixedSig sigDigitsWith sigDec scaled
  rfl

theorem sigRoundUp_eq (m : Nat) (e : Int) (n : Nat) :
    Spec.sigRoundUp m e n
      = sigPair (Spec.divRHU (scaled m e n).1 (scaled m e n).2) n (decExp (ratOf m e).1 (ratOf m e).2) := by
  unfold Spec.sigRoundUp sigPair scaled
  rfl

/-- off a tie strconv's half-even rounding of the scaled fraction is ES5's half-up -/
theorem scaled_rne_eq_rhu (m : Nat) (e : Int) (n : Nat) (hnt : Spec.Dev.sigTie m e n = false) :
    divRNE (scaled m e n).1 (scaled m e n).2 = Spec.divRHU (scaled m e n).1 (scaled m e n).2 := by
  change Spec.Dev.isTie (scaled m e n).1 (scaled m e n).2 = false at hnt
  exact rne_eq_rhu _ _ (scaled_den_pos m e n) (fun h => by simp [Spec.Dev.isTie, h.1] at hnt)

theorem tieRoundedDown_eq (m : Nat) (e : Int) (n : Nat) :
    tieRoundedDown m e n = decide (2 * ((scaled m e n).1 % (scaled m e n).2) = (scaled m e n).2 ∧
      ((scaled m e n).1 / (scaled m e n).2) % 2 = 0) := by
  unfold tieRoundedDown scaled
  rfl

/-- both are the digits of `r` with the same exponent: strconv's trimmed, ES5's in full -/
theorem sig_shape (r n : Nat) (p : Int) (hn : 1 ≤ n) (hlen : (sigPair r n p).1.length = n) :
    ∃ c cs z, sigDec r n p = ⟨c :: cs, (sigPair r n p).2 + 1⟩ ∧ (sigPair r n p).1 = c :: cs ++ List.replicate z 0 := by
  by_cases hov : r ≥ 10 ^ n
  · -- rounded up to the next power of ten
    rw [(sig_ge r n p hov).1, (sig_ge r n p hov).2]
    exact ⟨1, [], n - 1, rfl, rfl⟩
  · rw [(sig_lt r n p (Nat.not_le.mp hov)).1]
    rw [(sig_lt r n p (Nat.not_le.mp hov)).2] at hlen ⊢
    have hr0 : r ≠ 0 := by
      intro h0; rw [h0] at hlen; simp [natDigits, natDigitsAux] at hlen; omega
    obtain ⟨c, cs, z, htrim, hfull⟩ := trim_natDigits r hr0
    exact ⟨c, cs, z, by rw [htrim, show p - 1 + 1 = p by omega], hfull⟩

/-- %e of strconv's slice for `r` is the ES5 layout of ES5's digits for the same `r`, when those are
    f+1 digits and the exponent needs two or three -/
theorem fmtE_sig (neg : Bool) (r f : Nat) (p : Int)
    (hlen : (sigPair r (f + 1) p).1.length = f + 1)
    (hex : 10 ≤ (sigPair r (f + 1) p).2.natAbs ∧ (sigPair r (f + 1) p).2.natAbs < 1000) :
    fmtE neg (sigDec r (f + 1) p) (f : Int)
      = (if neg then [45] else []) ++
          es5ExpLayout ((sigPair r (f + 1) p).1.map digitCh) (sigPair r (f + 1) p).2 := by
  obtain ⟨c, cs, z, hd, hs⟩ := sig_shape r (f + 1) p (by omega) hlen
  rw [hd, hs]
  rw [hs] at hlen
  generalize (sigPair r (f + 1) p).2 = E at *
  have hz : f = cs.length + z := by simp at hlen; omega
  have h1 : E + 1 - 1 = E := by omega
  rw [hz, exp_layout neg c cs z (E + 1) (by rw [h1]; exact hex.1) (by rw [h1]; exact hex.2), h1]

theorem formatFloat_e (L : Lib) (s : Bool) (m : Nat) (e : Int) (f : Nat) (hm : m ≠ 0) :
    formatFloat L (.fin s m e) .e (f : Int) = fmtE s (L.fixedSig m e (f + 1)) (f : Int) := by
  have hneg : ¬ ((f : Int) < 0) := by omega
  simp only [formatFloat, hneg, if_false, hm, formatDigits, Int.toNat_natCast]

theorem expStr_defined (s : Bool) (m : Nat) (e : Int) (f : Nat) (hm : m ≠ 0) :
    Spec.expStr s m e true f = (if s then [45] else []) ++
      es5ExpLayout ((Spec.sigRoundUp m e (f + 1)).1.map digitCh) (Spec.sigRoundUp m e (f + 1)).2 := by
  simp [Spec.expStr, es5ExpLayout, hm]

/-- `toExponential_core` from any agreement of the two roundings -/
theorem toExponential_of_rr (s : Bool) (m : Nat) (e : Int) (f : Nat) (hm : m ≠ 0)
    (hrr : ∀ a b, scale10 (ratOf m e).1 (ratOf m e).2 (((f + 1 : Nat) : Int) - decExp (ratOf m e).1 (ratOf m e).2) = (a, b) →
      divRNE a b = Spec.divRHU a b)
    (hlen : (Spec.sigRoundUp m e (f + 1)).1.length = f + 1)
    (hex : 10 ≤ (Spec.sigRoundUp m e (f + 1)).2.natAbs ∧ (Spec.sigRoundUp m e (f + 1)).2.natAbs < 1000) :
    formatFloat Spec.exactLib (.fin s m e) .e (f : Int) = Spec.expStr s m e true f := by
  have hr : divRNE (scaled m e (f + 1)).1 (scaled m e (f + 1)).2
      = Spec.divRHU (scaled m e (f + 1)).1 (scaled m e (f + 1)).2 := hrr _ _ rfl
  rw [formatFloat_e _ s m e f hm, expStr_defined s m e f hm]
  rw [sigRoundUp_eq] at hlen hex ⊢
  show fmtE s (goFixedSig m e (f + 1)) f = _
  rw [goFixedSig_eq, hr]
  exact fmtE_sig s _ f _ hlen hex

/-- C06.toExponential_partial (core): for every finite non-zero double and every digit count f, if the
    rounding to f+1 significant digits is not an exact tie, the decimal exponent needs two or three
    digits, and the spec's digit string has its f+1 digits, strconv's `'e'` formatting with the exact
    half-even digit rule is the §15.7.4.6 string. -/
theorem toExponential_core (s : Bool) (m : Nat) (e : Int) (f : Nat) (hm : m ≠ 0)
    (hnt : Spec.Dev.sigTie m e (f + 1) = false)
    (hlen : (Spec.sigRoundUp m e (f + 1)).1.length = f + 1)
    (hex : 10 ≤ (Spec.sigRoundUp m e (f + 1)).2.natAbs ∧ (Spec.sigRoundUp m e (f + 1)).2.natAbs < 1000) :
    formatFloat Spec.exactLib (.fin s m e) .e (f : Int) = Spec.expStr s m e true f := by
  refine toExponential_of_rr s m e f hm (fun a b h => ?_) hlen hex
  have := scaled_rne_eq_rhu m e (f + 1) hnt
  rwa [show scaled m e (f + 1) = (a, b) from h] at this

/-- the hypotheses of `toExponential_core` hold for (1.2345e25).toExponential(2) = "1.23e+25" -/
example : Spec.Dev.sigTie 0x146c4f94f99599 31 3 = false := by decide +kernel
example : (Spec.sigRoundUp 0x146c4f94f99599 31 3) = ([1, 2, 3], 25) := by decide +kernel
example : Spec.expStr false 0x146c4f94f99599 31 true 2 = OttoVerif.Str.ofString "1.23e+25" := by decide +kernel

/-! ### toExponential with otto's tie correction (42433cc) -/

/-- the quotient ⌊x·10^(n−p)⌋ that both roundings start from (p = decimal exponent of x) -/
def scaledQuot (m : Nat) (e : Int) (n : Nat) : Nat :=
  let (num, den) := ratOf m e
  let (a, b) := scale10 num den ((n : Int) - decExp num den)
  a / b

/-- C06.toExponential (digits given): for every finite non-zero double and every digit count f — exact
    ties INCLUDED — strconv's `'e'` formatting followed by otto's tie correction is the §15.7.4.6 string,
    when the decimal exponent needs two or three digits.  `hlen`/`hq` say that the scaled value has its
    f+1 integer digits (both are consequences of `decExp` being the decimal exponent; checked per sample). -/
theorem toExponential_full (s : Bool) (m : Nat) (e : Int) (f : Nat) (hm : m ≠ 0)
    (hlen : (Spec.sigRoundUp m e (f + 1)).1.length = f + 1)
    (hex : 10 ≤ (Spec.sigRoundUp m e (f + 1)).2.natAbs ∧ (Spec.sigRoundUp m e (f + 1)).2.natAbs < 1000)
    (hq : 0 < scaledQuot m e (f + 1) ∧ scaledQuot m e (f + 1) < 10 ^ (f + 1)) :
    expFormat Spec.exactLib (.fin s m e) (f : Int) = Spec.expStr s m e true f := by
  have hpos : (f : Int) ≥ 0 := by omega
  have hqv : scaledQuot m e (f + 1) = (scaled m e (f + 1)).1 / (scaled m e (f + 1)).2 := by
    unfold scaledQuot scaled; rfl
  rw [hqv] at hq
  rcases hsc : scaled m e (f + 1) with ⟨a, b⟩
  have hb : 0 < b := by have := scaled_den_pos m e (f + 1); rwa [hsc] at this
  simp only [hsc] at hq
  simp only [expFormat, hpos, hm, ne_eq, not_false_eq_true, true_and, Int.toNat_natCast, tieRoundedDown_eq, hsc,
    decide_eq_true_eq]
  by_cases h : 2 * (a % b) = b ∧ (a / b) % 2 = 0
  · -- exact tie, strconv went down to the even quotient q; ES5 wants q + 1: the correction applies
    rw [if_pos h, formatFloat_e _ s m e f hm, expStr_defined s m e f hm]
    simp only [sigRoundUp_eq, hsc, rhu_tie a b hb h.1] at hlen hex ⊢
    show bumpBeforeE (fmtE s (goFixedSig m e (f + 1)) f) = _
    simp only [goFixedSig_eq, hsc, rne_tie a b h.1, if_pos h.2]
    generalize a / b = q at *
    generalize decExp (ratOf m e).1 (ratOf m e).2 = p at *
    have hpar : 10 ^ (f + 1) % 2 = 0 := by rw [Nat.pow_succ]; omega
    obtain ⟨D, d, hd9, hDq, hDq1⟩ := natDigits_succ_even q (by omega) h.2
    have hD : ∀ c ∈ D, c < 10 := fun c hc => natDigits_lt10 q c (by rw [hDq]; simp [hc])
    rw [(sig_lt _ _ _ (by omega : q + 1 < 10 ^ (f + 1))).2] at hlen hex ⊢
    have hlenq : (sigPair q (f + 1) p).1.length = f + 1 := by
      rw [(sig_lt _ _ _ hq.2).2, hDq]; rw [hDq1] at hlen; simpa using hlen
    have hexq : 10 ≤ (sigPair q (f + 1) p).2.natAbs ∧ (sigPair q (f + 1) p).2.natAbs < 1000 := by
      rw [(sig_lt _ _ _ hq.2).2]; exact hex
    rw [fmtE_sig s q f p hlenq hexq, (sig_lt _ _ _ hq.2).2, hDq, hDq1]
    exact bump_layout s D d (p - 1) hD hd9
  · rw [if_neg h]
    exact toExponential_of_rr s m e f hm (fun a' b' h' => by
      obtain ⟨rfl, rfl⟩ := Prod.mk.inj (hsc.symm.trans h')
      exact rne_eq_rhu a b hb h) hlen hex

/-- `toExponential_full` on an exact tie with an even kept digit: (12345678905).toExponential(9) = "1.234567891e+10" -/
example : tieRoundedDown 0x16fee0e1c80000 (-19) 10 = true := by decide +kernel
example : 0 < scaledQuot 0x16fee0e1c80000 (-19) 10 ∧ scaledQuot 0x16fee0e1c80000 (-19) 10 < 10 ^ 10 := by decide +kernel
example : Spec.sigRoundUp 0x16fee0e1c80000 (-19) 10 = ([1, 2, 3, 4, 5, 6, 7, 8, 9, 1], 10) := by decide +kernel
example : expFormat Spec.exactLib (.fin false 0x16fee0e1c80000 (-19)) 9 = OttoVerif.Str.ofString "1.234567891e+10" := by decide +kernel

/-- %g of strconv's slice for the rounded value `r` is the ES5 layout of ES5's digits for the same `r`,
    outside the regions of `precForm` and when none of the p digits was trimmed -/
theorem fmtG_sig (neg : Bool) (r p : Nat) (P : Int) (hp1 : 1 ≤ p)
    (hlen : (sigPair r p P).1.length = p)
    (hlast : ¬ (p > 1 ∧ (sigPair r p P).1.getLast? = some 0))
    (hsmall : (sigPair r p P).2 ≠ -5 ∧ (sigPair r p P).2 ≠ -6)
    (hexp : ((sigPair r p P).2 < -6 ∨ (sigPair r p P).2 ≥ (p : Int)) →
      10 ≤ (sigPair r p P).2.natAbs ∧ (sigPair r p P).2.natAbs < 1000) :
    formatDigits false neg (sigDec r p P) (p : Int) .g
      = (if neg then [45] else []) ++ Spec.precLayout ((sigPair r p P).1.map digitCh) (sigPair r p P).2 p := by
  obtain ⟨c, cs, z, hd, hs⟩ := sig_shape r p P hp1 hlen
  rw [hd, hs]
  rw [hs] at hlen hlast
  generalize (sigPair r p P).2 = E at *
  -- a trimmed zero would be a trailing zero among more than one digit
  have hz : z = 0 := by
    cases z with
    | zero => rfl
    | succ z =>
      exact absurd ⟨by simp at hlen; omega, List.getLast?_eq_some_iff.mpr ⟨c :: cs ++ List.replicate z 0, by
        simp [List.replicate_succ']⟩⟩ hlast
  subst hz
  rw [List.replicate_zero, List.append_nil] at hlen ⊢
  rw [← hlen]
  exact precForm neg c cs E hsmall (by rw [hlen]; exact hexp)

/-- C06.toPrecision_partial (core): for every finite non-zero double and precision 1..21, outside the
    regions (exact tie; a trailing zero among the p digits; exponent −5/−6; one-digit exponent in
    exponential notation), strconv's `'g'` formatting with the exact half-even digit rule is the
    §15.7.4.7 string. -/
theorem toPrecision_core (s : Bool) (m : Nat) (e : Int) (p : Nat) (hp1 : 1 ≤ p) (hp21 : p ≤ 21) (hm : m ≠ 0)
    (hnt : Spec.Dev.sigTie m e p = false)
    (hlen : (Spec.sigRoundUp m e p).1.length = p)
    (hlast : ¬ (p > 1 ∧ (Spec.sigRoundUp m e p).1.getLast? = some 0))
    (hsmall : (Spec.sigRoundUp m e p).2 ≠ -5 ∧ (Spec.sigRoundUp m e p).2 ≠ -6)
    (hexp : ((Spec.sigRoundUp m e p).2 < -6 ∨ (Spec.sigRoundUp m e p).2 ≥ (p : Int)) →
      10 ≤ (Spec.sigRoundUp m e p).2.natAbs ∧ (Spec.sigRoundUp m e p).2.natAbs < 1000) :
    formatFloat Spec.exactLib (.fin s m e) .g (p : Int) = Spec.precStr s m e p := by
  have hneg : ¬ ((p : Int) < 0) := by omega
  have hp0 : ¬ ((p : Int) = 0) := by omega
  simp only [formatFloat, hneg, if_false, hm, hp0, Int.toNat_natCast, Spec.precStr, ne_eq, not_false_eq_true, and_true]
  show formatDigits false s (goFixedSig m e p) p .g = _
  rw [goFixedSig_eq, scaled_rne_eq_rhu m e p hnt]
  rw [sigRoundUp_eq] at hlen hlast hsmall hexp ⊢
  exact fmtG_sig s _ p _ hp1 hlen hlast hsmall hexp

/-- the hypotheses of `toPrecision_core` hold for (123.456).toPrecision(4) = "123.5" and
    (1.2345e25).toPrecision(3) = "1.23e+25" -/
example : Spec.Dev.sigTie 0x1edd2f1a9fbe77 (-46) 4 = false := by decide +kernel
example : Spec.sigRoundUp 0x1edd2f1a9fbe77 (-46) 4 = ([1, 2, 3, 5], 2) := by decide +kernel
example : Spec.precStr false 0x1edd2f1a9fbe77 (-46) 4 = OttoVerif.Str.ofString "123.5" := by decide +kernel
example : Spec.precStr false 0x146c4f94f99599 31 3 = OttoVerif.Str.ofString "1.23e+25" := by decide +kernel

end OttoVerif.C06.Thm

