/-
  C16/Containers — bridged containers, below the ledger: the invariant of a slice history that keeps both headers
  (`KeepsHeaders`, `step_keeps`), `fieldIndexByName` as a search through the flattened bindings of a struct type
  (`find_own`, `lookupT`/`lookupF`), and the invariant of the observers (`ProbesInRange`, `step_preserves`).
-/
import OttoVerif.C16.Spec
namespace OttoVerif.C16.Thm
open OttoVerif.F64 OttoVerif.C16

/-- steps that do not change either slice header (no append at `len`, no `length` change) -/
def KeepsHeaders (len : Nat) : SOp → Prop
  | .jsWrite i _ => i ≠ len
  | .jsSetLen n => n = len
  | .goAppend _ _ => False
  | _ => True

theorem write_hdr (s : SliceSt) (a i : Nat) (x : GV) :
    (s.write a i x).go = s.go ∧ (s.write a i x).js = s.js ∧ (s.write a i x).et = s.et := by
  simp [SliceSt.write]

theorem step_keeps (S : StoreSem) (s : SliceSt) (op : SOp) (h : KeepsHeaders s.js.len op) :
    (sliceStep S s op).1.go = s.go ∧ (sliceStep S s op).1.js = s.js := by
  cases op with
  | jsRead _ | jsLen | goLen | goRead _ | jsSetLenNeg => exact ⟨rfl, rfl⟩
  | goWrite i _ | jsDelete i => simp only [sliceStep]; split <;> simp [write_hdr]
  | goAppend _ _ => exact h.elim
  | jsWrite i v =>
    -- a write below `len` goes into the backing array; the append arm (`i = len`) is excluded by `h`
    simp only [KeepsHeaders] at h
    simp only [sliceStep]
    split
    · by_cases h1 : i < s.js.len
      · simp [h1, write_hdr]
      · simp [h1, h]
    all_goals simp
  | jsSetLen n =>
    simp only [KeepsHeaders] at h
    simp [sliceStep, h]

theorem visible_eq (n : Str) : Spec.visible n = validGoStructName n := by
  cases n <;> rfl

theorem find_map_cons (i : Nat) (l : List (Str × List Nat)) (name : Str) :
    ((l.map (fun b => (b.1, i :: b.2))).find? (fun b => b.1 = name)).map (·.2) =
      ((l.find? (fun b => b.1 = name)).map (·.2)).map (i :: ·) := by
  rw [List.find?_map]
  simp [Function.comp_def, Option.map_map]

/-- the bindings a field contributes under its own names (json tag first), searched before those that follow -/
theorem find_own (tag fname name : Str) (i : Nat) (R : List (Str × List Nat)) :
    (((if tag = [45] then [] else ((if tag ≠ [] then [(tag, [i])] else []) ++ [(fname, [i])])) ++ R).find?
        (fun b => b.1 = name)).map (·.2) =
      if tag ≠ [] ∧ tag = dash then (R.find? (fun b => b.1 = name)).map (·.2)
      else if tag ≠ [] ∧ tag = name then some [i]
      else if fname = name then some [i]
      else (R.find? (fun b => b.1 = name)).map (·.2) := by
  by_cases hd : tag = [45]
  · subst hd; simp [dash]
  · by_cases ht : tag = []
    · subst ht
      by_cases hn : fname = name <;> simp [dash, hn]
    · by_cases htn : tag = name
      · simp [dash, htn, show ¬ name = [45] from htn ▸ hd, show ¬ name = [] from htn ▸ ht]
      · by_cases hn : fname = name <;> simp [dash, hd, ht, htn, hn]

mutual
theorem lookupT (t : GT) (name : Str) :
    fieldIndexT t name = ((Spec.bindingsT t).find? (fun b => b.1 = name)).map (·.2) := by
  cases t with
  | struct fs => simp only [fieldIndexT, Spec.bindingsT]; exact lookupF fs 0 name
  | _ => simp [fieldIndexT, Spec.bindingsT]
theorem lookupF (fs : Fields) (i : Nat) (name : Str) :
    fieldIndexF fs i name = ((Spec.bindingsF fs i).find? (fun b => b.1 = name)).map (·.2) := by
  cases fs with
  | nil => simp [fieldIndexF, Spec.bindingsF]
  | cons fname tag anon ty rest =>
    simp only [fieldIndexF, Spec.bindingsF, visible_eq]
    by_cases hv : validGoStructName fname = true
    · -- embedded bindings first, then the field's own names, then the fields that follow
      simp only [hv, Bool.not_true, Bool.false_eq_true, if_false]
      rw [List.append_assoc, List.find?_append, Option.map_or, find_own, ← lookupF rest (i+1) name]
      cases anon with
      | false => rfl
      | true =>
        simp only [if_true]
        rw [find_map_cons, ← lookupT ty name]
        cases fieldIndexT ty name <;> rfl
    · simp only [hv, Bool.not_false, if_true]
      exact lookupF rest (i+1) name
end

theorem setEnt_lookup_isSome (p k : Str) (v : Int) (es : List (Str × Int)) :
    (lookupEnt p (setEnt k v es)).isSome = (lookupEnt p es).isSome := by
  induction es with
  | nil => rfl
  | cons e r ih =>
    obtain ⟨k', v'⟩ := e
    simp only [setEnt]
    by_cases h : k' = k
    · subst h
      simp only [if_true, lookupEnt]
      by_cases hp : k' = p <;> simp [hp]
    · simp only [h, if_false, lookupEnt]
      by_cases hp : k' = p
      · simp [hp]
      · simp [hp, ih]

/-- `Driver.devView s probes = []` as a `Prop`: every probed array index exists -/
def ProbesInRange (s : VSt) (probes : List Str) : Prop :=
  s.kind.isSeq = true → ∀ p ∈ probes, isIndexKey p = true → (lookupEnt p s.ents).isSome = true

theorem getOwn_exact (s : VSt) (k : Str)
    (h : s.kind.isSeq = true → isIndexKey k = true → (lookupEnt k s.ents).isSome = true) :
    s.getOwn true k = s.getOwn false k := by
  unfold VSt.getOwn
  by_cases hs : s.kind.isSeq = true
  · simp only [hs, if_true]
    by_cases hl : k = sLength
    · simp [hl]
    · simp only [hl, if_false]
      cases hk : lookupEnt k s.ents with
      | some v => rfl
      | none =>
        by_cases hi : isIndexKey k = true
        · have := h hs hi; rw [hk] at this; simp at this
        · simp [hi]
  · simp [hs]

theorem observe_exact (s : VSt) (probes : List Str) (h : ProbesInRange s probes) :
    observe true s probes = observe false s probes := by
  have : ∀ p ∈ probes, s.getOwn true p = s.getOwn false p := by
    intro p hp
    exact getOwn_exact s p (fun hs hi => h hs p hp hi)
  simp only [observe]
  congr 1
  · exact List.map_congr_left (fun p hp => by rw [this p hp])
  · exact List.map_congr_left this

theorem viewStep_kind (s : VSt) (op : VOp) : (viewStep s op).kind = s.kind := by
  cases op <;> simp only [viewStep] <;> (repeat' split) <;> rfl

theorem viewStep_lookup (s : VSt) (op : VOp) (p : Str) (hs : s.kind.isSeq = true) :
    (lookupEnt p (viewStep s op).ents).isSome = (lookupEnt p s.ents).isSome := by
  cases hk : s.kind with
  | map => simp [hk, VKind.isSeq] at hs
  | struct => simp [hk, VKind.isSeq] at hs
  | slice => cases op <;> simp only [viewStep, hk] <;> (repeat' split) <;> simp [setEnt_lookup_isSome]
  | arrPtr => cases op <;> simp only [viewStep, hk] <;> (repeat' split) <;> simp [setEnt_lookup_isSome]
  | arrVal => cases op <;> simp only [viewStep, hk]

theorem step_preserves (s : VSt) (op : VOp) (probes : List Str) (h : ProbesInRange s probes) :
    ProbesInRange (viewStep s op) probes := by
  intro hs p hp hi
  rw [viewStep_kind] at hs
  rw [viewStep_lookup s op p hs]
  exact h hs p hp hi

end OttoVerif.C16.Thm
