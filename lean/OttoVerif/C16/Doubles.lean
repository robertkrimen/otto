/-
  C16/Doubles — doubles against integers: Go's int64→float64 conversion is exact on integers that are
  values of doubles, and comparing doubles of which one has a non-negative exponent is comparing integers.
  `cmpReal_nonneg` and `cmpReal_frac` are `F64.cmpReal_fin_at` (Base/F64Lemmas) at k = 0 and at the negative exponent.
-/
import OttoVerif.C16.Spec
import OttoVerif.Base.F64Lemmas
namespace OttoVerif.C16.Lem
open OttoVerif.F64 OttoVerif.C16

theorem divRNE_exact (q b : Nat) (hb : 0 < b) : divRNE (q * b) b = q := by
  unfold divRNE
  have h1 : q * b / b = q := Nat.mul_div_cancel q hb
  have h2 : q * b % b = 0 := Nat.mul_mod_left q b
  simp [h1, h2, hb]

/-- rounding an integer that already has exactly 53 significant bits is exact -/
theorem roundPos_exact (q k : Nat) (hq1 : 2^52 ≤ q) (hq2 : q < 2^53) (hk : k ≤ 971) :
    roundPos (q * 2^k) 1 = some (q, (k : Int)) := by
  have hpos : q * 2^k ≠ 0 := Nat.ne_of_gt (Nat.mul_pos (by omega) (Nat.two_pow_pos k))
  have hl : Nat.log2 (q * 2^k) = k + 52 := by
    rw [Nat.log2_eq_iff hpos]
    constructor
    · calc 2^(k+52) = 2^52 * 2^k := by rw [Nat.pow_add, Nat.mul_comm]
        _ ≤ q * 2^k := Nat.mul_le_mul_right _ hq1
    · calc q * 2^k < 2^53 * 2^k := Nat.mul_lt_mul_of_pos_right hq2 (Nat.two_pow_pos k)
        _ = 2^(k+52+1) := by rw [← Nat.pow_add]; congr 1; omega
  rw [roundPos_int _ k hpos hl, divRNE_exact q (2^k) (Nat.two_pow_pos k), if_neg (by omega), if_neg (by omega)]

/-- every integer m·2^e ≥ 2^53 with m < 2^53 is q·2^k with 2^52 ≤ q < 2^53: double m until it has 53 bits -/
theorem normalise : ∀ (e m : Nat), m < 2^53 → 2^53 ≤ m * 2^e → ∃ q k, 2^52 ≤ q ∧ q < 2^53 ∧ q * 2^k = m * 2^e
  | 0, m, hm, hb => by omega
  | e + 1, m, hm, hb => by
    by_cases h : 2^52 ≤ m
    · exact ⟨m, e + 1, h, hm, rfl⟩
    · have he : m * 2^(e + 1) = (2 * m) * 2^e := by rw [Nat.pow_succ]; ac_rfl
      obtain ⟨q, k, h1, h2, h3⟩ := normalise e (2 * m) (by omega) (he ▸ hb)
      exact ⟨q, k, h1, h2, h3.trans he.symm⟩

theorem cmpReal_nonneg (s1 : Bool) (m1 e1 : Nat) (s2 : Bool) (m2 e2 : Nat) :
    cmpReal (.fin s1 m1 (e1 : Int)) (.fin s2 m2 (e2 : Int)) =
      some (if truncInt (.fin s1 m1 (e1 : Int)) < truncInt (.fin s2 m2 (e2 : Int)) then .lt
        else if truncInt (.fin s1 m1 (e1 : Int)) = truncInt (.fin s2 m2 (e2 : Int)) then .eq else .gt) :=
  cmpReal_int _ _ _ _ _ _ (Int.natCast_nonneg _) (Int.natCast_nonneg _)

/-- an integer-valued double against one with negative exponent: compared after scaling by the denominator -/
theorem cmpReal_frac (t : Bool) (n k : Nat) (s : Bool) (m d : Nat) :
    cmpReal (.fin t n (k : Int)) (.fin s m (-((d : Int) + 1))) =
      some (if truncInt (.fin t n (k : Int)) * ((2^(d+1) : Nat) : Int) < truncInt (.fin s m 0) then .lt
        else if truncInt (.fin t n (k : Int)) * ((2^(d+1) : Nat) : Int) = truncInt (.fin s m 0) then .eq else .gt) := by
  have hd : ((0 : Int) - -((d : Int) + 1)).toNat = d + 1 := by omega
  have h2 : alignInt s m (-((d : Int) + 1)) (-((d : Int) + 1)) = truncInt (.fin s m 0) := by
    simp [alignInt, truncInt, truncAbs]
  rw [cmpReal_fin_at t s n m k _ (-((d : Int) + 1)) (by omega) (Int.le_refl _),
    alignInt_shift t n k _ 0 (by omega) (Int.natCast_nonneg _), alignInt_int _ _ _ (Int.natCast_nonneg _), hd, h2]

theorem ofInt_small (i : Int) (h : i.natAbs < 2^53) :
    ofInt i = .fin (decide (i < 0)) i.natAbs ((0 : Nat) : Int) ∧
    truncInt (.fin (decide (i < 0)) i.natAbs ((0 : Nat) : Int)) = i :=
  ⟨ofInt_of_small i h, truncInt_natAbs i⟩

/-- Go's `float64(i)` is exact on an integer that is the value of a double (|i| = m·2^e, m < 2^53): the result
    has a non-negative exponent and denotes `i` -/
theorem ofInt_repr (i : Int) (m e : Nat) (hm : m < 2^53) (hi : i.natAbs = m * 2^e) (hr : i.natAbs ≤ 2^63) :
    ∃ (s : Bool) (q k : Nat), ofInt i = .fin s q (k : Int) ∧ truncInt (.fin s q (k : Int)) = i := by
  by_cases hsmall : i.natAbs < 2^53
  · exact ⟨_, i.natAbs, 0, ofInt_small i hsmall⟩
  · obtain ⟨q, k, hq1, hq2, hqk⟩ := normalise e m hm (by omega)
    have hk : k ≤ 971 := by
      apply Nat.le_of_not_lt
      intro hk
      have : 2^52 * 2^12 ≤ q * 2^k := Nat.mul_le_mul hq1 (Nat.pow_le_pow_right (by omega) (by omega))
      omega
    have hn0 : q * 2^k ≠ 0 := by omega
    have hn : i.natAbs = q * 2^k := by omega
    have hround : ∀ neg, ofRatParts neg (q * 2^k) 1 = .fin neg q (k : Int) := fun neg => by
      simp only [ofRatParts, hn0, if_false, roundPos_exact q k hq1 hq2 hk]
    refine ⟨_, q, k, ?_, truncInt_sign i q k hn.symm⟩
    rw [hn] at hsmall
    simp only [ofInt, hn, hsmall, if_false, hround]
    by_cases hneg : i < 0 <;> simp [hneg]

theorem truncInt_le (s : Bool) (m : Nat) (e : Int) (he : e ≤ 0) :
    -(m : Int) ≤ truncInt (.fin s m e) ∧ truncInt (.fin s m e) ≤ m := by
  have h : truncAbs m e ≤ m := by
    unfold truncAbs
    split
    · rw [show e = 0 by omega]; simp
    · exact Nat.div_le_self _ _
  cases s <;> simp only [truncInt, Bool.false_eq_true, if_false, if_true] <;> omega

theorem neg_of_not_integral (m : Nat) (e : Int) (h : isIntegral m e = false) : e < 0 := by
  unfold isIntegral at h
  split at h
  · cases h
  · omega

/-- Go's `float64(int64(f)) == f` test on a double with significand below 2^53: it holds exactly when `f` is an
    integer in int64 range.  `int64(f)` is then that integer; otherwise it is the truncation or -2^63, both of
    which `float64` represents exactly, so the comparison is one of integers. -/
theorem goInt64_roundtrip (s : Bool) (m : Nat) (e : Int) (hm : m < 2^53) :
    eqNum (ofInt (goInt64 (.fin s m e))) (.fin s m e) =
      (isIntegral m e && decide (-(2^63 : Int) ≤ truncInt (.fin s m e) ∧ truncInt (.fin s m e) < 2^63)) := by
  have hA : (truncInt (.fin s m e)).natAbs = truncAbs m e := by cases s <;> simp [truncInt]
  by_cases he : 0 ≤ e
  · obtain ⟨en, rfl⟩ := Int.eq_ofNat_of_zero_le he
    have hint : isIntegral m (en : Int) = true := by simp [isIntegral]
    have hta : truncAbs m (en : Int) = m * 2^en := by simp [truncAbs]
    obtain ⟨m', e', hm', hg, hg63⟩ : ∃ m' e' : Nat, m' < 2^53 ∧ (goInt64 (.fin s m (en : Int))).natAbs = m' * 2^e' ∧
        (goInt64 (.fin s m (en : Int))).natAbs ≤ 2^63 := by
      simp only [goInt64]
      split
      · exact ⟨m, en, hm, hA.trans hta, by omega⟩
      · exact ⟨1, 63, by decide, by decide, by decide⟩
    obtain ⟨t, q, k, hq, hqv⟩ := ofInt_repr _ m' e' hm' hg hg63
    rw [hq, (cmp_int (cmpReal_nonneg t q k s m en)).2.2, hqv, hint, Bool.true_and]
    simp only [goInt64]
    split
    · next h => rw [decide_eq_true h, decide_eq_true rfl]
    · next h => rw [decide_eq_false h, decide_eq_false (by omega)]
  · obtain ⟨d, rfl⟩ : ∃ d : Nat, e = -((d : Int) + 1) := ⟨(-e - 1).toNat, by omega⟩
    have hneg : (-(-((d : Int) + 1))).toNat = d + 1 := by omega
    have hta : truncAbs m (-((d : Int) + 1)) = m / 2^(d+1) := by simp only [truncAbs, if_neg he, hneg]
    have hint : isIntegral m (-((d : Int) + 1)) = decide (m % 2^(d+1) = 0) := by simp only [isIntegral, if_neg he, hneg]
    have hle : m / 2^(d+1) ≤ m := Nat.div_le_self _ _
    have hr : -(2^63 : Int) ≤ truncInt (.fin s m (-((d : Int) + 1))) ∧ truncInt (.fin s m (-((d : Int) + 1))) < 2^63 := by
      omega
    have hg : goInt64 (.fin s m (-((d : Int) + 1))) = truncInt (.fin s m (-((d : Int) + 1))) := by
      simp only [goInt64, hr, and_self, if_true]
    obtain ⟨hq, hqv⟩ := ofInt_small (truncInt (.fin s m (-((d : Int) + 1)))) (by omega)
    rw [hg, hq, (cmp_int (cmpReal_frac _ _ 0 s m d)).2.2, hqv, hint, decide_eq_true hr, Bool.and_true]
    -- ±(m / D)·D = ±m exactly when D divides m
    have hdm : ((m / 2^(d+1) : Nat) : Int) * ((2^(d+1) : Nat) : Int) + ((m % 2^(d+1) : Nat) : Int) = (m : Int) := by
      rw [Int.mul_comm]; exact_mod_cast Nat.div_add_mod m (2^(d+1))
    have hT : truncInt (.fin s m (-((d : Int) + 1))) = if s then -((m / 2^(d+1) : Nat) : Int) else ((m / 2^(d+1) : Nat) : Int) := by
      simp only [truncInt, hta]
    have h0 : truncInt (.fin s m 0) = if s then -(m : Int) else (m : Int) := by simp [truncInt, truncAbs]
    rw [hT, h0]
    generalize ((2^(d+1) : Nat) : Int) = D at *
    cases s <;> simp only [Bool.false_eq_true, if_false, if_true, Int.neg_mul, Int.neg_inj, decide_eq_decide] <;> omega

/-- a double with non-negative exponent against the constants of the conversion code -/
theorem cmp_consts (s : Bool) (m en : Nat) :
    lt (.fin s m (en : Int)) negTwo63 = decide (truncInt (.fin s m (en : Int)) < -(2^63 : Int)) ∧
    lt (.fin s m (en : Int)) zero = decide (truncInt (.fin s m (en : Int)) < 0) ∧
    le two63 (.fin s m (en : Int)) = decide ((2^63 : Int) ≤ truncInt (.fin s m (en : Int))) ∧
    lt (.fin s m (en : Int)) two64 = decide (truncInt (.fin s m (en : Int)) < (2^64 : Int)) ∧
    le two64 (.fin s m (en : Int)) = decide ((2^64 : Int) ≤ truncInt (.fin s m (en : Int))) :=
  ⟨(cmp_int (cmpReal_nonneg s m en true 1 63)).1, (cmp_int (cmpReal_nonneg s m en false 0 0)).1, (cmp_int (cmpReal_nonneg false 1 63 s m en)).2.1,
   (cmp_int (cmpReal_nonneg s m en false 1 64)).1, (cmp_int (cmpReal_nonneg false 1 64 s m en)).2.1⟩

/-- the `2^63 ≤ f && f < 2^64` test of the uint64 route, on a double with significand below 2^53 -/
theorem uint64_window (s : Bool) (m : Nat) (e : Int) (hm : m < 2^53) :
    (le two63 (.fin s m e) && lt (.fin s m e) two64) =
      decide ((2^63 : Int) ≤ truncInt (.fin s m e) ∧ truncInt (.fin s m e) < 2^64) := by
  by_cases he : 0 ≤ e
  · obtain ⟨en, rfl⟩ := Int.eq_ofNat_of_zero_le he
    obtain ⟨_, _, h1, h2, _⟩ := cmp_consts s m en
    rw [h1, h2, Bool.decide_and]
  · obtain ⟨d, rfl⟩ : ∃ d : Nat, e = -((d : Int) + 1) := ⟨(-e - 1).toNat, by omega⟩
    have h1 := (cmp_int (cmpReal_frac false 1 63 s m d)).2.1
    rw [show truncInt (.fin false 1 ((63 : Nat) : Int)) = 2^63 by decide] at h1
    have hA := truncInt_le s m (-((d : Int) + 1)) (by omega)
    have h0 := truncInt_le s m 0 (Int.le_refl 0)
    have hD : (2^63 : Int) ≤ 2^63 * ((2^(d+1) : Nat) : Int) := by
      have := Nat.le_mul_of_pos_right (2^63) (Nat.two_pow_pos (d+1))
      exact_mod_cast this
    have : le two63 (.fin s m (-((d : Int) + 1))) = false := by
      rw [show two63 = .fin false 1 ((63 : Nat) : Int) from rfl, h1, decide_eq_false]; omega
    rw [this, Bool.false_and, eq_comm, decide_eq_false]; omega

theorem goUint64_eq (s : Bool) (m : Nat) (e : Int) (h1 : (2^63 : Int) ≤ truncInt (.fin s m e))
    (h2 : truncInt (.fin s m e) < 2^64) : goUint64 (.fin s m e) = truncInt (.fin s m e) := by
  cases s
  · have h : truncInt (.fin false m e) = (truncAbs m e : Int) := rfl
    rw [h] at h2 ⊢
    unfold goUint64
    exact if_pos h2
  · have h : truncInt (.fin true m e) = -(truncAbs m e : Int) := rfl
    omega

end OttoVerif.C16.Lem
