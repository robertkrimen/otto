/-
  C16/Convert — the conversion code against the property text, below the ledger: `convertNumeric`'s integer arm is a
  range test (`convertFromInt_int`) and its float→integer arm accepts exactly the integral doubles (`float_to_int`, on
  C16/Doubles); what `toReflectValue`'s 64-bit arms do with a double that is an integer (`store_signed64`,
  `store_unsigned64`); the region lists of the driver (`addDevs_nil`).  `WF`/`WFf` are the hypotheses on payloads,
  `Denotes` what a delivered value has to satisfy.
-/
import OttoVerif.C16.Doubles
import OttoVerif.C16.Driver
namespace OttoVerif.C16.Thm
open OttoVerif.F64 OttoVerif.C16 OttoVerif.C16.Driver OttoVerif.C16.Lem

/-- doubles as decoded from 64 bits: significand below 2^53 -/
def WFf : FV → Prop
  | .fin _ m _ => m < 2^53
  | _ => True

/-- Go's static types bound the payload of a number Value -/
def WF : Num → Prop
  | .int k i => k.lo ≤ i ∧ i ≤ k.hi
  | .f32 x => WFf x
  | .f64 x => WFf x

/-- what "the same number" means for a delivered Go value -/
def Denotes (v r : Num) : Prop :=
  match r with
  | .int _ i => Spec.exactInt? v = some i
  | .f32 y => Spec.sameNumber v y = true
  | .f64 y => Spec.sameNumber v y = true

theorem ik_range (k : IK) : -(2^63 : Int) ≤ k.lo ∧ k.hi ≤ (2^64 : Int) - 1 ∧
    (k.signed = true → k.hi ≤ (2^63 : Int) - 1) ∧ (k.signed = false → k.lo = 0) := by
  cases k <;> decide

theorem convertFromInt_int (srcSigned : Bool) (i : Int) (k : IK) :
    convertFromInt srcSigned i (.i k) = if k.lo ≤ i ∧ i ≤ k.hi then .ok (.int k i) else .rangeErr := by
  obtain ⟨_, _, hs, hu⟩ := ik_range k
  by_cases h : k.lo ≤ i ∧ i ≤ k.hi
  · -- in range: no test fires
    have hov : overflows k i = false := by
      simp only [overflows, Bool.or_eq_false_iff, decide_eq_false_iff_not]; omega
    rw [if_pos h]
    cases srcSigned <;> cases hk : k.signed <;>
      simp only [convertFromInt, hk, hov, Bool.false_eq_true, if_false, if_true, or_false]
    · exact if_neg (by have := hs hk; omega)
    · exact if_neg (by have := hu hk; omega)
  · -- out of range: reflect's overflow test fires on every arm
    have hov : overflows k i = true := by
      simp only [overflows, Bool.or_eq_true, decide_eq_true_eq]; omega
    rw [if_neg h]
    cases srcSigned <;> cases hk : k.signed <;>
      simp only [convertFromInt, hk, hov, Bool.false_eq_true, if_true, or_true, ite_self]

/-- C16.numeric_exact, integer-kinded sources: for every Go integer payload and EVERY numeric target type
    the call path converts exactly or throws RangeError, outside the region `call_int_to_float_rounds`. -/
theorem numeric_exact_int_source (k : IK) (i : Int) (t : NT) (hwf : WF (.int k i))
    (hdev : devNum (.int k i) t = []) :
    convertNumeric (.int k i) t = Spec.convertNumeric (.int k i) t := by
  simp only [WF] at hwf
  cases t with
  | i k' =>
    by_cases hk : k = k'
    · subst hk
      exact (if_pos rfl : convertNumeric (.int k i) (.i k) = .ok (.int k i)).trans (by simp [Spec.convertNumeric, Spec.exactInt?, hwf])
    · have hne : (Num.int k i).ty ≠ NT.i k' := by simp [Num.ty, hk]
      simp only [convertNumeric, hne, if_false, Spec.convertNumeric, Spec.exactInt?]
      exact convertFromInt_int k.signed i k'
  | f64 | f32 =>
    -- the region is where the guard of the property text fails; the code converts unguarded
    simp only [devNum, Num.ty, reduceCtorEq, if_false] at hdev
    simp only [convertNumeric, Num.ty, convertFromInt, Spec.convertNumeric, reduceCtorEq, if_false]
    split
    · rfl
    · next hs => exact nomatch (if_neg hs).symm.trans hdev

/-- C16.numeric_exact, float64 into a float32 parameter: exact or RangeError outside `call_f64_to_f32_rounds`
    (for all doubles, no canonicity needed).  The other float-to-float conversions are widenings or identities. -/
theorem f64_to_f32_exact (x : FV) (hdev : devNum (.f64 x) .f32 = []) :
    convertNumeric (.f64 x) .f32 = Spec.convertNumeric (.f64 x) .f32 := by
  simp only [devNum, Num.ty] at hdev
  simp only [convertNumeric, Num.ty, Spec.convertNumeric, overflowFloat32]
  by_cases ho : (lt maxF32 (abs x) && !isInf x) = true
  · simp [ho]
  · simp only [overflowFloat32, ho] at hdev
    by_cases hs : Spec.sameNumber (.f64 x) (toF32 x) = true
    · simp [ho, hs]
    · simp [hs] at hdev

/-- the float→integer arm of convertNumeric: integers in [2^63, 2^64) go through uint64, all other doubles
    through the int64 round trip; together they accept exactly the integral doubles and yield that integer -/
theorem float_to_int (x : FV) (k : IK) (hwf : WFf x) :
    (if (le two63 x && lt x two64) = true then convertFromInt false (goUint64 x) (.i k)
     else if eqNum (ofInt (goInt64 x)) x then convertFromInt true (goInt64 x) (.i k) else (.rangeErr : Res Num)) =
    Spec.convertNumeric (.f64 x) (.i k) := by
  -- NaN and ±Inf: `int64(f)` is -2^63, `float64` of it is finite, so the round trip fails
  obtain ⟨t, q, k', h63, _⟩ := ofInt_repr (-(2^63)) 1 63 (by decide) (by decide) (by decide)
  cases x with
  | nan => rw [show goInt64 .nan = -(2^63) from rfl, h63]; rfl
  | inf s => rw [show goInt64 (.inf s) = -(2^63) from rfl, h63]; cases s <;> rfl
  | fin s m e =>
    have hm : m < 2^53 := hwf
    obtain ⟨hlo, hhi, _⟩ := ik_range k
    rw [uint64_window s m e hm, goInt64_roundtrip s m e hm]
    simp only [Spec.convertNumeric, Spec.exactInt?]
    by_cases hI : isIntegral m e = true
    · simp only [hI, if_true, Bool.true_and]
      by_cases hw : (2^63 : Int) ≤ truncInt (.fin s m e) ∧ truncInt (.fin s m e) < 2^64
      · rw [if_pos (decide_eq_true hw), goUint64_eq s m e hw.1 hw.2]
        exact convertFromInt_int false _ k
      · rw [if_neg (by rw [decide_eq_false hw]; exact Bool.false_ne_true)]
        by_cases hr : -(2^63 : Int) ≤ truncInt (.fin s m e) ∧ truncInt (.fin s m e) < 2^63
        · have hg : goInt64 (.fin s m e) = truncInt (.fin s m e) := if_pos hr
          rw [if_pos (decide_eq_true hr), hg]
          exact convertFromInt_int true _ k
        · rw [if_neg (by rw [decide_eq_false hr]; exact Bool.false_ne_true), if_neg (by omega)]
    · have hI' : isIntegral m e = false := by simpa using hI
      have := truncInt_le s m e (Int.le_of_lt (neg_of_not_integral m e hI'))
      rw [if_neg (by rw [decide_eq_false (by omega)]; exact Bool.false_ne_true)]
      simp only [hI', Bool.false_and, Bool.false_eq_true, if_false]

theorem sameNumber_self (x : FV) : Spec.sameNumber (.f64 x) x = true := by
  cases h : isNaN x
  · simp [Spec.sameNumber, eqNum_self x h]
  · simp [Spec.sameNumber, h]

theorem addDev_ne_nil (ds : List String) (d : String) : addDev ds d ≠ [] := by
  unfold addDev
  split
  · rename_i h; intro hn; subst hn; simp at h
  · simp

theorem foldl_addDev_ne_nil (es : List String) : ∀ ds, ds ≠ [] → es.foldl addDev ds ≠ [] := by
  induction es with
  | nil => intro ds h; simpa using h
  | cons d r ih => intro ds _; simp only [List.foldl]; exact ih _ (addDev_ne_nil ds d)

theorem addDevs_nil (a b : List String) (h : addDevs a b = []) : a = [] ∧ b = [] := by
  unfold addDevs at h
  cases b with
  | nil => simp at h; exact ⟨h, rfl⟩
  | cons d r =>
    simp only [List.foldl] at h
    exact absurd h (foldl_addDev_ne_nil r _ (addDev_ne_nil a d))

theorem spec_conv_base (v : JV) (t : GT) (hd : t.depth = 0) :
    Spec.convertCallParameter v t = convB Spec.leaf v t.base := by
  unfold Spec.convertCallParameter conv ptrWrap
  -- no pointer layer to wrap
  have hwrap : ∀ r : Res GV, r.map (wrapPtr 0) = r := fun r => by cases r <;> simp [Res.map, Res.bind, wrapPtr]
  simp [hd, hwrap]

theorem toIntegerFloat_int (s : Bool) (q en : Nat) : toIntegerFloat (.fin s q (en : Int)) = .fin s q (en : Int) := by
  unfold toIntegerFloat
  simp only [isInf, isNaN, Bool.false_eq_true, if_false]
  split <;> simp [floor, ceil, isIntegral]

theorem spec_small_int (pk k : IK) (i : Int) :
    Spec.convertCallParameter (.num (.int pk i)) (.num (.i k)) =
      if k.lo ≤ i ∧ i ≤ k.hi then .ok (.num (.int k i)) else .rangeErr := by
  rw [spec_conv_base _ _ rfl]
  simp only [GT.base, convB, Spec.leaf, Spec.convertNumeric, Spec.exactInt?]
  split <;> simp [Res.map, Res.bind]

/-- an `[]int64` / `[]int` element from a double that is an integer: toIntegerFloat's range test, then `int64()` -/
theorem store_signed64 (s : Bool) (q en : Nat) (k : IK) (hlo : k.lo = -(2^63)) (hhi : k.hi = 2^63 - 1) :
    (if (lt (.fin s q (en : Int)) negTwo63 || le two63 (.fin s q (en : Int))) = true then Res.rangeErr
      else .ok (GV.num (.int k (goInt64 (.fin s q (en : Int)))))) =
    if k.lo ≤ truncInt (.fin s q (en : Int)) ∧ truncInt (.fin s q (en : Int)) ≤ k.hi
      then .ok (.num (.int k (truncInt (.fin s q (en : Int))))) else .rangeErr := by
  obtain ⟨c1, _, c3, _, _⟩ := cmp_consts s q en
  rw [c1, c3, hlo, hhi]
  by_cases h : -(2^63 : Int) ≤ truncInt (.fin s q (en : Int)) ∧ truncInt (.fin s q (en : Int)) < 2^63
  · rw [if_neg (by simp; omega), if_pos (by omega), show goInt64 (.fin s q (en : Int)) = _ from if_pos h]
  · rw [if_pos (by simp; omega), if_neg (by omega)]

/-- an `[]uint64` / `[]uint` element from a double that is an integer -/
theorem store_unsigned64 (s : Bool) (q en : Nat) (k : IK) (hlo : k.lo = 0) (hhi : k.hi = 2^64 - 1) :
    (if (lt (.fin s q (en : Int)) zero || le two64 (.fin s q (en : Int))) = true then Res.rangeErr
      else .ok (GV.num (.int k (goUint64 (.fin s q (en : Int)))))) =
    if k.lo ≤ truncInt (.fin s q (en : Int)) ∧ truncInt (.fin s q (en : Int)) ≤ k.hi
      then .ok (.num (.int k (truncInt (.fin s q (en : Int))))) else .rangeErr := by
  obtain ⟨_, c2, _, _, c4⟩ := cmp_consts s q en
  rw [c2, c4, hlo, hhi]
  by_cases h : (0 : Int) ≤ truncInt (.fin s q (en : Int)) ∧ truncInt (.fin s q (en : Int)) < 2^64
  · have hg : goUint64 (.fin s q (en : Int)) = truncInt (.fin s q (en : Int)) := by
      obtain ⟨h1, h2⟩ := h
      cases s <;> simp only [truncInt, Bool.false_eq_true, if_false, if_true] at h1 h2 ⊢ <;> unfold goUint64
      · exact if_pos h2
      · -- a negative integer that is not below zero is -0
        simp only [show truncAbs q (en : Int) = 0 by omega]; rfl
    rw [if_neg (by simp; omega), if_pos (by omega), hg]
  · rw [if_pos (by simp; omega), if_neg (by omega)]

theorem range_if (k : IK) (i : Int) (r : Res GV) :
    (if i < k.lo ∨ i > k.hi then Res.rangeErr else r) = if k.lo ≤ i ∧ i ≤ k.hi then r else Res.rangeErr := by
  by_cases h : k.lo ≤ i ∧ i ≤ k.hi
  · rw [if_pos h, if_neg (by omega)]
  · rw [if_neg h, if_pos (by omega)]

end OttoVerif.C16.Thm
