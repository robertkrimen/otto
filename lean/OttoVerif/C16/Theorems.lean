/-
  C16/Theorems — the ledger for property C16.  Every `theorem` in this file is audited
  (`#print axioms` ⊆ {propext, Classical.choice, Quot.sound}) on every run.

  Deviation regions are the SAME decidable predicates the driver prints (`Driver.devNum`, …): a theorem
  `… → Driver.devNum v t = [] → model = spec` says the code meets the property text outside the listed
  regions.  The regions of the numeric, store and observer paths have kernel-checked witnesses below; the other
  six are rows of the scenario table (`zooModel` against `Spec.zooSpec`), outside every theorem.
  The predicates `WF`/`WFf` and `Denotes` are defined in C16/Convert, `KeepsHeaders` and `ProbesInRange` in C16/Containers.
-/
import OttoVerif.C16.Convert
import OttoVerif.C16.Containers
import OttoVerif.C16.Driver
namespace OttoVerif.C16.Thm
open OttoVerif.F64 OttoVerif.C16 OttoVerif.C16.Driver OttoVerif.C16.Lem

theorem convertNumeric_same_type (v : Num) : convertNumeric v v.ty = .ok v := by
  simp [convertNumeric]

theorem lo_le_hi (k : IK) : k.lo ≤ k.hi := by cases k <;> decide

theorem eqNum_refl_nonNaN (x : FV) (h : isNaN x = false) : eqNum x x = true := eqNum_self x h

theorem exactInt_f32_f64 (x : FV) : Spec.exactInt? (.f32 x) = Spec.exactInt? (.f64 x) := rfl

/-- **C16.numeric_exact.**  For every number Value (every Go payload kind, every double) and every numeric Go
    parameter type, outside the two listed regions (silent rounding into float32 / float64 parameters) the call
    path (`convertNumeric`) delivers exactly the value the property text demands or throws RangeError: no
    truncation, wrap or rounding for any integer width, and every representable integer is accepted. -/
theorem numeric_exact (v : Num) (t : NT) (hwf : WF v) (hdev : devNum v t = []) :
    convertNumeric v t = Spec.convertNumeric v t := by
  cases v with
  | int k i => exact numeric_exact_int_source k i t hwf hdev
  | f64 x =>
    cases t with
    | i k => simpa [convertNumeric, Num.ty] using float_to_int x k hwf
    | f64 => exact convertNumeric_same_type (.f64 x)
    | f32 => exact f64_to_f32_exact x hdev
  | f32 x =>
    cases t with
    | i k =>
      -- a float32 payload is carried as the double it widens to
      rw [show Spec.convertNumeric (.f32 x) (.i k) = Spec.convertNumeric (.f64 x) (.i k) by
        simp only [Spec.convertNumeric, exactInt_f32_f64]]
      simpa [convertNumeric, Num.ty] using float_to_int x k hwf
    | f64 => simp [convertNumeric, Num.ty, Spec.convertNumeric]
    | f32 => exact convertNumeric_same_type (.f32 x)

/-- the spec really is "exact or error": whenever it delivers a value, that value has the target type and
    denotes the same number -/
theorem spec_delivers_exact (v : Num) (t : NT) (r : Num) (h : Spec.convertNumeric v t = .ok r) :
    r.ty = t ∧ Denotes v r := by
  -- a guarded answer is delivered only when its guard holds, and the guards are the clauses of `Denotes`
  have guarded : ∀ {c : Prop} [Decidable c] {a : Num}, (if c then Res.ok a else .rangeErr) = .ok r → c ∧ a = r := by
    intro c _ a h
    split at h
    · exact ⟨‹c›, Res.ok.inj h⟩
    · cases h
  cases t with
  | i k =>
    simp only [Spec.convertNumeric] at h
    cases hi : Spec.exactInt? v with
    | none => rw [hi] at h; cases h
    | some i => rw [hi] at h; obtain ⟨_, rfl⟩ := guarded h; exact ⟨rfl, hi⟩
  | f64 =>
    cases v with
    | int k i => obtain ⟨hs, rfl⟩ := guarded h; exact ⟨rfl, hs⟩
    | f64 x | f32 x => cases h; exact ⟨rfl, sameNumber_self x⟩
  | f32 =>
    cases v with
    | int k i => obtain ⟨hs, rfl⟩ := guarded h; exact ⟨rfl, hs⟩
    | f64 x =>
      simp only [Spec.convertNumeric] at h
      split at h
      · cases h
      · obtain ⟨hs, rfl⟩ := guarded h; exact ⟨rfl, hs⟩
    | f32 x => cases h; exact ⟨rfl, sameNumber_self x⟩

/-- **C16.numeric_exact, consequence.**  Outside the listed regions a value that reaches the Go callee has the
    parameter's type and denotes exactly the JavaScript number that was passed. -/
theorem numeric_no_silent_change (v : Num) (t : NT) (r : Num) (hwf : WF v) (hdev : devNum v t = [])
    (h : convertNumeric v t = .ok r) : r.ty = t ∧ Denotes v r := by
  rw [numeric_exact v t hwf hdev] at h
  exact spec_delivers_exact v t r h

-- non-vacuity of numeric_exact: ordinary calls meet its hypotheses
example : WF (.f64 (.fin false 5 0)) ∧ devNum (.f64 (.fin false 5 0)) (.i .i8) = [] ∧
    convertNumeric (.f64 (.fin false 5 0)) (.i .i8) = .ok (.int .i8 5) := by
  refine ⟨by simp [WF, WFf], by decide, by decide⟩

/-- **C16.arity** (fixed signatures; the `reflect.Func` case of `toValue`, runtime.go): a wrong argument count is a
    RangeError, whatever the arguments are; with the right count the callee receives the element-wise conversions. -/
theorem arity_fixed (L : Leaf) (ins : List GT) (args : List JV) :
    callWrapper L ⟨ins, false⟩ args =
      if args.length ≠ ins.length then .rangeErr else convArgs L args ins := by
  simp [callWrapper]

/-- **C16.arity** (variadic signatures): fewer than the fixed parameters is a RangeError. -/
theorem arity_variadic (L : Leaf) (ins : List GT) (args : List JV) (h : args.length < ins.length - 1) :
    callWrapper L ⟨ins, true⟩ args = .rangeErr := by
  simp [callWrapper, h]

/-- **C16.variadic_shape**: with k ≠ 1 trailing arguments the variadic parameter is the slice of their
    element-wise conversions, in order. -/
theorem variadic_shape (L : Leaf) (ins : List GT) (args : List JV) (h : ¬ args.length < ins.length - 1)
    (hk : (args.drop (ins.length - 1)).length ≠ 1) :
    callWrapper L ⟨ins, true⟩ args =
      (convArgs L (args.take (ins.length - 1)) (ins.take (ins.length - 1))).bind (fun fixed =>
        (convAll L (args.drop (ins.length - 1)) (ins.getLastD .any)).map (fun gs => fixed ++ [.slice (GVs.ofList gs)])) := by
  simp only [callWrapper, h, if_false, not_true_eq_false]
  congr 1
  funext fixed
  cases hd : args.drop (ins.length - 1) with
  | nil => rfl
  | cons a rest =>
    cases rest with
    | nil => rw [hd] at hk; simp at hk
    | cons b r => rfl

/-- **C16.variadic_shape**, the "last argument is itself the slice" rule: exactly one trailing argument that
    converts to `[]T` is passed through as the whole variadic slice (CallSlice). -/
theorem variadic_last_is_slice (L : Leaf) (ins : List GT) (args : List JV) (a : JV) (s : GV)
    (h : ¬ args.length < ins.length - 1) (hd : args.drop (ins.length - 1) = [a])
    (hs : conv L a (.slice (ins.getLastD .any)) = .ok s) :
    callWrapper L ⟨ins, true⟩ args =
      (convArgs L (args.take (ins.length - 1)) (ins.take (ins.length - 1))).bind (fun fixed => .ok (fixed ++ [s])) := by
  simp only [callWrapper, h, if_false, not_true_eq_false, hd, hs]

/-- **C16.container_refines** (slices): as long as no step appends at `len` or changes `length`, the Go
    variable and the JavaScript object keep the SAME slice header over the same backing array, so after any
    history of reads, in-range writes and deletes from either side both observe identical contents.
    (Holds for the code's store semantics and for the spec's.) -/
theorem slice_history_aliased (S : StoreSem) (ops : List SOp) :
    ∀ (s : SliceSt), s.go = s.js → (∀ op ∈ ops, KeepsHeaders s.js.len op) →
      (sliceRun S s ops).1.go = (sliceRun S s ops).1.js ∧
      (sliceRun S s ops).1.view (sliceRun S s ops).1.go = (sliceRun S s ops).1.view (sliceRun S s ops).1.js := by
  induction ops with
  | nil => intro s h _; simp [sliceRun, h]
  | cons op rest ih =>
    intro s h hk
    have h1 := step_keeps S s op (hk op (by simp))
    simp only [sliceRun]
    split
    · -- failing step: state after the step
      rw [h1.1, h1.2, h]
      simp
    · have hs : (sliceStep S s op).1.go = (sliceStep S s op).1.js := by rw [h1.1, h1.2, h]
      have hk' : ∀ o ∈ rest, KeepsHeaders (sliceStep S s op).1.js.len o := by
        intro o ho; rw [h1.2]; exact hk o (by simp [ho])
      exact ih _ hs hk'

def intOf : GV → Option Int
  | .num (.int _ i) => some i
  | _ => none

/-- the hypothesis is needed: appending through the JavaScript object beyond capacity detaches it from the
    Go slice (Go slice semantics) – a later write is seen on one side only -/
example :
    ((sliceRun modelStore (SliceSt.init (.num (.i .int)) [.num (.int .int 1)] 1)
        [.jsWrite 1 (.num (.int .i64 2)), .jsWrite 0 (.num (.int .i64 9))]).1.view ⟨0, 1, 1⟩)[0]?.bind intOf = some 1 ∧
    ((sliceRun modelStore (SliceSt.init (.num (.i .int)) [.num (.int .int 1)] 1)
        [.jsWrite 1 (.num (.int .i64 2)), .jsWrite 0 (.num (.int .i64 9))]).1.view ⟨1, 2, 2⟩)[0]?.bind intOf = some 9 := by
  decide +kernel

/-- **C16.struct_lookup**: for every struct type description, `fieldIndexByName` resolves a property name to
    the first binding, in declaration order with embedded structs searched depth-first, among
    {json tag, Go field name} of the fields whose Go name starts with A-Z (unexported names are hidden; a
    `json:"-"` field contributes only its embedded bindings). -/
theorem struct_lookup (t : GT) (name : Str) : fieldIndexByName t name = Spec.fieldLookup t name := by
  simp only [fieldIndexByName, Spec.fieldLookup]
  exact lookupT t.base name

mutual
/-- every number inside a JavaScript value is a well-formed Go payload -/
def WFV : JV → Prop
  | .num n => WF n
  | .arr es => WFVs es
  | .obj ps => WFPs ps
  | _ => True
def WFVs : JVs → Prop
  | .nil => True
  | .hole r => WFVs r
  | .cons v r => WFV v ∧ WFVs r
def WFPs : JPs → Prop
  | .nil => True
  | .cons _ v r => WFV v ∧ WFPs r
end

/-- the field-type function the driver's struct walk (`devProps` under `devConv`) uses; `convFields_exact` states its
    region hypothesis with this `match` written out -/
def ftOf (st : GT) (k : Str) : GT :=
  match fieldIndexByName st k with
  | some p => (typeAt st p).getD .any
  | none => .any

mutual
theorem convB_exact (v : JV) (t : GT) (hw : WFV v) (hd : devConv v t = []) :
    convB modelLeaf v t.base = convB Spec.leaf v t.base := by
  unfold devConv at hd
  generalize t.base = b at hd ⊢
  cases b with
  | bool | ptr _ | str | any => unfold convB; rfl
  | num nt =>
    unfold convB
    cases v with
    | num n => simp only [modelLeaf, Spec.leaf, numeric_exact n nt hw hd]
    | _ => rfl
  | slice tt =>
    unfold convB
    cases v with
    | arr es => simp only [convElems_exact es tt hw hd]
    | _ => rfl
  | map tt =>
    unfold convB
    cases v with
    | obj ps => simp only [convProps_exact ps tt hw hd]
    | arr es => simp only [convIndexed_exact es 0 tt hw hd]
    | _ => rfl
  | struct fs =>
    unfold convB
    cases v with
    | obj ps => exact convFields_exact ps (.struct fs) _ hw hd
    | _ => rfl
theorem convElems_exact (es : JVs) (tt : GT) (hw : WFVs es) (hd : devElems es tt = []) :
    convElems modelLeaf es tt = convElems Spec.leaf es tt := by
  cases es with
  | nil => unfold convElems; rfl
  | hole r =>
    unfold devElems at hd
    unfold convElems
    rw [convElems_exact r tt hw hd]
    rfl
  | cons v r =>
    unfold devElems at hd
    obtain ⟨h1, h2⟩ := addDevs_nil _ _ hd
    unfold convElems
    rw [convB_exact v tt hw.1 h1, convElems_exact r tt hw.2 h2]
theorem convIndexed_exact (es : JVs) (i : Nat) (tt : GT) (hw : WFVs es) (hd : devElems es tt = []) :
    convIndexed modelLeaf es i tt = convIndexed Spec.leaf es i tt := by
  cases es with
  | nil => unfold convIndexed; rfl
  | hole r =>
    unfold devElems at hd
    unfold convIndexed
    exact convIndexed_exact r (i+1) tt hw hd
  | cons v r =>
    unfold devElems at hd
    obtain ⟨h1, h2⟩ := addDevs_nil _ _ hd
    unfold convIndexed
    rw [convB_exact v tt hw.1 h1, convIndexed_exact r (i+1) tt hw.2 h2]
theorem convProps_exact (ps : JPs) (tt : GT) (hw : WFPs ps) (hd : devProps ps (fun _ => tt) = []) :
    convProps modelLeaf ps tt = convProps Spec.leaf ps tt := by
  cases ps with
  | nil => unfold convProps; rfl
  | cons k v r =>
    unfold devProps at hd
    obtain ⟨h1, h2⟩ := addDevs_nil _ _ hd
    unfold convProps
    rw [convB_exact v tt hw.1 h1, convProps_exact r tt hw.2 h2]
theorem convFields_exact (ps : JPs) (st : GT) (acc : GV) (hw : WFPs ps)
    (hd : devProps ps (fun k => match fieldIndexByName st k with
          | some p => (typeAt st p).getD .any
          | none => .any) = []) :
    convFields modelLeaf ps st acc = convFields Spec.leaf ps st acc := by
  cases ps with
  | nil => unfold convFields; rfl
  | cons k v r =>
    unfold devProps at hd
    obtain ⟨h1, h2⟩ := addDevs_nil _ _ hd
    unfold convFields
    cases hf : fieldIndexByName st k with
    | none => rfl
    | some idx =>
      simp only
      cases hta : typeAt st idx with
      | none => rfl
      | some ft =>
        simp only
        have h1' : devConv v ft = [] := by simpa [hf, hta] using h1
        rw [convB_exact v ft hw.1 h1']
        cases ptrWrap ft v (convB Spec.leaf v ft.base) with
        | ok a => simp only [Res.bind]; exact convFields_exact r st _ hw.2 h2
        | _ => rfl
end
/-- **C16.call_exact.**  For every JavaScript argument value (arbitrarily nested arrays with holes and plain
    objects) and every Go parameter type of the family (scalars, slices, string-keyed maps, pointers, structs,
    interface{}), outside the listed call-path regions `convertCallParameter` builds exactly the Go value the
    property text demands or fails with exactly the error it demands: `numeric_exact` lifted element-wise. -/
theorem call_exact (v : JV) (t : GT) (hw : WFV v) (hd : devConv v t = []) :
    convertCallParameter v t = Spec.convertCallParameter v t := by
  unfold convertCallParameter Spec.convertCallParameter conv
  rw [convB_exact v t hw hd]

/-- all (argument, parameter type) pairs are well-formed and outside every call-path region -/
def CleanArgs : List JV → List GT → Prop
  | a :: as, t :: ts => WFV a ∧ devConv a t = [] ∧ CleanArgs as ts
  | _, _ => True

theorem convArgs_exact (args : List JV) : ∀ (ins : List GT), CleanArgs args ins →
    convArgs modelLeaf args ins = convArgs Spec.leaf args ins := by
  induction args with
  | nil => intro ins _; cases ins <;> simp [convArgs]
  | cons a as ih =>
    intro ins hc
    cases ins with
    | nil => simp [convArgs]
    | cons t ts =>
      obtain ⟨hw, hd, hrest⟩ := hc
      have := call_exact a t hw hd
      unfold convertCallParameter Spec.convertCallParameter at this
      simp only [convArgs, this, ih ts hrest]

/-- **C16.call_exact for whole calls** (fixed signatures): with every argument outside the listed regions the Go
    callee receives exactly the parameter list the property text demands, or the script gets exactly the error it
    demands, for every signature and every argument count. -/
theorem call_fixed_exact (ins : List GT) (args : List JV) (hc : CleanArgs args ins) :
    callWrapper modelLeaf ⟨ins, false⟩ args = callWrapper Spec.leaf ⟨ins, false⟩ args := by
  rw [arity_fixed, arity_fixed, convArgs_exact args ins hc]

-- non-vacuity: f([1, 2], {A: 3}) against func([]int8, struct{A int; B string `json:"bee"`})
example : CleanArgs
    [.arr (.cons (.num (.int .i64 1)) (.cons (.num (.int .i64 2)) .nil)), .obj (.cons [65] (.num (.int .i64 3)) .nil)]
    [.slice (.num (.i .i8)), .struct (.cons [65] [] false (.num (.i .int)) (.cons [66] [98, 101, 101] false .str .nil))] := by
  refine ⟨⟨⟨by decide, by decide⟩, ⟨by decide, by decide⟩, trivial⟩, by decide, ⟨⟨by decide, by decide⟩, trivial⟩, by decide, trivial⟩

/-- primitive JavaScript values whose number payload (if any) is not a float32 -/
def PrimNoF32 : JV → Prop
  | .arr _ | .obj _ => False
  | .num (.f32 _) => False
  | _ => True

/-- **C16.store_exact_partial** (bool / string / interface{} / float64 element types).  For every primitive value
    (float32 payloads excluded) a write into a bridged `[]bool`, `[]string`, `[]interface{}` or `[]float64`
    (same for maps and arrays) stores exactly what the checked call conversion delivers, outside the listed
    store regions.
    NOT proved here, beyond `store_exact_small_int`: the numeric element types, i.e. whether for primitive `v` without
    float32 payload and `t = .num nt`, `WFV v → devStore v t = [] → toReflectValue v t = Spec.convertCallParameter v t`
    (for an Array or a float32 payload that equation fails: `toReflectValue` panics there); the remaining cases
    (float64 → integer kinds through toIntegerFloat / number(), float64 → float32 range test) need the order
    lemmas `F64.cmp_int` (Base/F64Lemmas) and `cmpReal_nonneg`, `cmpReal_frac` (C16/Doubles) carried through `toIntegerFloat` on fractional
    doubles and through the float32 range test, and are covered by witnesses + correspondence only. -/
theorem store_exact_partial (v : JV) (t : GT) (hp : PrimNoF32 v)
    (ht : t = .bool ∨ t = .str ∨ t = .any ∨ t = .num .f64) (hdev : devStore v t = []) :
    toReflectValue v t = Spec.convertCallParameter v t := by
  rcases ht with rfl | rfl | rfl | rfl <;> rw [spec_conv_base _ _ rfl] <;> unfold convB
  · rfl  -- bool: `toBool v` on both sides, whatever `v` is
  · -- string: ToString on both sides
    cases v with
    | arr _ | obj _ => exact hp.elim
    | _ => rfl
  · -- interface{}: the exported value
    cases v with
    | arr _ | obj _ => exact hp.elim
    | _ => rfl
  · -- float64: only numbers are outside the regions; an integer payload must be a double already
    cases v with
    | arr _ | obj _ => exact hp.elim
    | undef | null | bool _ | str _ => simp [devStore] at hdev
    | num n =>
      cases n with
      | f32 x => exact hp.elim
      | f64 x => rfl
      | int k i =>
        have hs : Spec.sameNumber (.int k i) (ofInt i) = true := by
          cases h : Spec.sameNumber (.int k i) (ofInt i)
          · simp [devStore, h] at hdev
          · rfl
        unfold toReflectValue; simp [toFloat, GT.base, Spec.leaf, Spec.convertNumeric, Res.map, Res.bind, hs]

/-- **C16.store_exact_partial** (integers).  For every integer-kinded number below 2^53 in magnitude – every
    integer a script can denote exactly – and EVERY Go integer element type, a write into a bridged slice, array
    or map stores exactly that integer or throws RangeError (since fix bb377a4), whatever Go kind carries the
    number and whichever of the three internal routes (direct payload, Value.number(), toIntegerFloat) is taken. -/
theorem store_exact_small_int (pk k : IK) (i : Int) (hi : i.natAbs < 2^53) :
    toReflectValue (.num (.int pk i)) (.num (.i k)) = Spec.convertCallParameter (.num (.int pk i)) (.num (.i k)) := by
  rw [spec_small_int]
  obtain ⟨hof, hT⟩ := ofInt_small i hi
  -- Value.number().int64 takes the integer payload as it is: the float route is for uint64 above MaxInt64 only
  have hnum : numberInt64 (.num (.int pk i)) = some i := by
    have hle : i ≤ 2^63 - 1 := by omega
    cases pk <;> simp only [numberInt64, hle, if_true]
  unfold toReflectValue
  simp only [Bool.false_eq_true, if_false]
  -- the 64-bit kinds go through `float64(i)`, a double that is the integer `i`; the six narrow kinds test the payload itself
  cases k <;> simp only [toFloat, hof, toIntegerFloat_int, hnum]
  case i64 => rw [store_signed64 _ _ 0 .i64 rfl rfl, hT]
  case int => rw [store_signed64 _ _ 0 .int rfl rfl, hT]
  case u64 => rw [store_unsigned64 _ _ 0 .u64 rfl rfl, hT]
  case uint => rw [store_unsigned64 _ _ 0 .uint rfl rfl, hT]
  all_goals exact range_if _ _ _

/-- **C16.container_refines (observers).**  For every bridged slice, array, map or struct of the family, every
    history of JavaScript and Go writes and deletes, and every list of probed names whose array indices are
    in range, all key observers (`in`, hasOwnProperty, Object.keys, getOwnPropertyNames, for-in,
    getOwnPropertyDescriptor with value and attributes) report after EVERY step exactly the Go-side contents,
    as the property text demands (its side is `viewRun false`: the same observers without the code's rule that
    every array index is an own property; `Spec.lean` has no separate definition).  Outside that hypothesis the code answers every array index with an own
    property (region `seq_out_of_range_index_reported_as_own_property`). -/
theorem view_exact (ops : List VOp) : ∀ (s : VSt) (probes : List Str), ProbesInRange s probes →
    viewRun true s probes ops = viewRun false s probes ops := by
  induction ops with
  | nil => intro s probes h; simp [viewRun, observe_exact s probes h]
  | cons op rest ih =>
    intro s probes h
    simp only [viewRun]
    rw [observe_exact s probes h, ih _ probes (step_preserves s op probes h)]

-- the region is inhabited: `9 in s` for a 1-element bridged slice
example : (observe true ⟨.slice, [([48], 1)], []⟩ [[57]]).has = [true] ∧
    (observe false ⟨.slice, [([48], 1)], []⟩ [[57]]).has = [false] := by decide +kernel

/-! Kernel-checked witnesses: each region of the numeric call path and of the store path is inhabited and the
    model really deviates there; inputs of repaired regions meet the property text. -/

/-- 0.1 as a double -/
def d0_1 : FV := .fin false 7205759403792794 (-56)

-- call_f64_to_f32_rounds: f32fn(0.1) is rounded, the property demands RangeError
example : devNum (.f64 d0_1) .f32 = ["call_f64_to_f32_rounds"] ∧
    convertNumeric (.f64 d0_1) .f32 = .ok (.f32 (.fin false 13421773 (-27))) ∧
    Spec.convertNumeric (.f64 d0_1) .f32 = .rangeErr := by decide +kernel

-- call_int_to_float_rounds: f64fn(9007199254740993) receives 9007199254740992
example : devNum (.int .i64 9007199254740993) .f64 = ["call_int_to_float_rounds"] ∧
    convertNumeric (.int .i64 9007199254740993) .f64 = .ok (.f64 (.fin false 4503599627370496 1)) ∧
    Spec.convertNumeric (.int .i64 9007199254740993) .f64 = .rangeErr := by decide +kernel

-- repaired: u64fn(2^63) now receives 2^63
example : devNum (.f64 (.fin false 1 63)) (.i .u64) = [] ∧
    convertNumeric (.f64 (.fin false 1 63)) (.i .u64) = .ok (.int .u64 9223372036854775808) := by decide +kernel

/-- outcome class and integer payload of a result (GV has no decidable equality) -/
def resKind : Res GV → Nat × Option Int
  | .ok (.num (.int _ i)) => (0, some i)
  | .ok _ => (0, none)
  | .rangeErr => (1, none)
  | .typeErr => (2, none)
  | .goPanic => (3, none)

def intT : GT := .num (.i .int)

-- repaired: s[0] = -1.5, 1.5, NaN, 2^63 on []int are RangeErrors, as on the call path
example : resKind (toReflectValue (.num (.f64 (.fin true 3 (-1)))) intT) = (1, none) ∧
    resKind (toReflectValue (.num (.f64 (.fin false 3 (-1)))) intT) = (1, none) ∧
    resKind (toReflectValue (.num (.f64 .nan)) intT) = (1, none) ∧
    resKind (toReflectValue (.num (.f64 (.fin false 1 63))) intT) = (1, none) ∧
    resKind (Spec.convertCallParameter (.num (.f64 (.fin false 1 63))) intT) = (1, none) ∧
    devStore (.num (.f64 (.fin true 3 (-1)))) intT = [] := by decide +kernel

-- repaired: Infinity into []float32, 1.5 into []bool, undefined into []interface{} are stored
example : resKind (toReflectValue (.num (.f64 (.inf false))) (.num .f32)) = (0, none) ∧
    resKind (toReflectValue (.num (.f64 (.fin false 3 (-1)))) .bool) = (0, none) ∧
    resKind (toReflectValue .undef .any) = (0, none) := by decide +kernel

-- store_coerces_non_number: s[0] = true stores 1, the call path throws TypeError
example : devStore (.bool true) intT = ["store_coerces_non_number"] ∧
    resKind (toReflectValue (.bool true) intT) = (0, some 1) ∧
    resKind (Spec.convertCallParameter (.bool true) intT) = (2, none) := by decide +kernel

-- store_int_via_float_rounds: s[0] = 9007199254740993 on []int64 stores 9007199254740992
example : devStore (.num (.int .i64 9007199254740993)) (.num (.i .i64)) = ["store_int_via_float_rounds"] ∧
    resKind (toReflectValue (.num (.int .i64 9007199254740993)) (.num (.i .i64))) = (0, some 9007199254740992) ∧
    resKind (Spec.convertCallParameter (.num (.int .i64 9007199254740993)) (.num (.i .i64))) = (0, some 9007199254740993) := by decide +kernel

-- store_float_rounds: s[0] = 0.1 on []float32
example : devStore (.num (.f64 d0_1)) (.num .f32) = ["store_float_rounds"] ∧
    resKind (toReflectValue (.num (.f64 d0_1)) (.num .f32)) = (0, none) ∧
    resKind (Spec.convertCallParameter (.num (.f64 d0_1)) (.num .f32)) = (1, none) := by decide +kernel

-- repaired: intSliceFn([1,,3]) is a TypeError like intSliceFn([1,undefined,3]); ptrAnyFn(5) is delivered
example : devConv (.arr (.cons (.num (.int .i64 1)) (.hole .nil))) (.slice intT) = [] ∧
    resKind (convertCallParameter (.arr (.cons (.num (.int .i64 1)) (.hole .nil))) (.slice intT)) = (2, none) ∧
    resKind (convertCallParameter (.num (.int .i64 5)) (.ptr .any)) = (0, none) := by decide +kernel

end OttoVerif.C16.Thm
