/-
  C15/Theorems — the ledger for property C15.  Every `theorem` in this file is audited
  (`#print axioms` ⊆ {propext, Classical.choice, Quot.sound}) on every run.

  In file order:
  * Go -> JavaScript -> Go on scalars, pointers and containers (Set / Get / Export / To* / MarshalJSON);
  * JavaScript -> Go: the predicates, and `export` of JSON-like data (structure, Go typing, no panic);
  * non-vacuity examples and a kernel-checked witness for each deviation region used by the driver (Spec.Dev);
  * `exportPath` on object graphs: sharing is invisible (acyclic), the cut is exactly at a back edge (cyclic);
  * Value.Call / Object.Call / Otto.Call against the equivalent in-language call;
  * re-entrant API use from a host function; Go-API edge cases;
  * arithmetic on Go values set into the runtime; Copy().
-/
import OttoVerif.C15.Spec
import OttoVerif.Base.F64Lemmas
namespace OttoVerif.C15.Thm
open OttoVerif.F64 OttoVerif.C15
open OttoVerif.C05 (NK Val Env)

/-- what Set; Get; Export computes -/
def roundtrip (g : GoVal) : Res GoVal := (toValue g).bind exportV

/-- Scalars of every basic type except float32 come back identical (same dynamic type, same value);
    so does the nil interface. -/
theorem roundtrip_scalar (s : Sc) (h : s.bt ≠ .f32) : roundtrip (.sc false s) = .ok (.sc false s) := by
  cases s <;> first | rfl | exact absurd rfl h

theorem roundtrip_nil : roundtrip .nil = .ok .nil := rfl

/-- float32 comes back as the float64 of the same value (widened by value.go `toValue`: `case float32` of the type
    switch, and `case reflect.Float32` of the reflect arm for defined types). -/
theorem roundtrip_float32 (x : FV) : roundtrip (.sc false (.f32 x)) = .ok (.sc false (.f64 x)) := rfl

/-- Slices, maps, structs and pointers to structs of ANY element type, nesting depth and content come
    back identical – `exportPath` returns the bridged Go value itself (value.go, the `*goStructObject` /
    `*goMapObject` / `*goArrayObject` / `*goSliceObject` arms: `value.value.Interface()`). -/
theorem roundtrip_container (g : GoVal)
    (h : (∃ t n es, g = .slice t n es) ∨ (∃ t n kvs, g = .map t n kvs) ∨ (∃ id fs, g = .strct id fs) ∨
         (∃ id fs, g = .ptr (.strct id fs))) :
    roundtrip g = .ok g := by
  rcases h with ⟨t, n, es, rfl⟩ | ⟨t, n, kvs, rfl⟩ | ⟨id, fs, rfl⟩ | ⟨id, fs, rfl⟩ <;> rfl

/-- both arms of `toValue` convert a scalar alike (the reflect arm widens float32 too) -/
theorem reflectScalar_eq (s : Sc) : reflectScalar s = directScalar s := by cases s <;> rfl

/-- The Value that Set stores, read off the value the pointer chain leads to: undefined for nil, the scalar
    (Go kind kept, float32 widened) whatever its declared type, and else the object wrapping `g` itself. -/
def storedOf (g : GoVal) : JS :=
  match Spec.target g with
  | .nil => jsUndef
  | .sc _ s => directScalar s
  | _ => .goObj g

theorem erase_target (E : Env) : (g : GoVal) → Spec.erase E (Spec.target g) = Spec.erase E g
  | .ptr g => erase_target E g
  | .nil | .sc .. | .nilptr _ | .slice .. | .map .. | .strct .. => rfl

/-- the pointer-chasing loop succeeds only on a chain that ends in nil or a scalar, and then stores what
    `storedOf` says of any value with that target -/
theorem derefToValue_eq : (g : GoVal) → (j : JS) → derefToValue g = .ok j →
    (g₀ : GoVal) → Spec.target g₀ = Spec.target g → j = storedOf g₀
  | .sc n s, j, h, g₀, ht => by cases h; simp only [storedOf, ht, Spec.target, reflectScalar_eq]
  | .nilptr t, j, h, g₀, ht => by cases h; simp only [storedOf, ht, Spec.target]
  | .ptr g, j, h, g₀, ht => derefToValue_eq g j h g₀ ht
  | .nil, _, h, _, _ | .slice .., _, h, _, _ | .map .., _, h, _, _ | .strct .., _, h, _, _ => nomatch h

theorem toValue_eq (g : GoVal) (j : JS) (h : toValue g = .ok j) : j = storedOf g := by
  cases g with
  | sc n s => cases n <;> cases h <;> simp only [storedOf, Spec.target, reflectScalar_eq]
  | ptr g =>
    cases g with
    | strct id fs => cases h; rfl
    | _ => exact derefToValue_eq _ j h (.ptr _) rfl
  | _ => cases h; rfl

/-- Whatever Set accepts comes back with the same VALUE (structure with static types forgotten):
    defined types lose their name, pointers to scalars are replaced by the pointee, float32 is widened,
    but no value is ever altered.  (Set rejects exactly `Dev.rejectedPtr`.) -/
theorem roundtrip_value_preserved (E : Env) (g : GoVal) (j : JS) (h : toValue g = .ok j) :
    ∃ g', exportV j = .ok g' ∧ Spec.erase E g' = Spec.erase E g := by
  have he := erase_target E g
  rw [toValue_eq g j h, storedOf]
  generalize Spec.target g = t at he ⊢
  cases t with
  | nil => exact ⟨.nil, rfl, he⟩
  | sc n s => cases s <;> exact ⟨_, rfl, he⟩
  | _ => exact ⟨g, rfl, rfl⟩

/-! The readers: model and specification are both a case distinction on the target, compared arm by arm. -/

theorem toFloat_eq (E : Env) (g : GoVal) (j : JS) (h : toValue g = .ok j) :
    valFloat E j = Spec.toFloat E g := by
  rw [toValue_eq g j h, storedOf, Spec.toFloat]
  cases Spec.target g with
  | sc n s => cases s <;> rfl
  | _ => rfl

/-! ToInteger: the integers themselves where they fit, everything else through float64, where
    `numberOfFloat` is §9.4 with the int64 clamp. -/

theorem clamp_id (i : Int) (h : -(2^63 : Int) ≤ i ∧ i < 2^63) : Spec.clamp i = i := by
  unfold Spec.clamp int64Max int64Min
  rw [if_neg (by omega), if_neg (by omega)]

/-- the clamp as `Value.number().int64` computes it: by comparison with ±2^63 -/
theorem clamp_eq (t : Int) :
    Spec.clamp t = if t ≥ 2^63 then int64Max else if t ≤ -(2^63) then int64Min else t := by
  unfold Spec.clamp int64Max int64Min
  by_cases h1 : t ≥ 2^63
  · rw [if_pos h1, if_pos (by omega)]
  · rw [if_neg h1, if_neg (by omega)]
    by_cases h2 : t < -(2^63)
    · rw [if_pos h2, if_pos (by omega)]
    · rw [if_neg h2]
      split <;> omega

theorem numberOfFloat_eq (x : FV) : numberOfFloat x = Spec.toIntegerOfNumber x := by
  cases x with
  | nan => rfl
  | inf s => rfl
  | fin s m e =>
    cases m with
    | zero =>
      simp [numberOfFloat, Spec.toIntegerOfNumber, isZero, Spec.clamp, truncInt, truncAbs, int64Max, int64Min]
    | succ k => exact (clamp_eq _).symm

theorem numberOfFloat_ofInt_small (i : Int) (h : i.natAbs < 2^53) : numberOfFloat (ofInt i) = Spec.clamp i := by
  rw [numberOfFloat_eq, ofInt_of_small i h]
  exact congrArg Spec.clamp (truncInt_natAbs i)

/-- an integer at or above 2^63 converts to a float64 at or above 2^63, or to +Inf -/
theorem numberOfFloat_ofInt_big (i : Int) (h : 2^63 ≤ i) : numberOfFloat (ofInt i) = int64Max := by
  have hna : 2^63 ≤ i.natAbs := by omega
  rw [ofInt, if_neg (by omega), if_neg (by omega), ofRatParts, if_neg (by omega)]
  cases hr : roundPos i.natAbs 1 with
  | none => rfl
  | some p =>
    obtain ⟨m, e⟩ := p
    obtain ⟨hm, he⟩ := roundPos_int_ge i.natAbs (by omega) m e hr
    have hL : 63 ≤ i.natAbs.log2 := (Nat.le_log2 (by omega)).2 hna
    obtain ⟨k, rfl⟩ : ∃ k : Nat, e = k + 11 := ⟨(e - 11).toNat, by omega⟩
    -- mantissa ≥ 2^52 at an exponent ≥ 11
    have ht : truncInt (.fin false m ((k : Int) + 11)) ≥ 2^63 := by
      have : 2^52 * 2^11 ≤ m * 2^(k + 11) :=
        Nat.mul_le_mul hm (Nat.pow_le_pow_right (by decide) (Nat.le_add_left 11 k))
      rw [show ((k : Int) + 11) = ((k + 11 : Nat) : Int) by omega, truncInt_nat]
      simp only [Bool.false_eq_true, if_false]
      omega
    have hz : isZero (.fin false m ((k : Int) + 11)) = false := by rw [isZero_fin]; exact decide_eq_false (by omega)
    simp only [numberOfFloat, hz, Bool.false_eq_true, if_false, if_pos ht]

/-- Go's static types bound integer payloads (64-bit `int`/`uint`). -/
def IntOK : Sc → Prop
  | .int .uint i => 0 ≤ i ∧ i < 2^64
  | .int .u64 i => 0 ≤ i ∧ i < 2^64
  | .int _ i => -(2^63 : Int) ≤ i ∧ i < 2^63
  | _ => True

def TargetIntOK (g : GoVal) : Prop :=
  match Spec.target g with
  | .sc _ s => IntOK s
  | _ => True

/-- the `uint`/`uint64` arms of `Value.number().int64` -/
theorem clamp_unsigned (i : Int) (hi : 0 ≤ i ∧ i < 2^64) :
    (if i ≤ int64Max then Res.ok i else .ok (numberOfFloat (ofInt i))) = .ok (Spec.clamp i) := by
  by_cases hle : i ≤ int64Max
  · rw [if_pos hle, clamp_id i (by unfold int64Max at hle; omega)]
  · have hb : 2^63 ≤ i := by unfold int64Max at hle; omega
    rw [if_neg hle, numberOfFloat_ofInt_big i hb, clamp_eq, if_pos hb]

theorem valInteger_int (E : Env) (k : NK) (i : Int) (hi : IntOK (.int k i)) :
    valInteger E (.prim (.int k i)) = .ok (Spec.clamp i) := by
  cases k <;> first
    | exact congrArg Res.ok (clamp_id i hi).symm
    | exact clamp_unsigned i hi

/-- ToInteger: the integer the Go value denotes, clamped to int64 (float payloads: ES5 §9.4) –
    for every integer kind and width, every float, bool, string, nil and pointer chain. -/
theorem toInteger_eq (E : Env) (g : GoVal) (j : JS) (h : toValue g = .ok j)
    (hi : TargetIntOK g) : valInteger E j = Spec.toInteger E g := by
  rw [toValue_eq g j h, storedOf, Spec.toInteger]
  unfold TargetIntOK at hi
  generalize Spec.target g = t at hi ⊢
  cases t with
  | sc n s =>
    cases s with
    | int k i => exact valInteger_int E k i hi
    | _ => exact congrArg Res.ok (numberOfFloat_eq _)
  | _ => rfl

/-- ToBoolean: ES5 §9.2 of the counterpart. -/
theorem toBoolean_eq (g : GoVal) (j : JS) (h : toValue g = .ok j) :
    valBool j = Spec.toBoolean g := by
  rw [toValue_eq g j h, storedOf, Spec.toBoolean]
  cases Spec.target g with
  | sc n s =>
    cases s with
    | str b => cases b <;> rfl
    | _ => rfl
  | _ => rfl

theorem numToString_f64 (x : FV) : valString (.prim (.f64 x)) = .ok (Spec.numToString x) := by
  cases x with
  | nan => rfl
  | inf s => rfl
  | fin s m e =>
    cases m with
    | zero => rfl
    | succ k => simp [valString, Spec.numToString, isZero]; split <;> rfl

/-- ToString: ES5 §9.8 of the counterpart (integers: exact decimal digits); `none` marks the finite
    non-whole doubles whose digit string is C06's subject — on both sides alike. -/
theorem toString_eq (g : GoVal) (j : JS) (h : toValue g = .ok j) :
    valString j = Spec.toStringG g := by
  rw [toValue_eq g j h, storedOf, Spec.toStringG]
  cases Spec.target g with
  | sc n s =>
    cases s with
    | f32 x | f64 x => exact numToString_f64 x
    | _ => rfl
  | _ => rfl

theorem marshalNum_eq (x : FV) : valMarshal (.prim (.f64 x)) = .ok (Spec.marshalNum x) := by
  cases x with
  | nan => rfl
  | inf s => rfl
  | fin s m e =>
    cases m with
    | zero | succ k => simp [valMarshal, Spec.marshalNum]

/-- MarshalJSON of a primitive = JSON.stringify of the counterpart (§15.12.3), integers exact:
    NaN and ±Infinity are null, −0 is 0. -/
theorem marshal_eq (g : GoVal) (j : JS) (h : toValue g = .ok j) :
    valMarshal j = Spec.marshal g := by
  rw [toValue_eq g j h, storedOf, Spec.marshal]
  cases Spec.target g with
  | sc n s =>
    cases s with
    | f32 x | f64 x => exact marshalNum_eq x
    | _ => rfl
  | _ => rfl

/-- what a script sees (typeof, and the primitive value) is the natural counterpart -/
theorem view_eq (E : Env) (g : GoVal) (j : JS) (h : toValue g = .ok j) :
    viewJS E j = Spec.view E g ∧ Res.ok (typeofJS j) = Spec.typeofG g := by
  rw [toValue_eq g j h, storedOf, Spec.view, Spec.typeofG]
  cases Spec.target g with
  | sc n s => cases s <;> exact ⟨rfl, rfl⟩
  | _ => exact ⟨rfl, rfl⟩

theorem ofRatParts_not_nan (s : Bool) (n d : Nat) : isNaN (ofRatParts s n d) = false := by
  unfold ofRatParts
  split
  · rfl
  · split <;> rfl

theorem ofInt_not_nan (i : Int) : isNaN (ofInt i) = false := by
  unfold ofInt
  split
  · rfl
  · split <;> exact ofRatParts_not_nan _ _ _

/-- primitive JavaScript values (and float32-payload numbers) -/
def IsPrim : JS → Prop
  | .prim _ => True
  | .f32 _ => True
  | _ => False

/-- `IsNaN`'s type switch answers false outright for the integer kinds it lists: an integer never converts to NaN -/
theorem isNaNJS_eq (E : Env) (j : JS) : isNaNJS E j = (Spec.toNumberJS E j).map isNaN := by
  cases j with
  | prim v =>
    cases v with
    | int k i => cases k <;> first | rfl | exact congrArg Res.ok (ofInt_not_nan i).symm
    | _ => rfl
  | _ => rfl

/-- the kind numbers are the typeof table; on objects both sides decline (`err`), so no hypothesis is needed -/
theorem preds_eq (E : Env) (j : JS) : predsJS E j = Spec.preds E j := by
  rw [predsJS, Spec.preds, isNaNJS_eq]
  cases j with
  | prim v => cases v <;> rfl
  | _ => rfl

/-- The Value predicates agree with typeof and Number(): IsUndefined/IsDefined/IsNull/IsBoolean/IsNumber/
    IsString/IsObject/IsPrimitive are the typeof table, IsNaN(v) = isNaN(Number(v)) — for every primitive
    value and every Go numeric kind a number Value can carry. -/
theorem predicates_agree (E : Env) (j : JS) (h : IsPrim j) : predsJS E j = Spec.preds E j := preds_eq E j

theorem typeof_agree (j : JS) : typeofJS j = Spec.typeofJS j := by
  cases j with
  | prim v => cases v <;> rfl
  | _ => rfl

open Spec.Dev

def typesOf : GoVals → List (Option GT)
  | .nil => []
  | .cons g r => typeOf g :: typesOf r

theorem scan_eq : (gs : GoVals) → (st : St) → scan st gs = scanT st (typesOf gs)
  | .nil, st => rfl
  | .cons g r, st => by simp only [scan, typesOf, scanT]; rw [scan_eq r]; rfl

theorem allAssignable_eq (t : GT) : (gs : GoVals) → allAssignable t gs = (typesOf gs).all (· == some t)
  | .nil => rfl
  | .cons g r => by simp only [allAssignable, typesOf, List.all_cons]; rw [allAssignable_eq t r]

/-- once the loop has seen two different element types it stays in state 2 -/
theorem scanT_state2 : (ts : List (Option GT)) → (st : St) → st.state ≠ 0 → st.state ≠ 1 →
    (scanT st ts).state = st.state
  | [], st, _, _ => rfl
  | t :: r, st, h0, h1 => by
    simp only [scanT]
    have hs : (stepT st t).state = st.state := by simp [stepT, h0, h1]
    rw [scanT_state2 r (stepT st t) (by rw [hs]; exact h0) (by rw [hs]; exact h1), hs]

/-- the loop invariant of the common-type inference: while in state 1 every element seen has the type of
    the first one, and `t` (the last type) is that type -/
theorem scanT_inv : (ts : List (Option GT)) → (st : St) → st.state = 1 → st.t = st.first →
    (scanT st ts).state = 1 → (scanT st ts).t = st.first ∧ ∀ x ∈ ts, x = st.first
  | [], st, _, ht, _ => ⟨ht, fun _ hx => by cases hx⟩
  | t :: r, st, h1, ht, hfin => by
    simp only [scanT] at hfin ⊢
    by_cases hc : st.sig ≠ sigOf t ∨ t ≠ st.first
    · -- the step moves to state 2, which is final: contradiction with hfin
      have hs : (stepT st t).state = 2 := by simp [stepT, h1, hc]
      rw [scanT_state2 r (stepT st t) (by rw [hs]; decide) (by rw [hs]; decide), hs] at hfin
      cases hfin
    · have hte : t = st.first := Decidable.byContradiction fun h => hc (Or.inr h)
      have hstep : stepT st t = ⟨1, st.sig, t, st.first⟩ := by simp [stepT, h1, hc]
      rw [hstep] at hfin ⊢
      have ih := scanT_inv r ⟨1, st.sig, t, st.first⟩ rfl hte hfin
      exact ⟨ih.1, List.forall_mem_cons.mpr ⟨hte, ih.2⟩⟩

/-- from the initial state: in state 1 at the end, all element types equal the last type `t` -/
theorem scanT_init_inv (ts : List (Option GT)) (h : (scanT St.init ts).state = 1) :
    ∀ x ∈ ts, x = (scanT St.init ts).t := by
  cases ts with
  | nil => intro x hx; cases hx
  | cons t r =>
    have hstep : stepT St.init t = ⟨1, sigOf t, t, t⟩ := by simp [stepT, St.init]
    simp only [scanT, hstep] at h ⊢
    have ih := scanT_inv r ⟨1, sigOf t, t, t⟩ rfl rfl h
    rw [ih.1]
    exact List.forall_mem_cons.mpr ⟨rfl, ih.2⟩

/-- the Array typing rule, unconditionally: `export` of an Array builds the slice whose element type is
    `arrElemType` of the element types – the reflect.Set copy can never panic, because state 1 means that
    all elements have one and the same type. -/
theorem finishArr_val (gs : GoVals) : finishArr gs = .ok (.slice (arrElemType (typesOf gs)) false gs) := by
  unfold finishArr arrElemType
  rw [scan_eq]
  dsimp only
  have hinv := scanT_init_inv (typesOf gs)
  generalize scanT St.init (typesOf gs) = st at hinv
  obtain ⟨state, sig, t, first⟩ := st
  cases t with
  | none => rfl
  | some t =>
    dsimp only at hinv ⊢
    by_cases hc : state ≠ 1 ∨ sig.k = 20
    · simp [hc]
    · have hs : state = 1 := Decidable.byContradiction fun h => hc (Or.inl h)
      have hall : (typesOf gs).all (· == some t) = true := by
        simp only [List.all_eq_true, beq_iff_eq]
        exact hinv hs
      rw [if_neg hc, if_neg hc, allAssignable_eq, hall]
      rfl

/- One induction over the value carries everything that is claimed of `export`: it returns (no panic, no error);
   the dynamic type of the result is `expType j`; without holes the result is structurally the datum; and
   without holes and typed Arrays it is the documented value itself.  The theorems below are its projections. -/
mutual
theorem export_inv : (j : JS) → ∃ g, exportV j = .ok g ∧ typeOf g = expType j ∧
    (hasHole j = false → (∀ E, Spec.erase E g = Spec.treeOf E j) ∧ (typedArr j = false → g = Spec.docOf j))
  | .prim v => by cases v <;> exact ⟨_, rfl, rfl, fun _ => ⟨fun _ => rfl, fun _ => rfl⟩⟩
  | .f32 x => ⟨_, rfl, rfl, fun _ => ⟨fun _ => rfl, fun _ => rfl⟩⟩
  | .goObj g => ⟨g, rfl, rfl, fun _ => ⟨fun _ => rfl, fun _ => rfl⟩⟩
  | .arr es => by
    obtain ⟨gs, he, ht, hs⟩ := export_inv_elems es
    refine ⟨.slice (arrElemType (typesOf gs)) false gs, ?_, ?_, fun hh => ⟨fun E => ?_, fun htt => ?_⟩⟩
    · simp only [exportV, he, Res.bind, finishArr_val]
    · simp only [typeOf, expType, ht]
    · simp only [Spec.erase, Spec.treeOf, (hs hh).1 E]
    · simp only [typedArr, Bool.or_eq_false_iff, bne_eq_false_iff_eq] at htt
      simp only [Spec.docOf, ← (hs hh).2 htt.1, ht, htt.2]
  | .obj ps => by
    obtain ⟨kvs, he, hs⟩ := export_inv_props ps
    refine ⟨.map .iface false kvs, by simp only [exportV, he, Res.map], rfl, fun hh => ⟨fun E => ?_, fun htt => ?_⟩⟩
    · simp only [Spec.erase, Spec.treeOf, (hs hh).1 E]
    · simp only [Spec.docOf, (hs hh).2 htt]
theorem export_inv_elems : (es : JSElems) → ∃ gs, exportElems es = .ok gs ∧ typesOf gs = expTypes es ∧
    (holeElems es = false →
      (∀ E, Spec.eraseList E gs = Spec.treeOfElems E es) ∧ (typedElems es = false → gs = Spec.docOfElems es))
  | .nil => ⟨.nil, rfl, rfl, fun _ => ⟨fun _ => rfl, fun _ => rfl⟩⟩
  | .hole r => by
    obtain ⟨gs, he, ht, _⟩ := export_inv_elems r
    exact ⟨gs, by simp only [exportElems, he], by simp only [expTypes, ht], fun hh => by simp [holeElems] at hh⟩
  | .cons v r => by
    obtain ⟨g, hv, hvt, hvs⟩ := export_inv v
    obtain ⟨gs, he, ht, hs⟩ := export_inv_elems r
    refine ⟨.cons g gs, by simp only [exportElems, hv, he, Res.bind, Res.map],
      by simp only [typesOf, expTypes, ht, hvt], fun hh => ?_⟩
    simp only [holeElems, Bool.or_eq_false_iff] at hh
    refine ⟨fun E => by simp only [Spec.eraseList, Spec.treeOfElems, (hvs hh.1).1 E, (hs hh.2).1 E], fun htt => ?_⟩
    simp only [typedElems, Bool.or_eq_false_iff] at htt
    simp only [Spec.docOfElems, (hvs hh.1).2 htt.1, (hs hh.2).2 htt.2]
theorem export_inv_props : (ps : JSProps) → ∃ kvs, exportProps ps = .ok kvs ∧
    (holeProps ps = false →
      (∀ E, Spec.eraseKVs E kvs = Spec.treeOfProps E ps) ∧ (typedProps ps = false → kvs = Spec.docOfProps ps))
  | .nil => ⟨.nil, rfl, fun _ => ⟨fun _ => rfl, fun _ => rfl⟩⟩
  | .cons k v r => by
    obtain ⟨g, hv, _, hvs⟩ := export_inv v
    obtain ⟨kvs, he, hs⟩ := export_inv_props r
    by_cases hu : isUndef v = true
    · -- an undefined-valued property is dropped on all sides
      refine ⟨kvs, by simp only [exportProps, hu, if_true, he], fun hh => ?_⟩
      simp only [holeProps, Bool.or_eq_false_iff] at hh
      refine ⟨fun E => by simp only [Spec.treeOfProps, hu, if_true, (hs hh.2).1 E], fun htt => ?_⟩
      simp only [typedProps, Bool.or_eq_false_iff] at htt
      simp only [Spec.docOfProps, hu, if_true, (hs hh.2).2 htt.2]
    · refine ⟨.cons k g kvs,
        by simp only [exportProps, hu, if_false, Bool.false_eq_true, hv, he, Res.bind, Res.map], fun hh => ?_⟩
      simp only [holeProps, Bool.or_eq_false_iff] at hh
      refine ⟨fun E => ?_, fun htt => ?_⟩
      · simp only [Spec.treeOfProps, hu, if_false, Bool.false_eq_true, Spec.eraseKVs, (hvs hh.1).1 E, (hs hh.2).1 E]
      · simp only [typedProps, hu, Bool.not_false, Bool.true_and, Bool.or_eq_false_iff] at htt
        simp only [Spec.docOfProps, hu, if_false, Bool.false_eq_true, (hvs hh.1).2 htt.1, (hs hh.2).2 htt.2]
end

/-- `export` is total and typed: it always returns (no panic, no error) and the dynamic type of the result
    is `expType j` – the Array typing rule, characterised exactly. -/
theorem export_ok : (j : JS) → ∃ g, exportV j = .ok g ∧ typeOf g = expType j := fun j =>
  let ⟨g, h, ht, _⟩ := export_inv j; ⟨g, h, ht⟩

theorem export_ok_props : (ps : JSProps) → ∃ kvs, exportProps ps = .ok kvs := fun ps =>
  let ⟨kvs, h, _⟩ := export_inv_props ps; ⟨kvs, h⟩

theorem export_total (j : JS) : ∃ g, exportV j = .ok g := by
  obtain ⟨g, h, _⟩ := export_ok j; exact ⟨g, h⟩

theorem export_typing (j : JS) (g : GoVal) (h : exportV j = .ok g) : typeOf g = expType j := by
  obtain ⟨g', h', ht⟩ := export_ok j
  rw [h] at h'; cases h'; exact ht

/-- Export of hole-free JSON-like data is structurally equal to that data, at every nesting depth. -/
theorem export_structural (E : Env) : (j : JS) → hasHole j = false → (g : GoVal) → exportV j = .ok g →
    Spec.erase E g = Spec.treeOf E j := fun j hh g h => by
  obtain ⟨g', h', _, hs⟩ := export_inv j
  rw [h] at h'; cases h'; exact (hs hh).1 E

theorem export_structural_props (E : Env) : (ps : JSProps) → holeProps ps = false → (kvs : GoKVs) →
    exportProps ps = .ok kvs → Spec.eraseKVs E kvs = Spec.treeOfProps E ps := fun ps hh kvs h => by
  obtain ⟨kvs', h', hs⟩ := export_inv_props ps
  rw [h] at h'; cases h'; exact (hs hh).1 E

/-- Outside the two JavaScript->Go regions (hole, typed Array) `export` returns exactly the documented
    shape: []interface{} for Arrays, map[string]interface{} for Objects, at every depth. -/
theorem export_doc : (j : JS) → hasHole j = false → typedArr j = false → exportV j = .ok (Spec.docOf j) :=
  fun j hh ht => by
  obtain ⟨g, h, _, hs⟩ := export_inv j
  rw [h, (hs hh).2 ht]

theorem export_doc_elems : (es : JSElems) → holeElems es = false → typedElems es = false →
    exportElems es = .ok (Spec.docOfElems es) := fun es hh ht => by
  obtain ⟨gs, h, _, hs⟩ := export_inv_elems es
  rw [h, (hs hh).2 ht]

theorem export_doc_props : (ps : JSProps) → holeProps ps = false → typedProps ps = false →
    exportProps ps = .ok (Spec.docOfProps ps) := fun ps hh ht => by
  obtain ⟨kvs, h, hs⟩ := export_inv_props ps
  rw [h, (hs hh).2 ht]

/-! ## Non-vacuity and deviation witnesses (kernel-checked; each is replayed on the real code by the harness) -/

def env0 : Env := { pn := fun _ => .nan }

-- hypotheses are satisfiable on non-trivial instances
example : hasHole (.arr (.cons (.prim (.int .i64 1)) (.cons (.obj (.cons [97] (.prim (.str [120])) .nil)) .nil))) = false := by decide
example : (toValue (.ptr (.ptr (.sc true (.int .u8 200))))) = .ok (.prim (.int .u8 200)) := by decide
example : TargetIntOK (.ptr (.sc false (.int .u64 (2^64 - 1)))) := by simp [TargetIntOK, Spec.target, IntOK]

-- regions of Go -> JavaScript -> Go: static type changes, rejected pointers
example : roundtrip (.sc true (.int .int 5)) ≠ Spec.roundtrip (.sc true (.int .int 5)) := by decide              -- named_type_erased
example : roundtrip (.ptr (.sc false (.int .int 7))) ≠ Spec.roundtrip (.ptr (.sc false (.int .int 7))) := by decide  -- pointer_deref
example : roundtrip (.nilptr (.sc false (.num .int))) ≠ Spec.roundtrip (.nilptr (.sc false (.num .int))) := by decide
example : roundtrip (.sc false (.f32 one)) ≠ Spec.roundtrip (.sc false (.f32 one)) := by decide                     -- float32_widened
example : roundtrip (.ptr (.slice .iface false .nil)) = .typeError := by decide                                     -- pointer_to_container_rejected
example : roundtrip (.ptr (.ptr (.strct 0 .nil))) = .typeError := by decide
-- repaired regions, now plain instances of the theorems
example : (toValue (.sc true (.f32 one))).bind (valFloat env0) = .ok one := by decide
example : (toValue (.sc true (.f32 .nan))).bind valBool = .ok false := by decide
example : (toValue (.sc false (.f64 .nan))).bind valMarshal = .ok .null := by decide
example : (toValue (.sc false (.f64 negZero))).bind valMarshal = .ok (.num zero) := by decide
example : (toValue (.sc false (.int .u64 (2^53 + 1)))).bind (valInteger env0) = .ok (2^53 + 1) := by decide

-- regions of `export`
def wHole : JS := .arr (.cons (.prim (.int .i64 1)) (.hole (.cons (.prim (.int .i64 3)) .nil)))
example : hasHole wHole = true ∧ (exportV wHole).map (Spec.erase env0) ≠ Spec.exportTree env0 wHole := by decide     -- export_array_hole
def wTyped : JS := .arr (.cons (.prim (.int .i64 1)) (.cons (.prim (.int .i64 2)) .nil))
example : typedArr wTyped = true ∧ exportV wTyped ≠ Spec.exportDoc wTyped := by decide                              -- export_array_typed
/-- [[[1]],[["a"]]] : both elements have Kind signature (Slice, -, Slice) but types [][]int64 and [][]string:
    no common type, exported as []interface{} -/
def wClash : JS :=
  .arr (.cons (.arr (.cons (.arr (.cons (.prim (.int .i64 1)) .nil)) .nil))
       (.cons (.arr (.cons (.arr (.cons (.prim (.str [97])) .nil)) .nil)) .nil))
example : expType wClash = some (.slice .iface) := by decide

/-- no hole in the element list (and none inside its leaves) -/
def ElemsOK (es : List (Option HVal)) : Prop := ∀ e ∈ es, ∃ v, e = some v ∧ hvalHole v = false
def PropsOK (ps : List (List Nat × HVal)) : Prop := ∀ p ∈ ps, hvalHole p.2 = false
def NodeOK : HNode → Prop
  | .arr es => ElemsOK es
  | .obj ps => PropsOK ps
def HeapOK (H : Heap) : Prop := ∀ (a : Nat) (n : HNode), H[a]? = some n → NodeOK n

/-! `Res.map` over `Res.bind` and `Res.map`, and `ok` only from `ok`. -/

theorem map_bind {α β γ : Type} (r : Res α) (k : α → Res β) (h : β → γ) :
    (r.bind k).map h = r.bind fun a => (k a).map h := by cases r <;> rfl

theorem bind_map {α β γ : Type} (r : Res α) (k : α → β) (h : β → Res γ) :
    (r.map k).bind h = r.bind fun a => h (k a) := by cases r <;> rfl

theorem map_map {α β γ : Type} (r : Res α) (k : α → β) (h : β → γ) :
    (r.map k).map h = r.map fun a => h (k a) := by cases r <;> rfl

theorem map_eq_ok {α β : Type} {r : Res α} {f : α → β} {b : β} (h : r.map f = .ok b) :
    ∃ a, r = .ok a ∧ f a = b := by
  cases r with
  | ok a => exact ⟨a, rfl, Res.ok.inj h⟩
  | _ => cases h

theorem mapElems_erase (E : Env) (f : HVal → Res GoVal) (u : HVal → Res Spec.Tree)
    (hfu : ∀ v, hvalHole v = false → (f v).map (Spec.erase E) = u v) :
    (es : List (Option HVal)) → ElemsOK es → (mapElems f es).map (Spec.eraseList E) = Spec.mapTrees u es
  | [], _ => rfl
  | none :: r, hok => by
    obtain ⟨v, hv, _⟩ := hok none (by simp)
    cases hv
  | some v :: r, hok => by
    obtain ⟨v', hv', hh⟩ := hok (some v) (by simp)
    cases hv'
    rw [mapElems, Spec.mapTrees, ← hfu v hh, ← mapElems_erase E f u hfu r (fun e he => hok e (by simp [he]))]
    simp only [map_bind, bind_map, map_map, Spec.eraseList]

theorem mapProps_erase (E : Env) (f : HVal → Res GoVal) (u : HVal → Res Spec.Tree)
    (hfu : ∀ v, hvalHole v = false → (f v).map (Spec.erase E) = u v) :
    (ps : List (List Nat × HVal)) → PropsOK ps → (mapProps f ps).map (Spec.eraseKVs E) = Spec.mapTreeKVs u ps
  | [], _ => rfl
  | (k, v) :: r, hok => by
    have ih := mapProps_erase E f u hfu r (fun p hp => hok p (by simp [hp]))
    rw [mapProps, Spec.mapTreeKVs, ← hfu v (hok (k, v) (by simp)), ← ih]
    split
    · rfl
    · simp only [map_bind, bind_map, map_map, Spec.eraseKVs]

/-- Read through `erase`, `exportPath` and the unfolding cut at back edges are one traversal: the same tree where
    Export returns, and failure (fuel, dangling reference) in the same places. -/
theorem exportH_erase (E : Env) (H : Heap) (hH : HeapOK H) :
    (fuel : Nat) → (path : List Nat) → (v : HVal) → hvalHole v = false →
    (exportH H fuel path v).map (Spec.erase E) = Spec.unfoldCut E H fuel path v
  | fuel, path, .leaf j, hh => by
    obtain ⟨g, hg, _, hs⟩ := export_inv j
    cases fuel <;> rw [exportH, Spec.unfoldCut, hg, ← (hs hh).1 E] <;> rfl
  | 0, path, .ref a, _ => rfl
  | fuel + 1, path, .ref a, _ => by
    rw [exportH, Spec.unfoldCut]
    split
    · rfl
    · have ih := exportH_erase E H hH fuel (a :: path)
      cases hn : H[a]? with
      | none => rfl
      | some n =>
        cases n with
        | arr es =>
          simp only [← mapElems_erase E _ _ ih es (hH a _ hn), map_bind, map_map, finishArr_val]
          cases mapElems (exportH H fuel (a :: path)) es <;> rfl
        | obj ps =>
          simp only [← mapProps_erase E _ _ ih ps (hH a _ hn), map_map]
          rfl

/-- Export of a hole-free object graph is structurally the unfolding of the graph cut at back edges:
    a reference is replaced by the raw value iff it points to an ANCESTOR of its position – for every
    heap (shared, cyclic), every position and every set of ancestors. -/
theorem exportH_structural (E : Env) (H : Heap) (hH : HeapOK H) :
    (fuel : Nat) → (path : List Nat) → (v : HVal) → (g : GoVal) → hvalHole v = false →
    exportH H fuel path v = .ok g → Spec.unfoldCut E H fuel path v = .ok (Spec.erase E g) :=
  fun fuel path v g hh h => by rw [← exportH_erase E H hH fuel path v hh, h]; rfl

/-- acyclic heaps, presented in topological order: every reference points to a lower address
    (every finite acyclic graph can be numbered this way) -/
def RefBelow (a : Nat) : HVal → Prop
  | .ref b => b < a
  | .leaf _ => True
def NodeOrd (a : Nat) : HNode → Prop
  | .arr es => ∀ v, some v ∈ es → RefBelow a v
  | .obj ps => ∀ p ∈ ps, RefBelow a p.2
def Ordered (H : Heap) : Prop := ∀ (a : Nat) (n : HNode), H[a]? = some n → NodeOrd a n

theorem mapTrees_congr (f g : HVal → Res Spec.Tree) :
    (es : List (Option HVal)) → (∀ v, some v ∈ es → f v = g v) → Spec.mapTrees f es = Spec.mapTrees g es
  | [], _ => rfl
  | none :: r, h => by
    simp only [Spec.mapTrees]; rw [mapTrees_congr f g r (fun v hv => h v (by simp [hv]))]
  | some v :: r, h => by
    simp only [Spec.mapTrees]
    rw [h v (by simp), mapTrees_congr f g r (fun v hv => h v (by simp [hv]))]

theorem mapTreeKVs_congr (f g : HVal → Res Spec.Tree) :
    (ps : List (List Nat × HVal)) → (∀ p ∈ ps, f p.2 = g p.2) → Spec.mapTreeKVs f ps = Spec.mapTreeKVs g ps
  | [], _ => rfl
  | (k, v) :: r, h => by
    simp only [Spec.mapTreeKVs]
    rw [h (k, v) (by simp), mapTreeKVs_congr f g r (fun p hp => h p (by simp [hp]))]

/-- On an acyclic heap the cut never happens: the unfolding with ancestors equals the plain tree
    unfolding, in which object identity plays no role – SHARING IS INVISIBLE. -/
theorem unfold_dag (E : Env) (H : Heap) (hO : Ordered H) :
    (fuel : Nat) → (anc : List Nat) → (v : HVal) → (∀ b, v = .ref b → ∀ p ∈ anc, b < p) →
    Spec.unfoldCut E H fuel anc v = Spec.unfoldTree E H fuel v
  | fuel, anc, .leaf j, _ => by cases fuel <;> rfl
  | 0, anc, .ref a, _ => rfl
  | fuel + 1, anc, .ref a, h => by
    have ha : a ∉ anc := fun hin => Nat.lt_irrefl a (h a rfl a hin)
    simp only [Spec.unfoldCut, Spec.unfoldTree, ha, if_false]
    cases hn : H[a]? with
    | none => rfl
    | some n =>
      have hord := hO a n hn
      have key : ∀ v, RefBelow a v → Spec.unfoldCut E H fuel (a :: anc) v = Spec.unfoldTree E H fuel v := by
        intro v hv
        apply unfold_dag E H hO fuel (a :: anc) v
        intro b hb p hp
        subst hb
        simp only [RefBelow] at hv
        rcases List.mem_cons.mp hp with rfl | hp'
        · exact hv
        · exact Nat.lt_trans hv (h a rfl p hp')
      cases n with
      | arr es =>
        simp only
        rw [mapTrees_congr _ _ es (fun v hv => key v (hord v hv))]
      | obj ps =>
        simp only
        rw [mapTreeKVs_congr _ _ ps (fun p hp => key p.2 (hord p hp))]

/-- Export of a hole-free ACYCLIC graph = its tree unfolding, however much of it is shared. -/
theorem export_dag (E : Env) (H : Heap) (hH : HeapOK H) (hO : Ordered H) (fuel : Nat) (v : HVal) (g : GoVal)
    (hh : hvalHole v = false) (h : exportH H fuel [] v = .ok g) :
    Spec.unfoldTree E H fuel v = .ok (Spec.erase E g) := by
  rw [← unfold_dag E H hO fuel [] v (fun _ _ p hp => by cases hp)]
  exact exportH_structural E H hH fuel [] v g hh h

/-- the cut happens exactly at a back edge -/
theorem export_cut (H : Heap) (fuel : Nat) (path : List Nat) (a : Nat) :
    (a ∈ path → exportH H (fuel + 1) path (.ref a) = .ok (rawValue a)) ∧
    (a ∉ path → ∀ es, H[a]? = some (.arr es) →
      exportH H (fuel + 1) path (.ref a) = (mapElems (exportH H fuel (a :: path)) es).bind finishArr) ∧
    (a ∉ path → ∀ ps, H[a]? = some (.obj ps) →
      exportH H (fuel + 1) path (.ref a) = (mapProps (exportH H fuel (a :: path)) ps).map fun kvs => .map .iface false kvs) := by
  refine ⟨fun h => by simp [exportH, h], fun h es hn => by simp [exportH, h, hn], fun h ps hn => by simp [exportH, h, hn]⟩

-- {first: r, second: r} with r = [1,2,3]: shared, acyclic – both occurrences are exported in full
def hShared : Heap := [.arr [some (.leaf (.prim (.int .i64 1))), some (.leaf (.prim (.int .i64 2)))],
                       .obj [([102], .ref 0), ([115], .ref 0)]]
example : Ordered hShared ∧ HeapOK hShared := by
  constructor
  · intro a n h
    match a, h with
    | 0, h => cases h; simp [NodeOrd, RefBelow]
    | 1, h => cases h; simp [NodeOrd, RefBelow]
    | a + 2, h => cases h
  · intro a n h
    match a, h with
    | 0, h => cases h; simp [NodeOK, ElemsOK, hvalHole, hasHole]
    | 1, h => cases h; simp [NodeOK, PropsOK, hvalHole]
    | a + 2, h => cases h
example : (exportH hShared 3 [] (.ref 1)).map (Spec.erase env0) = Spec.unfoldTree env0 hShared 3 (.ref 1) := by decide
-- o.self = o : the cut, and nothing but the cut
example : exportH [.obj [([115], .ref 0)]] 2 [] (.ref 0) = .ok (.map .iface false (.cons [115] (rawValue 0) .nil)) := by decide

/-- Set accepts the value -/
def OKVal (g : GoVal) : Prop := ∃ j, toValue g = .ok j

theorem argViews_eq (E : Env) : (args : List GoVal) → (∀ g ∈ args, OKVal g) →
    argViews E args = Spec.argViews E args
  | [], _ => rfl
  | g :: r, h => by
    obtain ⟨j, hj⟩ := h g (by simp)
    have hv := (view_eq E g j hj).1
    simp only [argViews, Spec.argViews, hj, Res.bind, hv]
    rw [argViews_eq E r (fun g' hg' => h g' (by simp [hg']))]

theorem enterThis_eq (E : Env) (g : GoVal) (h : OKVal g) :
    ((toValue g).map CallThis.val).bind (enterThis E) = Spec.enterThis E (.counterpart g) := by
  obtain ⟨j, hj⟩ := h
  rw [hj, toValue_eq g j hj]
  simp only [Res.map, Res.bind, Spec.enterThis, Spec.view, storedOf]
  cases Spec.target g with
  | sc n s => cases s <;> rfl
  | _ => rfl

/-- every `this` a path converts from Go -/
def pathThis : Path → List GoVal
  | .valueCall (some g) => [g]
  | .ottoCallThis _ g => [g]
  | .ottoCallNew (some g) => [g]
  | _ => []

/-- Value.Call, Object.Call and Otto.Call (both forms) hand the callee the same `this` and the same
    arguments as the equivalent in-language call (`f.call(T, a…)`, `obj.m(a…)`, `f(a…)`), for every
    argument list of values that Set accepts. -/
theorem call_equiv (E : Env) (p : Path) (args : List GoVal)
    (hthis : ∀ g ∈ pathThis p, OKVal g) (hargs : ∀ g ∈ args, OKVal g) :
    apiCall E p args = Spec.langCall E p args := by
  simp only [apiCall, Spec.langCall, argViews_eq E args hargs]
  congr 1
  cases p with
  | valueCall t =>
    cases t with
    | none => rfl
    | some g => exact enterThis_eq E g (hthis g (by simp [pathThis]))
  | objectCall => rfl
  | ottoCallNil m => cases m <;> rfl
  | ottoCallThis m g => exact enterThis_eq E g (hthis g (by simp [pathThis]))
  | ottoCallNew t =>
    cases t with
    | none => rfl
    | some g =>
      obtain ⟨j, hj⟩ := hthis g (by simp [pathThis])
      simp [apiThis, hj, Res.map, Res.bind, enterThis, Spec.langThis, Spec.enterThis]

/-- The same for callees with side effects and for BOTH exits: through every API path the callee is
    invoked exactly once, with the `this` and arguments of the equivalent in-language call, and its
    completion – the returned value or the thrown exception – is what the caller gets. -/
theorem call_equiv_exits (E : Env) (p : Path) (b : Exit) (args : List GoVal)
    (hthis : ∀ g ∈ pathThis p, OKVal g) (hargs : ∀ g ∈ args, OKVal g) :
    apiRun E p b args = Spec.langRun E p b args ∧
    ∀ r, apiRun E p b args = .ok r → r.invocations.length = 1 := by
  refine ⟨by simp only [apiRun, Spec.langRun, call_equiv E p args hthis hargs], fun r hr => ?_⟩
  obtain ⟨tv, _, rfl⟩ := map_eq_ok hr
  rfl

-- a throwing method called through Otto.Call(src, nil): one invocation, this = the object, the TypeError reaches the caller
example : apiRun env0 (.ottoCallNil true) .throwTypeError [] = .ok ⟨[.self], .throwErr "TypeError" .self 1⟩ := by decide

example : OKVal (.ptr (.sc true (.f32 one))) := ⟨_, rfl⟩

/-! ## Re-entrant API use, and API edge cases (finite domains: proved by case analysis AND enumerated by the harness) -/

/-- Whatever the calling JavaScript function shadows (var, parameter, catch binding, with object), a re-entrant
    Otto.Call / Otto.Run / Value.Call / Object.Call from a host function resolves the callee as GLOBAL code, and
    Otto.Eval as a direct eval in the caller – as the equivalent in-language code does. -/
theorem reentry_equiv (r : Reentry) (s : Shadow) : reentryResolves r s = Spec.reentryResolves r s := by
  cases r <;> cases s <;> rfl

theorem reentry_global (r : Reentry) (s : Shadow) (h : r ≠ .ottoEval) : reentryResolves r s = .global := by
  cases r <;> first | rfl | exact absurd rfl h

/-- Every API edge case gives the specified result – in particular none ends in a Go panic. -/
theorem api_cases (c : ApiCase) : apiModel c = Spec.apiSpec c := by
  cases c <;> rfl

theorem api_no_panic (c : ApiCase) : apiModel c ≠ .goPanic := by
  cases c <;> exact ApiOut.noConfusion

/-- is the stored value a non-string primitive? -/
def NumLike (g : GoVal) : Prop :=
  match Spec.target g with
  | .nil => True
  | .sc _ (.str _) => False
  | .sc _ _ => True
  | _ => False

theorem stored_numlike (E : Env) (g : GoVal) (j : JS) (h : toValue g = .ok j) (hn : NumLike g) :
    ∃ v, primOf j = some v ∧ Spec.numberOfGo E g = .ok (OttoVerif.C05.toFloat E v) := by
  rw [toValue_eq g j h, storedOf, Spec.numberOfGo]
  unfold NumLike at hn
  generalize Spec.target g = t at hn ⊢
  cases t with
  | nil => exact ⟨.undef, rfl, rfl⟩
  | sc n s =>
    cases s with
    | str bs => exact hn.elim
    | _ => exact ⟨_, rfl, rfl⟩
  | _ => exact hn.elim

/-- `vm.Set("a", g1); vm.Set("b", g2); vm.Run("a op b")` for + − * % on every pair of Go numeric kinds, bool and nil:
    the Value that comes back is the float64 of the IEEE operation on the two Number counterparts (so −0 keeps its
    sign and no integer fast path exists).  Division goes through C05's `evaluateDivide` (C05's theorem). -/
theorem arith_roundtrip (E : Env) (op : OttoVerif.C05.BinOp) (g1 g2 : GoVal) (j1 j2 : JS)
    (h1 : toValue g1 = .ok j1) (h2 : toValue g2 = .ok j2) (n1 : NumLike g1) (n2 : NumLike g2)
    (hop : op = .add ∨ op = .sub ∨ op = .mul ∨ op = .rem) :
    arith E op g1 g2 = Spec.arith E op g1 g2 := by
  obtain ⟨x, hx, hnx⟩ := stored_numlike E g1 j1 h1 n1
  obtain ⟨y, hy, hny⟩ := stored_numlike E g2 j2 h2 n2
  simp only [arith, Spec.arith, h1, h2, Res.bind, hx, hy, hnx, hny]
  rcases hop with rfl | rfl | rfl | rfl <;> rfl

/-- a host function running on a copy sees the copy -/
theorem copy_host_otto (r : Reentry) : hostOttoOnCopy r = Spec.hostOttoOnCopy r := rfl

-- int32 × int32: the sign of zero survives
example : arith env0 .mul (.sc false (.int .i32 0)) (.sc false (.int .i32 (-5))) = .ok (.f64 negZero) := by decide

end OttoVerif.C15.Thm
