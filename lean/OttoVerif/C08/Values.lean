/-
  C08/Values: conversions of values. arrayUint32 and §15.4.5.1 step 3.d come to one closed form on a finite double
  (`finLength`: integral and in [0, 2^32)); sameValue and strict equality are the §9.12 / §11.9.6 tables, kind by kind.
-/
import OttoVerif.C08.Spec
import OttoVerif.Base.F64Lemmas
namespace OttoVerif.C08.Thm
open OttoVerif.C08 OttoVerif.F64 OttoVerif.GoStd

theorem toFloat_eq (E : Env) (v : Val) : toFloat E v = Spec.toNumber E v := by cases v <;> rfl

theorem isUint32_iff (i : Int) : isUint32 i = true ↔ 0 ≤ i ∧ i < 2^32 := by
  show (decide (i ≥ 0) && decide (i ≤ 4294967295)) = true ↔ _
  simp only [Bool.and_eq_true, decide_eq_true_eq]
  omega

theorem arrayUint32_eq (E : Env) (v : Val) :
    arrayUint32 E v = if isIntegerKind E v = true ∧ 0 ≤ toI64 E v ∧ toI64 E v < 2^32 then some (toI64 E v).toNat else none := by
  simp only [arrayUint32, ← isUint32_iff]
  cases isIntegerKind E v <;> cases isUint32 (toI64 E v) <;> rfl

theorem arrayUint32_lt (E : Env) (v : Val) (N : Nat) (h : arrayUint32 E v = some N) : N < 2^32 := by
  rw [arrayUint32_eq] at h
  split at h
  · injection h; omega
  · cases h

/-- what both `arrayUint32` and `Spec.lengthOf` come to on a finite double (`arrayUint32_fin`, `lengthOf_fin`) -/
def finLength (s : Bool) (m : Nat) (e : Int) : Option Nat :=
  if isIntegral m e = true ∧ 0 ≤ truncInt (.fin s m e) ∧ truncInt (.fin s m e) < 2^32
  then some (truncInt (.fin s m e)).toNat else none

theorem truncAbs_zero (e : Int) : truncAbs 0 e = 0 := by simp [truncAbs]

theorem isIntegral_zero (e : Int) : isIntegral 0 e = true := by simp [isIntegral]

theorem valEqNat_fin (s : Bool) (m : Nat) (e : Int) (n : Nat) :
    Spec.valEqNat (.fin s m e) n = true ↔ isIntegral m e = true ∧ truncInt (.fin s m e) = n := by
  have h : Spec.valEqNat (.fin s m e) n = true ↔
      isIntegral m e = true ∧ if s then m = 0 ∧ n = 0 else truncAbs m e = n := by
    simp only [Spec.valEqNat, isIntegral, truncAbs]
    split <;> simp
  rw [h, truncInt]
  refine and_congr_right fun hi => ?_
  cases s with
  | false => simp only [Bool.false_eq_true, if_false, Int.natCast_inj]
  | true =>
    simp only [if_true]
    -- −0 is 0; any other negative integral double is at most −1
    by_cases hm : m = 0
    · subst hm; rw [truncAbs_zero]; omega
    · have := truncAbs_pos m e hm hi; omega

theorem lengthOf_fin (E : Env) (v : Val) (s : Bool) (m : Nat) (e : Int) (hv : ∀ i, v ≠ .int i)
    (hx : toFloat E v = .fin s m e) : Spec.lengthOf E v = finLength s m e := by
  have h : Spec.lengthOf E v = if Spec.valEqNat (.fin s m e) (truncInt (.fin s m e) % (2^32 : Int)).toNat = true
      then some (truncInt (.fin s m e) % (2^32 : Int)).toNat else none := by
    cases v <;> first | exact absurd rfl (hv _) | simp only [Spec.lengthOf, Spec.toUint32, ← toFloat_eq, hx]
  simp only [h, valEqNat_fin, finLength]
  generalize truncInt (.fin s m e) = z
  cases isIntegral m e with
  | false => simp only [Bool.false_eq_true, false_and, if_false]
  | true =>
    -- an integer z is its own ToUint32 exactly when 0 ≤ z < 2^32
    simp only [true_and]
    split <;> split <;> first | rfl | (congr 1; omega) | omega

theorem arrayUint32_fin (E : Env) (v : Val) (s : Bool) (m : Nat) (e : Int) (hv : ∀ i, v ≠ .int i)
    (hx : toFloat E v = .fin s m e) : arrayUint32 E v = finLength s m e := by
  have h1 : isIntegerKind E v = (if m = 0 then true else
      if truncInt (.fin s m e) ≥ 2^63 then false else if truncInt (.fin s m e) ≤ -(2^63 : Int) then false else isIntegral m e) := by
    cases v <;> first | exact absurd rfl (hv _) | simp only [isIntegerKind, hx]
  have h2 : toI64 E v = (if truncInt (.fin s m e) ≥ 2^63 then 2^63 - 1
      else if truncInt (.fin s m e) ≤ -(2^63 : Int) then -(2^63 : Int) else truncInt (.fin s m e)) := by
    cases v <;> first | exact absurd rfl (hv _) | simp only [toI64, hx, maxInt64, minInt64]
  rw [arrayUint32_eq, h1, h2, finLength]
  by_cases hm : m = 0
  · subst hm
    have : truncInt (.fin s 0 e) = 0 := by cases s <;> simp [truncInt, truncAbs_zero]
    simp only [this, isIntegral_zero]
    rfl
  · simp only [hm, if_false]
    generalize truncInt (.fin s m e) = t
    split
    · simp only [Bool.false_eq_true, false_and, if_false]; split <;> first | rfl | omega
    · split
      · simp only [Bool.false_eq_true, false_and, if_false]; split <;> first | rfl | omega
      · rfl

/-- **length_range**: arrayUint32 accepts exactly the values with ToUint32(v) = ToNumber(v) (and yields that
    uint32); everything else is a RangeError (§15.4.5.1 step 3.d, §15.4.2.2) -/
theorem length_range (E : Env) (v : Val) : arrayUint32 E v = Spec.lengthOf E v := by
  by_cases hv : ∃ i, v = .int i
  · obtain ⟨i, rfl⟩ := hv
    simp only [arrayUint32_eq, isIntegerKind, toI64, Spec.lengthOf, true_and]
  · have hv' : ∀ i, v ≠ .int i := fun i h => hv ⟨i, h⟩
    cases hx : toFloat E v with
    | fin s m e => rw [arrayUint32_fin E v s m e hv' hx, lengthOf_fin E v s m e hv' hx]
    | _ =>
      cases v <;> first
        | exact absurd rfl (hv' _)
        | simp [arrayUint32, isIntegerKind, Spec.lengthOf, Spec.valEqNat, ← toFloat_eq, hx]

/-- the number arm of sameValue: otto's formulation (x, y) = §9.12's formulation (y, x) -/
theorem sameNum (x y : FV) :
    (if (isNaN x && isNaN y) = true then true
      else if eqNum x y = true then (if isZero x = true then signBit x == signBit y else true) else false)
    = (if isNaN y = true ∧ isNaN x = true then true
      else if isZero y = true ∧ isZero x = true then decide (signBit y = signBit x) else decide (cmpReal y x = some .eq)) := by
  rw [sameValue_num, eqNum_comm x y]
  simp only [and_comm, eq_comm, eqNum]

theorem beq_decide {α : Type} [BEq α] [LawfulBEq α] [DecidableEq α] (a b : α) : (a == b) = decide (a = b) := by
  by_cases h : a = b <;> simp [h]

/-- sameValue (value.go) = §9.12 SameValue with the arguments exchanged: objectDefineOwnProperty compares (current, new),
    §8.12.9 step 10.a.ii (new, current). Both tables have the same shape: distinct kinds are never the same value, two
    numbers are compared as doubles, two values of another kind by their payload -/
theorem sameValue_eq (E : Env) (a b : Val) : sameValue E a b = Spec.sameValue E b a := by
  cases a <;> cases b <;> first
    | rfl
    | (simp only [sameValue, Spec.sameValue, toFloat_eq]; exact sameNum _ _)
    | (simp only [sameValue, Spec.sameValue, eq_comm]; exact beq_decide _ _)

/-- strictEqualityComparison = §11.9.6 -/
theorem strictEquals_eq (E : Env) (a b : Val) : strictEquals E a b = Spec.strictEq E a b := by
  cases a <;> cases b <;> first
    | rfl
    | (simp only [strictEquals, Spec.strictEq, toFloat_eq]; exact eqNum_nan_guard _ _)
    | (simp only [strictEquals, Spec.strictEq]; exact beq_decide _ _)

theorem sameValue_refl (E : Env) (v : Val) : sameValue E v v = true := by
  have num : ∀ x : FV, (if (isNaN x && isNaN x) = true then true
      else if eqNum x x = true then (if isZero x = true then signBit x == signBit x else true) else false) = true := by
    intro x
    cases hn : isNaN x with
    | true => simp
    | false => simp [eqNum_self x hn]
  cases v <;> first | (simp only [sameValue]; exact num _) | simp [sameValue]

end OttoVerif.C08.Thm
