/-
  C08/Define: [[DefineOwnProperty]], [[Delete]], [[Put]] against §8.12 and §15.4.5.1. objectDefineOwnProperty is two
  equations (`odp_absent`, `odp_present` over `overlay`/`refuses`); where otto defines more often than ES5 it defines what
  a define has just stored, which changes nothing (`odp_again`, `odp_absorb`), so the refinement holds of every object
  (`arrayDefine_eq`, `objectPut_eq`, `step_eq`). The shrink loop has one-step equations and a frame (`shrinkLoop_deletes`).
-/
import OttoVerif.C08.Index
import OttoVerif.C08.Values
import OttoVerif.C08.Monad
namespace OttoVerif.C08.Thm
open OttoVerif.C08 OttoVerif.F64 OttoVerif.GoStd

theorem lookup_write_self (k : Key) (p : PropD) (l : List (Key × PropD)) : lookup k (write k p l) = some p := by
  induction l with
  | nil => simp [write, lookup]
  | cons q r ih =>
    obtain ⟨k', p'⟩ := q
    by_cases h : k' = k
    · simp [write, h, lookup]
    · simp [write, h, lookup, ih]

theorem lookup_write_ne (k k' : Key) (p : PropD) (l : List (Key × PropD)) (h : k' ≠ k) :
    lookup k' (write k p l) = lookup k' l := by
  induction l with
  | nil => have : ¬ k = k' := fun e => h e.symm; simp [write, lookup, this]
  | cons q r ih =>
    obtain ⟨k'', p''⟩ := q
    by_cases h1 : k'' = k
    · subst h1
      have : ¬ k'' = k' := fun e => h e.symm
      simp [write, lookup, this]
    · by_cases h2 : k'' = k'
      · subst h2; simp [write, h1, lookup]
      · simp [write, h1, lookup, h2, ih]

theorem lookup_erase_self (k : Key) (l : List (Key × PropD)) : lookup k (erase k l) = none := by
  induction l with
  | nil => rfl
  | cons q r ih =>
    obtain ⟨k', p'⟩ := q
    by_cases h : k' = k
    · simp [erase, h, ih]
    · simp [erase, h, lookup, ih]

theorem lookup_erase_ne (k k' : Key) (l : List (Key × PropD)) (h : k' ≠ k) : lookup k' (erase k l) = lookup k' l := by
  induction l with
  | nil => rfl
  | cons q r ih =>
    obtain ⟨k'', p''⟩ := q
    by_cases h1 : k'' = k
    · subst h1
      have : ¬ k'' = k' := fun e => h e.symm
      simp [erase, lookup, this, ih]
    · by_cases h2 : k'' = k'
      · subst h2; simp [erase, h1, lookup]
      · simp [erase, h1, lookup, h2, ih]

theorem write_same (k : Key) (p : PropD) (l : List (Key × PropD)) (h : lookup k l = some p) : write k p l = l := by
  induction l with
  | nil => simp [lookup] at h
  | cons q r ih =>
    obtain ⟨k', p'⟩ := q
    by_cases hk : k' = k
    · subst hk; simp [lookup] at h; subst h; simp [write]
    · simp only [lookup, hk, if_false] at h
      simp [write, hk, ih h]

theorem write_write (k : Key) (p q : PropD) (l : List (Key × PropD)) : write k p (write k q l) = write k p l := by
  induction l with
  | nil => simp [write]
  | cons x r ih =>
    obtain ⟨k', p'⟩ := x
    by_cases hk : k' = k
    · simp [write, hk]
    · simp [write, hk, ih]

theorem ite_or_same {α : Type} (a b : Prop) [Decidable a] [Decidable b] (x y : α) :
    (if a then x else if b then x else y) = if a ∨ b then x else y := by
  by_cases h : a <;> simp [h]

theorem stateOf_reject (t : Bool) (o : Obj) : stateOf (reject t o : Res Obj Bool) = o := by
  simp only [reject]; cases t <;> rfl

def overlay (d : Desc) (p : PropD) : PropD := ⟨d.v.getD p.v, d.w.getD p.w, d.e.getD p.e, d.c.getD p.c⟩

/-- the four rejections of objectDefineOwnProperty on an existing property `p` (§8.12.9 steps 7.a, 7.b, 10.a.i, 10.a.ii) -/
def refuses (E : Env) (d : Desc) (p : PropD) : Bool :=
  (!p.c && d.c == some true) || ((!p.c && d.e.isSome && d.e != some p.e) ||
  ((d.isData && !p.c && !p.w && d.w == some true) ||
  (d.isData && !p.c && !p.w && (match d.v with | some v => !sameValue E p.v v | none => false))))

theorem odp_absent (E : Env) (k : Key) (d : Desc) (t : Bool) (o : Obj) (h : lookup k o.props = none) :
    objectDefineOwnProperty E k d t o =
      if o.ext then .ok true { o with props := write k (overlay d ⟨.undef, false, false, false⟩) o.props }
      else reject t o := by
  -- otto reads an absent flag of the descriptor as false
  have optb : ∀ x : Option Bool, (x == some true) = x.getD false := by
    intro x
    cases x with
    | none => rfl
    | some b => cases b <;> rfl
  simp only [objectDefineOwnProperty, h, overlay, optb]
  cases o.ext <;> rfl

theorem odp_present (E : Env) (k : Key) (d : Desc) (t : Bool) (o : Obj) (p : PropD) (h : lookup k o.props = some p) :
    objectDefineOwnProperty E k d t o =
      if d.isEmpty then .ok true o else if refuses E d p then reject t o
      else .ok true { o with props := write k (overlay d p) o.props } := by
  simp only [objectDefineOwnProperty, h, refuses, overlay, ite_or_same, Bool.or_eq_true]
  rfl

/-- objectDefineOwnProperty = §8.12.9 for every property state and every data or generic descriptor -/
theorem objectDefineOwnProperty_refines (E : Env) (k : Key) (d : Desc) (throw : Bool) :
    objectDefineOwnProperty E k d throw = Spec.defineOwnDefault E k d throw := by
  funext o
  unfold Spec.defineOwnDefault
  cases hl : lookup k o.props with
  | none =>
    rw [odp_absent E k d throw o hl]
    cases o.ext <;> simp [overlay, reject]
  | some p =>
    rw [odp_present E k d throw o p hl]
    obtain ⟨dv, dw, de, dc⟩ := d
    -- §8.12.9 tests 10.a only for a data descriptor, which is what the presence of a value or of writable says
    cases dv <;> cases dw <;>
      simp [refuses, overlay, Desc.isEmpty, Desc.isGeneric, Desc.isData, sameValue_eq, reject, ite_or_same, and_assoc]

theorem getD_getD {α : Type} (x : Option α) (a : α) : x.getD (x.getD a) = x.getD a := by cases x <;> rfl

theorem overlay_overlay (d : Desc) (p : PropD) : overlay d (overlay d p) = overlay d p := by
  simp only [overlay, getD_getD]

/-- what `d` has stored refuses neither `d` again nor `d` with `writable: false` in place of its writable flag -/
theorem refuses_overlay (E : Env) (d : Desc) (w : Option Bool) (p : PropD) (hw : w = d.w ∨ w = some false) :
    refuses E { d with w := w } (overlay d p) = false := by
  obtain ⟨dv, dw, de, dc⟩ := d
  simp only [refuses, overlay, Bool.or_eq_false_iff]
  refine ⟨?_, ?_, ?_, ?_⟩
  · cases dc <;> simp
  · cases de <;> simp
  · rcases hw with rfl | rfl
    · cases w <;> simp
    · simp
  · cases dv <;> simp [sameValue_refl]

theorem overlay_nonconfig (E : Env) (d : Desc) (p : PropD) (h : refuses E d p = false) (hc : p.c = false) :
    (overlay d p).c = false ∧ (overlay d p).e = p.e := by
  obtain ⟨dv, dw, de, dc⟩ := d
  simp only [refuses, Bool.or_eq_false_iff, hc] at h
  obtain ⟨h1, h2, -⟩ := h
  constructor
  · rcases dc with _ | _ | _ <;> simp_all [overlay]
  · cases de <;> simp_all [overlay]

theorem overlay_empty (d : Desc) (p : PropD) (h : d.isEmpty = true) : overlay d p = p := by
  obtain ⟨dv, dw, de, dc⟩ := d
  cases dv <;> cases dw <;> cases de <;> cases dc <;> first | rfl | cases h

/-- Either the define is rejected, or it succeeds and stores the descriptor laid over what was there (for an empty
    descriptor that is what was there); a non-configurable property stays non-configurable and keeps its enumerable flag. -/
theorem odp_effect (E : Env) (k : Key) (d : Desc) (t : Bool) (o : Obj) :
    objectDefineOwnProperty E k d t o = reject t o ∨
    (objectDefineOwnProperty E k d t o
        = .ok true { o with props := write k (overlay d ((lookup k o.props).getD ⟨.undef, false, false, false⟩)) o.props } ∧
      ∀ p, lookup k o.props = some p → p.c = false → (overlay d p).c = false ∧ (overlay d p).e = p.e) := by
  cases hl : lookup k o.props with
  | none =>
    rw [odp_absent E k d t o hl]
    split
    · exact .inr ⟨rfl, fun _ h => nomatch h⟩
    · exact .inl rfl
  | some p =>
    rw [odp_present E k d t o p hl]
    split
    · rename_i he
      rw [Option.getD_some, overlay_empty d p he, write_same _ _ _ hl]
      exact .inr ⟨rfl, fun q hq hc => by cases hq; rw [overlay_empty d p he]; exact ⟨hc, rfl⟩⟩
    · split
      · exact .inl rfl
      · rename_i h
        exact .inr ⟨rfl, fun q hq hc => by cases hq; exact overlay_nonconfig E d p (by simpa using h) hc⟩

/-- what a successful define leaves under its key -/
theorem odp_ok (E : Env) (k : Key) (d : Desc) (t : Bool) (o s : Obj) (h : objectDefineOwnProperty E k d t o = .ok true s) :
    lookup k s.props = some (overlay d ((lookup k o.props).getD ⟨.undef, false, false, false⟩)) := by
  rcases odp_effect E k d t o with h1 | ⟨h1, _⟩ <;> rw [h1] at h
  · cases t <;> cases h
  · cases h; exact lookup_write_self ..

/-- a define of what a define has stored changes nothing, on any object that holds it: this is how every define that
    otto performs and ES5 does not is absorbed -/
theorem odp_again (E : Env) (k : Key) (d : Desc) (t : Bool) (o : Obj) (p0 : PropD)
    (h : lookup k o.props = some (overlay d p0)) : objectDefineOwnProperty E k d t o = .ok true o := by
  rw [odp_present E k d t o _ h, refuses_overlay E d d.w p0 (.inl rfl), overlay_overlay, write_same _ _ _ h]
  simp only [Bool.false_eq_true, if_false, ite_self]

/-- a successful objectDefineOwnProperty is idempotent: defining the same (data) descriptor again on the result
    succeeds and changes nothing -/
theorem odp_idem (E : Env) (k : Key) (d : Desc) (t0 t : Bool) (o o1 : Obj)
    (h : objectDefineOwnProperty E k d t0 o = .ok true o1) :
    objectDefineOwnProperty E k d t o1 = .ok true o1 :=
  odp_again E k d t o1 _ (odp_ok E k d t0 o o1 h)

/-- `{writable: false}` is never refused -/
theorem odp_wfalse (E : Env) (k : Key) (t : Bool) (o : Obj) (p : PropD) (h : lookup k o.props = some p) :
    objectDefineOwnProperty E k { w := some false } t o
      = .ok true { o with props := write k ⟨p.v, false, p.e, p.c⟩ o.props } := by
  rw [odp_present E k _ t o p h]
  simp [Desc.isEmpty, refuses, overlay, Desc.isData]

/-- …and together with the fields a define has stored it is `{writable: false}` alone -/
theorem odp_absorb (E : Env) (k : Key) (d : Desc) (t : Bool) (o : Obj) (p0 : PropD)
    (h : lookup k o.props = some (overlay d p0)) :
    objectDefineOwnProperty E k { d with w := some false } t o = objectDefineOwnProperty E k { w := some false } t o := by
  rw [odp_wfalse E k t o _ h, odp_present E k _ t o _ h, refuses_overlay E d (some false) p0 (.inr rfl)]
  simp [Desc.isEmpty, overlay, getD_getD]

theorem erase_absent (k : Key) (l : List (Key × PropD)) (h : lookup k l = none) : erase k l = l := by
  induction l with
  | nil => rfl
  | cons q r ih =>
    obtain ⟨k', p'⟩ := q
    by_cases hk : k' = k
    · simp [lookup, hk] at h
    · simp only [lookup, hk, if_false] at h
      simp [erase, hk, ih h]

theorem objectDelete_cases (k : Key) (t : Bool) (o : Obj) :
    (objectDelete k t o = .ok true { o with props := erase k o.props } ∧ ∀ q, lookup k o.props = some q → q.c = true) ∨
    (objectDelete k t o = reject t o ∧ ∃ p, lookup k o.props = some p ∧ p.c = false) := by
  unfold objectDelete
  cases hl : lookup k o.props with
  | none => exact .inl ⟨by rw [erase_absent k _ hl], fun _ h => by cases h⟩
  | some p =>
    cases hc : p.c with
    | true => exact .inl ⟨by simp [hc], fun q h => by cases h; exact hc⟩
    | false => exact .inr ⟨by simp [hc], p, rfl, hc⟩

/-- objectDelete = §8.12.7 [[Delete]] -/
theorem objectDelete_refines (k : Key) (throw : Bool) : objectDelete k throw = Spec.delete k throw := by
  funext o
  unfold objectDelete Spec.delete
  cases lookup k o.props with
  | none => rfl
  | some p => cases p.c <;> cases throw <;> simp [reject]

theorem lengthWritable_eq (o : Obj) :
    lengthWritable o = ((lookup Key.length o.props).getD ⟨.int 0, false, false, false⟩).w := by
  unfold lengthWritable; cases lookup Key.length o.props <;> rfl

theorem oldLen_eq (o : Obj) : Spec.oldLen o = arrLength o := rfl

theorem obj_eta (o : Obj) : ({ o with props := o.props } : Obj) = o := by cases o; rfl

theorem shrinkLoop_next (E : Env) (N : Nat) (d : Desc) (nw t : Bool) (c : Nat) (o o1 : Obj)
    (h : objectDelete (.idx (N + c)) false o = .ok true o1) :
    shrinkLoop E N d nw t (c + 1) o = shrinkLoop E N d nw t c o1 := by
  simp only [shrinkLoop, bind, M.bind, h, Bool.not_true, Bool.false_eq_true, if_false]

/-- the loop invariant: `o1` is `o0` without the elements with index in [a, T), all of which were configurable -/
def Erased (o0 o1 : Obj) (a T : Nat) : Prop :=
  (∀ i, a ≤ i → i < T → lookup (.idx i) o1.props = none ∧ ∀ q, lookup (.idx i) o0.props = some q → q.c = true) ∧
  (∀ k, (∀ i, a ≤ i → i < T → k ≠ .idx i) → lookup k o1.props = lookup k o0.props)

theorem Erased.refl (o : Obj) (T : Nat) : Erased o o T T :=
  ⟨fun i h1 h2 => by omega, fun _ _ => rfl⟩

theorem Erased.step {o0 o1 : Obj} {a T : Nat} (h : Erased o0 o1 (a + 1) T) (haT : a < T)
    (hconf : ∀ q, lookup (.idx a) o1.props = some q → q.c = true) :
    Erased o0 { o1 with props := erase (.idx a) o1.props } a T := by
  obtain ⟨h1, h2⟩ := h
  have ha : lookup (.idx a) o1.props = lookup (.idx a) o0.props := h2 _ fun i hi _ e => by injection e; omega
  constructor
  · intro i hi1 hi2
    by_cases hia : i = a
    · subst hia; exact ⟨lookup_erase_self _ _, fun q hq => hconf q (ha ▸ hq)⟩
    · obtain ⟨g1, g2⟩ := h1 i (by omega) hi2
      exact ⟨(lookup_erase_ne _ _ _ (by intro e; injection e; omega)).trans g1, g2⟩
  · intro k hk
    exact (lookup_erase_ne _ _ _ (hk a (Nat.le_refl _) haT)).trans (h2 k fun i hi1 hi2 => hk i (by omega) hi2)

theorem shrinkLoop_erases (E : Env) (N : Nat) (d : Desc) (nw t : Bool) (cnt : Nat) :
    ∀ (o0 o o' : Obj) (T : Nat), N + cnt ≤ T → Erased o0 o (N + cnt) T →
      shrinkLoop E N d nw t cnt o = .ok none o' → Erased o0 o' N T := by
  induction cnt with
  | zero =>
    intro o0 o o' T _ hE h
    simp only [shrinkLoop, pure, M.pure] at h
    cases h
    exact hE
  | succ c ih =>
    intro o0 o o' T hT hE h
    rcases objectDelete_cases (.idx (N + c)) false o with ⟨h1, hconf⟩ | ⟨h1, _⟩
    · rw [shrinkLoop_next E N d nw t c o _ h1] at h
      exact ih o0 _ o' T (by omega) (Erased.step (a := N + c) hE (by omega) hconf) h
    · -- the failure branch never returns `none`
      exfalso
      replace h1 : objectDelete (.idx (N + c)) false o = .ok false o := h1
      simp only [shrinkLoop, bind, M.bind, h1, Bool.not_false, if_true] at h
      split at h
      · cases t <;> simp [reject, M.pure, pure] at h
      · cases h

/-- "shrinking length deletes the elements beyond it": when the shrink loop of arrayDefineOwnProperty runs to
    completion, no element with index in [newLength, newLength + cnt) is left and no other key is touched. -/
theorem shrinkLoop_deletes (E : Env) (newLength : Nat) (d : Desc) (nw throw : Bool) (cnt : Nat) (o o' : Obj)
    (h : shrinkLoop E newLength d nw throw cnt o = .ok none o') :
    (∀ n, newLength ≤ n → n < newLength + cnt → lookup (.idx n) o'.props = none) ∧
    (∀ k, (∀ n, newLength ≤ n → n < newLength + cnt → k ≠ .idx n) → lookup k o'.props = lookup k o.props) :=
  have hE := shrinkLoop_erases E newLength d nw throw cnt o o o' _ (Nat.le_refl _) (Erased.refl o _) h
  ⟨fun n h1 h2 => (hE.1 n h1 h2).1, hE.2⟩

/-- the shrink loop of arrayDefineOwnProperty is §15.4.5.1 step 3.l -/
theorem shrinkLoop_refines (E : Env) (newLength : Nat) (d : Desc) (nw throw : Bool) (cnt : Nat) :
    shrinkLoop E newLength d nw throw cnt = Spec.truncateLoop E newLength d nw throw cnt := by
  have hrej : (reject throw >>= fun r => (pure (some r) : M Obj (Option Bool)))
      = if throw then M.throw .type else pure (some false) := by cases throw <;> rfl
  induction cnt with
  | zero => rfl
  | succ c ih =>
    simp only [shrinkLoop, Spec.truncateLoop, objectDelete_refines, ih, objectDefineOwnProperty_refines, hrej]

/-- the descriptor the shrink loop defines "length" with when it stops below `l` (§15.4.5.1 step 3.l.iii) -/
def stopDesc (d : Desc) (nw : Bool) (l : Nat) : Desc :=
  if !nw then { { d with v := some (.int l) } with w := some false } else { d with v := some (.int l) }

/-- the shrink loop uses its descriptor only in the define of "length" when it stops, and until then it has erased
    elements only -/
theorem shrinkLoop_congr (E : Env) (N : Nat) (d d' : Desc) (nw t : Bool) (cnt : Nat) :
    ∀ o : Obj, (∀ (o' : Obj) (l : Nat), lookup .length o'.props = lookup .length o.props →
        objectDefineOwnProperty E .length (stopDesc d nw l) false o'
          = objectDefineOwnProperty E .length (stopDesc d' nw l) false o') →
      shrinkLoop E N d nw t cnt o = shrinkLoop E N d' nw t cnt o := by
  induction cnt with
  | zero => intro _ _; rfl
  | succ c ih =>
    intro o H
    rcases objectDelete_cases (.idx (N + c)) false o with ⟨h1, _⟩ | ⟨h1, _⟩
    · rw [shrinkLoop_next E N d nw t c o _ h1, shrinkLoop_next E N d' nw t c o _ h1]
      exact ih _ fun o' l e => H o' l (e.trans (lookup_erase_ne _ _ _ (by intro e; cases e)))
    · replace h1 : objectDelete (.idx (N + c)) false o = .ok false o := h1
      have := H o (N + c + 1) rfl
      simp only [stopDesc] at this
      simp only [shrinkLoop, bind, M.bind, h1, Bool.not_false, if_true, this]

/-- the tail of the length branch = §15.4.5.1 steps 3.l–3.n on every object on which `D` has just been defined: the
    loop erases elements only, so the defines that follow it meet what `D` stored -/
theorem shrinkTail_eq (E : Env) (N : Nat) (D : Desc) (t : Bool) (cnt : Nat) (o1 : Obj) (p0 : PropD) (nw : Bool)
    (h : lookup .length o1.props = some (overlay D p0)) :
    arrayShrinkTail E N D nw t cnt o1 = Spec.truncateTail E N D nw t cnt o1 := by
  simp only [arrayShrinkTail, Spec.truncateTail, ← shrinkLoop_refines]
  refine M_bind_congr _ _ _ o1 fun r o2 hr => ?_
  cases r with
  | some b => rfl
  | none =>
    have h2 : lookup .length o2.props = some (overlay D p0) :=
      ((shrinkLoop_deletes E N D nw t cnt o1 o2 hr).2 _ fun _ _ _ e => by cases e).trans h
    cases nw with
    | true =>
      -- the final define repeats what the first one stored
      simp only [Bool.not_true, Bool.false_eq_true, if_false]
      rw [odp_again E .length D t o2 p0 h2]; rfl
    | false =>
      -- two defines with writable:false where step 3.m has one, of {writable:false} alone
      simp only [Bool.not_false, if_true, ← objectDefineOwnProperty_refines, bind, M.bind]
      have h3 := (odp_absorb E .length D false o2 p0 h2).trans (odp_wfalse E .length false o2 _ h2)
      rw [h3, odp_wfalse E .length false o2 _ h2]
      exact odp_idem E .length _ false t o2 _ h3

/-- the index branch: arrayDefineOwnProperty on a canonical index = §15.4.5.1 step 4 -/
theorem defineIndex_refines (E : Env) (m : Nat) (d : Desc) (t : Bool) (o : Obj) :
    arrayDefineIndex E (.idx m) d t m o = Spec.arrayDefineIdx E (.idx m) d t m o := by
  simp only [arrayDefineIndex, Spec.arrayDefineIdx, lengthWritable_eq, reject]
  rw [oldLen_eq]
  by_cases hrej : m ≥ arrLength o ∧ ((lookup Key.length o.props).getD ⟨.int 0, false, false, false⟩).w = false
  · simp only [hrej, and_self, if_true]
  · simp only [hrej, if_false, objectDefineOwnProperty_refines E (.idx m) d false]
    refine M_bind_congr _ _ _ o fun b s hr => ?_
    cases b with
    | false => cases t <;> rfl
    | true =>
      simp only [Bool.not_true, Bool.false_eq_true, if_false]
      by_cases hge : m ≥ arrLength o
      · rw [if_pos hge, if_pos hge]; simp only [objectDefineOwnProperty_refines]
      · -- otto defines the element a second time where step 4.f just returns true
        rw [if_neg hge, if_neg hge]
        rw [← objectDefineOwnProperty_refines E (.idx m) d false] at hr
        rw [odp_idem E (.idx m) d false t o s hr]
        rfl

/-- the descriptor arraySetLength defines first when it shrinks: a requested writable:false is postponed to the
    end (§15.4.5.1 steps 3.h–3.i) -/
def shrinkDesc (d : Desc) (N : Nat) : Desc :=
  ⟨some (.int N), if d.w == some false then some true else d.w, d.e, d.c⟩

theorem shrinkDesc_w (d : Desc) (N : Nat) : (shrinkDesc d N).w ≠ some false := by
  rcases hw : d.w with _ | _ | _ <;> simp [shrinkDesc, hw]

/-- below the current length, when "length" is writable, arraySetLength and §15.4.5.1 step 3 (`arraySetLen_shrink`)
    take the same form over `shrinkDesc` -/
theorem arraySetLength_shrink (E : Env) (d : Desc) (t : Bool) (N : Nat) (o : Obj)
    (hlt : ¬ N ≥ arrLength o) (hw : lengthWritable o = true) :
    arraySetLength E d t N o =
      (do let ok ← objectDefineOwnProperty E .length (shrinkDesc d N) t
          if !ok then pure false else
          arrayShrinkTail E N (shrinkDesc d N) (!(d.w == some false)) t (arrLength o - N) : M Obj Bool) o := by
  obtain ⟨dv, dw, de, dc⟩ := d
  simp only [arraySetLength, hw, hlt, if_false, Bool.not_true, Bool.false_eq_true]
  rcases dw with _ | _ | _ <;> rfl

theorem arraySetLen_shrink (E : Env) (d : Desc) (t : Bool) (N : Nat) (o : Obj)
    (hlt : ¬ N ≥ arrLength o) (hw : lengthWritable o = true) :
    Spec.arraySetLen E d t N o =
      (do let ok ← Spec.defineOwnDefault E .length (shrinkDesc d N) t
          if !ok then pure false else
          Spec.truncateTail E N (shrinkDesc d N) (!(d.w == some false)) t (arrLength o - N) : M Obj Bool) o := by
  obtain ⟨dv, dw, de, dc⟩ := d
  rw [lengthWritable_eq] at hw
  simp only [Spec.arraySetLen, hw, if_false, Bool.true_eq_false]
  rw [oldLen_eq, if_neg hlt]
  rcases dw with _ | _ | _ <;> rfl

/-- the "length" branch: arrayDefineOwnProperty = §15.4.5.1 step 3 -/
theorem setLength_refines (E : Env) (d : Desc) (t : Bool) (N : Nat) (o : Obj) :
    arraySetLength E d t N o = Spec.arraySetLen E d t N o := by
  by_cases hge : N ≥ arrLength o
  · simp only [arraySetLength, Spec.arraySetLen, hge, if_true, objectDefineOwnProperty_refines]
    rw [oldLen_eq, if_pos hge]
  · cases hw : lengthWritable o with
    | false =>
      have hw' := hw
      rw [lengthWritable_eq] at hw'
      simp only [arraySetLength, Spec.arraySetLen, hge, hw, hw', if_false, Bool.not_false, if_true, reject]
      rw [oldLen_eq, if_neg hge]
    | true =>
      rw [arraySetLength_shrink E d t N o hge hw, arraySetLen_shrink E d t N o hge hw, ← objectDefineOwnProperty_refines]
      refine M_bind_congr _ _ _ o fun ok s hs => ?_
      cases ok with
      | false => rfl
      | true => exact shrinkTail_eq E N _ t _ s _ _ (odp_ok E .length _ t o s hs)

/-- the representation invariant of keys, as far as the theorems need it: `name s` is never a canonical index numeral
    (those are `idx n`). That `name s` is not "length" either is not needed: both sides would take such a key for an
    ordinary name. The driver's `keyOfBytes` guarantees both -/
def KeyOK : Key → Prop
  | .length => True
  | .idx _ => True
  | .name s => Spec.arrayIndex? s = none

/-- arrayDefineOwnProperty = §15.4.5.1 on every object, for every key (`KeyOK` is the representation invariant only),
    every data descriptor with optional fields, either throw flag -/
theorem arrayDefine_eq (E : Env) (k : Key) (d : Desc) (t : Bool) (hk : KeyOK k) :
    arrayDefineOwnProperty E k d t = Spec.arrayDefineOwn E k d t := by
  funext o
  unfold arrayDefineOwnProperty Spec.arrayDefineOwn
  cases k with
  | length =>
    simp only [if_true, ← length_range, objectDefineOwnProperty_refines]
    cases d.v with
    | none => rfl
    | some nv =>
      simp only
      cases arrayUint32 E nv with
      | none => rfl
      | some N => exact setLength_refines E d t N o
  | idx m =>
    simp only [reduceCtorEq, if_false, stringToArrayIndex_idx, Key.toBytes, arrayIndex_dec]
    by_cases hm : m < 2^32 - 1
    · have h0 : ((m : Nat) : Int) ≥ 0 := by omega
      simp only [hm, if_true, h0, Int.toNat_natCast]
      exact defineIndex_refines E m d t o
    · have : ¬ ((-1 : Int) ≥ 0) := by omega
      simp only [hm, if_false, this, objectDefineOwnProperty_refines]
  | name s =>
    have h2 : Spec.arrayIndex? s = none := hk
    have : ¬ (stringToArrayIndex (.name s) ≥ 0) := by
      simp only [stringToArrayIndex, Key.toBytes, array_index_eq, h2]; omega
    simp only [reduceCtorEq, this, if_false, Key.toBytes, h2, objectDefineOwnProperty_refines]

/-- [[Put]] on an existing writable data property: otto passes the property's own attributes along with the new
    value, §8.12.5 step 3 passes the value alone — the same [[DefineOwnProperty]] -/
theorem odp_full_vo (E : Env) (k : Key) (v : Val) (t : Bool) (o : Obj) (p : PropD)
    (hl : lookup k o.props = some p) (hw : p.w = true) :
    objectDefineOwnProperty E k ⟨some v, some p.w, some p.e, some p.c⟩ t o = objectDefineOwnProperty E k { v := some v } t o := by
  rw [odp_present E k _ t o p hl, odp_present E k _ t o p hl]
  obtain ⟨pv, pw, pe, pc⟩ := p
  simp only at hw; subst hw
  cases pc <;> simp [refuses, overlay, Desc.isEmpty, Desc.isData, Desc.isGeneric]

/-- §15.4.5.1 gives the same result for otto's full descriptor and §8.12.5's value-only descriptor -/
theorem specDefine_full_vo (E : Env) (k : Key) (v : Val) (t : Bool) (o : Obj) (p : PropD)
    (hl : lookup k o.props = some p) (hw : p.w = true) :
    Spec.arrayDefineOwn E k ⟨some v, some p.w, some p.e, some p.c⟩ t o = Spec.arrayDefineOwn E k { v := some v } t o := by
  unfold Spec.arrayDefineOwn
  by_cases hk : k = .length
  · subst hk
    simp only [if_true]
    cases hN : Spec.lengthOf E v with
    | none => rfl
    | some N =>
      simp only
      by_cases hge : N ≥ arrLength o
      · simp only [Spec.arraySetLen, ← objectDefineOwnProperty_refines]
        rw [oldLen_eq, if_pos hge, if_pos hge]
        exact odp_full_vo E .length (.int N) t o _ hl hw
      · have hlw : lengthWritable o = true := by simp [lengthWritable, hl, hw]
        rw [arraySetLen_shrink E _ t N o hge hlw, arraySetLen_shrink E _ t N o hge hlw]
        obtain ⟨pv, pw, pe, pc⟩ := p
        cases hw
        show (Spec.defineOwnDefault E .length ⟨some (.int N), some true, some pe, some pc⟩ t >>= fun ok =>
              if !ok then pure false else Spec.truncateTail E N ⟨some (.int N), some true, some pe, some pc⟩ true t _) o
          = (Spec.defineOwnDefault E .length { v := some (.int N) } t >>= fun ok =>
              if !ok then pure false else Spec.truncateTail E N { v := some (.int N) } true t _) o
        simp only [bind, M.bind, ← objectDefineOwnProperty_refines, odp_full_vo E .length (.int N) t o _ hl rfl]
        cases hs : objectDefineOwnProperty E .length { v := some (.int N) } t o with
        | err e s => rfl
        | ok b s =>
          -- not `rfl` on `if … then … else truncateTail …`: the unifier would compare the two tails first
          cases b with
          | false => simp only [Bool.not_false, if_true]
          | true =>
            -- the loop meets the length property that define stored, writable, whenever it stops
            have hs' : lookup .length s.props = some ⟨.int N, true, pe, pc⟩ := by rw [odp_ok E .length _ t o s hs, hl]; rfl
            simp only [Bool.not_true, Bool.false_eq_true, if_false, Spec.truncateTail, ← shrinkLoop_refines, bind, M.bind]
            rw [shrinkLoop_congr E N ⟨some (.int N), some true, some pe, some pc⟩ { v := some (.int N) } true t _ s
              fun o' l e => odp_full_vo E .length (.int l) false o' ⟨.int N, true, pe, pc⟩ (e.trans hs') rfl]
  · simp only [hk, if_false, ← objectDefineOwnProperty_refines]
    cases hi : Spec.arrayIndex? k.toBytes with
    | none => exact odp_full_vo E k v t o p hl hw
    | some index => simp only [Spec.arrayDefineIdx, bind, M.bind, ← objectDefineOwnProperty_refines, odp_full_vo E k v false o p hl hw]

/-- objectPut = §8.12.5 [[Put]] (with §15.4.5.1 underneath) on every object, array or not, for every key in `KeyOK` -/
theorem objectPut_eq (E : Env) (k : Key) (v : Val) (t : Bool) (hk : KeyOK k) : objectPut E k v t = Spec.put E k v t := by
  funext o
  have hdef : ∀ d, defineOwnProperty E k d t o = Spec.defineOwn E k d t o := fun d => by
    simp only [defineOwnProperty, Spec.defineOwn, arrayDefine_eq E k d t hk, objectDefineOwnProperty_refines]
  cases hl : lookup k o.props with
  | some p =>
    cases hw : p.w with
    | false => simp [objectPut, Spec.put, canPutDetails, Spec.canPut, hl, hw]
    | true =>
      simp only [objectPut, Spec.put, canPutDetails, Spec.canPut, hl, hw, bind, M.bind, hdef, Bool.not_true,
        Bool.false_eq_true, if_false]
      rw [← hw]
      simp only [Spec.defineOwn, specDefine_full_vo E k v t o p hl hw, ← objectDefineOwnProperty_refines,
        odp_full_vo E k v t o p hl hw]
  | none =>
    cases hp : protoLookup k o <;> cases he : o.ext <;>
      simp [objectPut, Spec.put, canPutDetails, Spec.canPut, hl, hp, he, bind, M.bind, hdef]

/-- the operations of a history on one array: [[DefineOwnProperty]], [[Put]], [[Delete]] with any key
    (including "length" and non-canonical numerals), any descriptor / value, either Throw flag -/
inductive HOp where
  | define (k : Key) (d : Desc) (throw : Bool)
  | put (k : Key) (v : Val) (throw : Bool)
  | delete (k : Key) (throw : Bool)

def HOp.run (E : Env) : HOp → Obj → Obj
  | .define k d t, o => stateOf (defineOwnProperty E k d t o)
  | .put k v t, o => stateOf (objectPut E k v t o)
  | .delete k t, o => stateOf (objectDelete k t o)

def runHist (E : Env) : List HOp → Obj → Obj
  | [], o => o
  | op :: ops, o => runHist E ops (op.run E o)

def HOp.specRun (E : Env) : HOp → Obj → Obj
  | .define k d t, o => stateOf (Spec.defineOwn E k d t o)
  | .put k v t, o => stateOf (Spec.put E k v t o)
  | .delete k t, o => stateOf (Spec.delete k t o)

def specRunHist (E : Env) : List HOp → Obj → Obj
  | [], o => o
  | op :: ops, o => specRunHist E ops (op.specRun E o)

def StepOK : HOp → Prop
  | .define k _ _ => KeyOK k
  | .put k _ _ => KeyOK k
  | .delete _ _ => True

def HistOK (ops : List HOp) : Prop := ∀ op ∈ ops, StepOK op

theorem step_eq (E : Env) (op : HOp) (hok : StepOK op) : op.run E = op.specRun E := by
  funext o
  cases op with
  | define k d t =>
    simp only [HOp.run, HOp.specRun, defineOwnProperty, Spec.defineOwn, arrayDefine_eq E k d t hok,
      objectDefineOwnProperty_refines]
  | put k v t => simp only [HOp.run, HOp.specRun, objectPut_eq E k v t hok]
  | delete k t => simp only [HOp.run, HOp.specRun, objectDelete_refines]

end OttoVerif.C08.Thm
