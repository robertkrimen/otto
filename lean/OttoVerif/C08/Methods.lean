/-
  C08/Methods: the Array.prototype methods, generic in the object operations `Ops` (every array and array-like, callbacks
  that change the receiver). Model and specification run the same loops; what is proved is the index arithmetic (Go's
  saturating int64 against ToInteger: `sat_invisible`) and the order of the observable steps (`M_bind_congr`).
-/
import OttoVerif.C08.Values
import OttoVerif.C08.Monad
namespace OttoVerif.C08.Thm
open OttoVerif.C08 OttoVerif.F64

variable {σ : Type}

theorem moveStep_eq (O : Ops σ) (a b : Nat) : moveStep O a b = Spec.moveOrDelete O a b := rfl

theorem pushLoop_eq (O : Ops σ) (items : List Val) (n : Nat) : pushLoop O items n = Spec.pushItems O items n := by
  induction items generalizing n with
  | nil => rfl
  | cons x xs ih => simp only [pushLoop, Spec.pushItems, ih]

theorem push_refines (O : Ops σ) (items : List Val) : push O items = Spec.push O items := by
  simp only [push, Spec.push, pushCore, Spec.pushCore, pushLoop_eq]

theorem pop_refines (O : Ops σ) : pop O = Spec.pop O := rfl

theorem shift_refines (O : Ops σ) : shift O = Spec.shift O := rfl

theorem putItems_eq (O : Ops σ) (items : List Val) (n : Nat) : putItems O items n = Spec.putFrom O items n := by
  induction items generalizing n with
  | nil => rfl
  | cons x xs ih => simp only [putItems, Spec.putFrom, ih]

theorem unshift_refines (O : Ops σ) (items : List Val) : unshift O items = Spec.unshift O items := by
  have h : ∀ len, unshiftCore O len items = Spec.unshiftCore O len items := by
    intro len; funext s; simp only [unshiftCore, Spec.unshiftCore, putItems_eq]; rfl
  simp only [unshift, Spec.unshift, h]

theorem toBool_eq (v : Val) : toBool v = Spec.toBoolean v := by
  cases v with
  | str s => cases s <;> simp [toBool, Spec.toBoolean]
  | _ => simp [toBool, Spec.toBoolean, bne, BEq.beq]

/-- the callback builtins: `length` is read, then IsCallable is tested (§15.4.4.16 steps 2–4). The cores of model
    and specification are the same loop, up to `toBool`/`toBoolean` where the callback's result is tested. -/
theorem iterate_refines (O : Ops σ) (c : Bool) (coreM : Nat → M σ Ret) (coreS : Nat → Bool → M σ Ret)
    (h1 : ∀ len, coreM len = coreS len true) (h2 : ∀ len s, coreS len false s = .err .type s) :
    iterate O c coreM = (do let len ← readLen O; coreS len c) := by
  funext s
  refine M_bind_congr _ _ _ s fun len s1 _ => ?_
  cases c with
  | true => simp only [Bool.not_true, Bool.false_eq_true, if_false, h1]
  | false => exact (h2 len s1).symm

theorem every_refines (O : Ops σ) (c : Bool) : every O c = Spec.every O c :=
  iterate_refines O c (everyCore O) (Spec.everyCore O)
    (fun _ => funext fun _ => by simp only [everyCore, toBool_eq]; rfl) (fun _ _ => rfl)

theorem some_refines (O : Ops σ) (c : Bool) : some_ O c = Spec.some_ O c :=
  iterate_refines O c (someCore O) (Spec.someCore O)
    (fun _ => funext fun _ => by simp only [someCore, toBool_eq]; rfl) (fun _ _ => rfl)

theorem forEach_refines (O : Ops σ) (c : Bool) : forEach O c = Spec.forEach O c :=
  iterate_refines O c (forEachCore O) (Spec.forEachCore O) (fun _ => rfl) (fun _ _ => rfl)

theorem filter_refines (O : Ops σ) (c : Bool) : filter O c = Spec.filter O c :=
  iterate_refines O c (filterCore O) (Spec.filterCore O)
    (fun _ => funext fun _ => by simp only [filterCore, toBool_eq]; rfl) (fun _ _ => rfl)

/-- map = §15.4.4.19 -/
theorem map_refines (O : Ops σ) (c : Bool) : map O c = Spec.map O c :=
  iterate_refines O c (mapCore O) (Spec.mapCore O) (fun _ => rfl) (fun _ _ => rfl)

/-- reduce = §15.4.4.21 -/
theorem reduce_refines (O : Ops σ) (c : Bool) (args : List Val) :
    reduce O c args = Spec.reduce O c args := by
  apply iterate_refines O c _ (fun len c => Spec.reduceCore O len c args)
  · intro len; funext s
    simp only [reduceCore, Spec.reduceCore, Bool.not_true, Bool.false_eq_true, if_false]
    -- with an initial value both sides start from it; without one, from the first present element if there is any
    cases args with
    | cons a r => simp
    | nil => by_cases hl : len = 0 <;> cases hk : searchUp (O.has s) 0 len <;> simp [hl, Nat.pos_iff_ne_zero]
  · intro len s; rfl

/-- reduceRight = §15.4.4.22 -/
theorem reduceRight_refines (O : Ops σ) (c : Bool) (args : List Val) :
    reduceRight O c args = Spec.reduceRight O c args := by
  apply iterate_refines O c _ (fun len c => Spec.reduceRightCore O len c args)
  · intro len; funext s
    simp only [reduceRightCore, Spec.reduceRightCore, Bool.not_true, Bool.false_eq_true, if_false]
    cases args with
    | cons a r => simp
    | nil => by_cases hl : len = 0 <;> cases hk : searchDown (O.has s) len <;> simp [hl, Nat.pos_iff_ne_zero]
  · intro len s; rfl

/-- concat = §15.4.4.4 -/
theorem concat_refines (O : Ops σ) (items : List CArg) : concat O items = Spec.concat O items := by
  funext s
  have h : concatItem = Spec.concatItem := by funext it; cases it <;> rfl
  simp only [concat, Spec.concat, h]

theorem reverseStep_eq (O : Ops σ) (lower upper : Nat) : reverseStep O lower upper = Spec.reverseStep O lower upper := by
  funext s
  simp only [reverseStep, Spec.reverseStep]
  cases O.has s lower <;> cases O.has s upper <;> simp

/-- reverse = §15.4.4.8 for every receiver -/
theorem reverse_refines (O : Ops σ) : reverse O = Spec.reverse O := by
  have hcore : ∀ len, reverseCore O len = Spec.reverseCore O len := fun len =>
    funext fun s => by simp only [reverseCore, Spec.reverseCore, reverseStep_eq]
  simp only [reverse, Spec.reverse, hcore]

/-- the saturated int64 that `number()` produces from the ES5 integer -/
def sat : Spec.IntInf → Int
  | .fin i => if i ≥ 2^63 then maxInt64 else if i ≤ -(2^63 : Int) then minInt64 else i
  | .pinf => maxInt64
  | .ninf => minInt64

/-- values whose integer payload is a Go int64 -/
def WFv : Val → Prop
  | .int i => minInt64 ≤ i ∧ i ≤ maxInt64
  | _ => True

theorem sat_fin (i : Int) (h : minInt64 ≤ i ∧ i ≤ maxInt64) : sat (.fin i) = i := by
  simp only [minInt64, maxInt64] at h
  simp only [sat, minInt64, maxInt64]
  split <;> (try split) <;> omega

theorem toI64_sat (E : Env) (v : Val) (h : WFv v) : toI64 E v = sat (Spec.toInteger E v) := by
  cases v with
  | int i => exact (sat_fin i h).symm
  | undef | null | bool _ | num _ | str _ | recv | obj _ =>
    simp only [toI64, Spec.toInteger, toFloat_eq]
    cases Spec.toNumber E _ with
    | nan => simp [sat]
    | inf s => cases s <;> simp [sat]
    | fin s m e => simp only [sat]

/-- Go's float64 → int64 conversion saturates, and the index functions of §15.4.4 cannot tell: each of them is
    constant from 2^63 − 1 upwards and from −2^63 downwards -/
theorem sat_invisible {α : Type} (f : Spec.IntInf → α)
    (hp : ∀ i : Int, 2^63 - 1 ≤ i → f (.fin i) = f .pinf) (hn : ∀ i : Int, i ≤ -(2^63) → f (.fin i) = f .ninf)
    (r : Spec.IntInf) : f (.fin (sat r)) = f r := by
  cases r with
  | pinf => exact hp _ (Int.le_refl _)
  | ninf => exact hn _ (Int.le_refl _)
  | fin i =>
    simp only [sat, maxInt64, minInt64]
    split
    · rw [hp _ (Int.le_refl _), hp i (by omega)]
    · split
      · rw [hn _ (Int.le_refl _), hn i (by omega)]
      · rfl

theorem rangeIndex_false (i : Int) (len : Nat) : rangeIndex i len false = (Spec.relIndex (.fin i) len : Nat) := by
  simp only [rangeIndex, Spec.relIndex, Bool.false_eq_true, if_false]
  split <;> split <;> first | omega | (split <;> omega)

theorem relIndex_sat (r : Spec.IntInf) (len : Nat) (hlen : len < 2^62) :
    Spec.relIndex (.fin (sat r)) len = Spec.relIndex r len := by
  apply sat_invisible (fun r => Spec.relIndex r len) <;> intro i hi <;> simp only [Spec.relIndex]
  · split <;> first | omega | (split <;> omega)
  · split <;> first | omega | (split <;> omega)

theorem relIndex_le (r : Spec.IntInf) (len : Nat) : Spec.relIndex r len ≤ len := by
  cases r with
  | fin i => simp only [Spec.relIndex]; split <;> split <;> omega
  | _ => simp [Spec.relIndex]

/-- valueToRangeIndex with negativeIsZero = false is the relative-index clamp of §15.4.4.10 -/
theorem range_index (E : Env) (v : Val) (len : Nat) (hv : WFv v) (hlen : len < 2^62) :
    valueToRangeIndex E v len false = (Spec.relIndex (Spec.toInteger E v) len : Nat) := by
  rw [valueToRangeIndex, toI64_sat E v hv, rangeIndex_false, relIndex_sat _ _ hlen]

theorem rangeIndex_true (i : Int) (len : Nat) : rangeIndex i len true = (Spec.clamp0 (.fin i) len : Nat) := by
  simp only [rangeIndex, Spec.clamp0, if_true]
  split <;> split <;> first | omega | (split <;> omega)

theorem clamp0_sat (r : Spec.IntInf) (len : Nat) (hlen : len < 2^62) :
    Spec.clamp0 (.fin (sat r)) len = Spec.clamp0 r len := by
  apply sat_invisible (fun r => Spec.clamp0 r len) <;> intro i hi <;> simp only [Spec.clamp0]
  · split <;> first | omega | (split <;> omega)
  · split <;> first | omega | (split <;> omega)

theorem clamp0_le (r : Spec.IntInf) (m : Nat) : Spec.clamp0 r m ≤ m := by
  cases r with
  | fin i => simp only [Spec.clamp0]; split <;> first | omega | (split <;> omega)
  | _ => simp [Spec.clamp0]

theorem clamp0_zero (m : Nat) : Spec.clamp0 (.fin 0) m = 0 := by
  simp only [Spec.clamp0]; split <;> first | omega | (split <;> omega)

/-- valueToRangeIndex with negativeIsZero = true is min(max(ToInteger(v), 0), len) -/
theorem range_index_nz (E : Env) (v : Val) (len : Nat) (hv : WFv v) (hlen : len < 2^62) :
    valueToRangeIndex E v len true = (Spec.clamp0 (Spec.toInteger E v) len : Nat) := by
  rw [valueToRangeIndex, toI64_sat E v hv, rangeIndex_true, clamp0_sat _ _ hlen]

theorem argAt_len1 (args : List Val) (h : args.length = 1) : argAt args 1 = .undef := by
  cases args with
  | nil => cases h
  | cons a r => cases r with
    | nil => rfl
    | cons b r => cases h

theorem argAt_wf (args : List Val) (h : ∀ a ∈ args, WFv a) (i : Nat) : WFv (argAt args i) := by
  unfold argAt
  cases hi : args[i]? with
  | none => simp [WFv]
  | some a => simp only [Option.getD]; exact h a (List.mem_of_getElem? hi)

/-- the slice bounds computed by rangeStartEnd are those of §15.4.4.10 steps 5–8 -/
theorem rangeStartEnd_eq (E : Env) (args : List Val) (len : Nat) (hargs : ∀ a ∈ args, WFv a) (hlen : len < 2^62) :
    rangeStartEnd E args len =
      (((Spec.relIndex (Spec.toInteger E (argAt args 0)) len : Nat) : Int),
       ((Spec.relIndex (if argAt args 1 = .undef then .fin len else Spec.toInteger E (argAt args 1)) len : Nat) : Int)) := by
  have hrel : Spec.relIndex (.fin len) len = len := by
    simp only [Spec.relIndex, Int.lt_irrefl, if_false, show ¬ ((len : Int) < 0) by omega]
  simp only [rangeStartEnd, range_index E _ len (argAt_wf args hargs 0) hlen]
  by_cases h1 : args.length = 1
  · simp [h1, argAt_len1 args h1, hrel]
  · simp only [h1, if_false]
    by_cases h2 : argAt args 1 = .undef
    · simp [h2, hrel]
    · simp [h2, range_index E _ len (argAt_wf args hargs 1) hlen]

/-- the two side conditions of the index arithmetic: converted arguments are well-formed values (an integer payload
    is a Go int64) and lengths stay below 2^62 (they are uint32 in otto) -/
def ConvWF (O : Ops σ) : Prop := ∀ v s p s', O.conv v s = .ok p s' → WFv p

def LenSmall (O : Ops σ) : Prop := ∀ s, O.len s < 2^62

def Prim (O : Ops σ) (v : Val) : Prop := ∀ s, O.conv v s = .ok v s

/-- two programs that begin by reading `length` need agree only on the lengths a receiver can have: what `readLen`
    returns is the length of the state it leaves -/
theorem readLen_congr (O : Ops σ) (hlen : LenSmall O) {α : Type} (f g : Nat → M σ α) (s : σ)
    (h : ∀ len s1, len < 2^62 → f len s1 = g len s1) : (readLen O >>= f) s = (readLen O >>= g) s := by
  refine M_bind_congr _ _ _ s fun len s1 hl => h len s1 ?_
  simp only [readLen, bind, M.bind, M.read] at hl
  cases hr : O.lenRead s with
  | err e s' => rw [hr] at hl; cases hl
  | ok u s' => rw [hr] at hl; cases hl; exact hlen _

/-- the conversion of `v` yields a well-formed value, whenever it returns: what a call needs to know of the conversions
    it performs (`ConvWF` asks it of every value) -/
def ConvOK (O : Ops σ) (v : Val) : Prop := ∀ s p s', O.conv v s = .ok p s' → WFv p

theorem ConvWF.ok {O : Ops σ} (h : ConvWF O) (v : Val) : ConvOK O v := h v

/-- …and two programs that go on by converting an argument, only on well-formed results -/
theorem conv_congr (O : Ops σ) {α : Type} (v : Val) (hv : ConvOK O v) (f g : Val → M σ α) (s : σ)
    (h : ∀ p s1, WFv p → f p s1 = g p s1) : (O.conv v >>= f) s = (O.conv v >>= g) s :=
  M_bind_congr _ _ _ s fun p s1 hc => h p s1 (hv _ _ _ hc)

theorem wfv_numPrim (p : Val) (h : WFv p) : WFv (numPrim p) := by
  unfold numPrim; split
  · trivial
  · exact h

/-- slice on converted arguments = §15.4.4.10 steps 5–10 -/
theorem sliceCore_refines (O : Ops σ) (E : Env) (len : Nat) (args : List Val) (s : σ)
    (hargs : ∀ a ∈ args, WFv a) (hlen : len < 2^62) :
    sliceCore O E len args s = Spec.sliceCore O E len args s := by
  simp only [sliceCore, Spec.sliceCore, rangeStartEnd_eq E args len hargs hlen]
  generalize Spec.relIndex (Spec.toInteger E (argAt args 0)) len = k
  generalize Spec.relIndex (if argAt args 1 = .undef then .fin len else Spec.toInteger E (argAt args 1)) len = final
  by_cases hge : (k : Int) ≥ (final : Int)
  · have : final - k = 0 := by omega
    simp [hge, this]
  · have h1 : ((final : Int) - (k : Int)).toNat = final - k := by omega
    simp only [hge, if_false, h1, Int.toNat_natCast]
    congr 2
    apply List.map_congr_left
    intro n _
    simp [Nat.add_comm n k]

theorem wf_nil : ∀ x ∈ ([] : List Val), WFv x := fun _ h => nomatch h

theorem wf_cons (a : Val) (l : List Val) (wa : WFv a) (wl : ∀ x ∈ l, WFv x) : ∀ x ∈ a :: l, WFv x :=
  List.forall_mem_cons.2 ⟨wa, wl⟩

theorem slice_refines_of (O : Ops σ) (E : Env) (args : List Val) (h0 : ConvOK O (argAt args 0))
    (h1 : ConvOK O (argAt args 1)) (hlen : LenSmall O) : slice O E args = Spec.slice O E args := by
  funext s
  simp only [slice, Spec.slice, sliceArgs, M_bind_assoc, M_ite_bind, M_pure_bind]
  refine readLen_congr O hlen _ _ s fun len s1 hlen' => ?_
  refine conv_congr O _ h0 _ _ s1 fun p0 s2 w0 => ?_
  by_cases hl1 : args.length = 1
  · -- otto passes one argument on, §15.4.4.10 an undefined end: `Spec.sliceCore` reads a missing end as undefined
    rw [if_pos hl1, argAt_len1 args hl1, if_pos rfl]
    exact sliceCore_refines O E _ [p0] s2 (wf_cons p0 _ w0 wf_nil) hlen'
  · rw [if_neg hl1]
    split
    · exact sliceCore_refines O E _ _ s2 (wf_cons p0 _ w0 (wf_cons _ _ trivial wf_nil)) hlen'
    · exact conv_congr O _ h1 _ _ s2 fun p1 s3 w1 =>
        sliceCore_refines O E _ _ s3 (wf_cons p0 _ w0 (wf_cons _ _ (wfv_numPrim p1 w1) wf_nil)) hlen'

/-- **slice = §15.4.4.10**, with the order of the observable steps: length, ToInteger(start), ToInteger(end) -/
theorem slice_refines (O : Ops σ) (E : Env) (args : List Val) (hconv : ConvWF O) (hlen : LenSmall O) :
    slice O E args = Spec.slice O E args :=
  slice_refines_of O E args (hconv.ok _) (hconv.ok _) hlen

/-- splice = §15.4.4.12 for every receiver and every argument list except the one-argument form
    (`splice_one_argument`: ES5.1 removes nothing there, otto and ES2015 remove up to the end) -/
theorem spliceCore_refines (O : Ops σ) (E : Env) (len : Nat) (args : List Val) (s : σ)
    (h0 : WFv (argAt args 0)) (h1 : WFv (argAt args 1)) (hlen : len < 2^62) (hargc : args.length ≠ 1) :
    spliceCore O E len args s = Spec.spliceCore O E len args s := by
  have hstart := range_index E (argAt args 0) (len) h0 hlen
  generalize hk : Spec.relIndex (Spec.toInteger E (argAt args 0)) (len) = start at hstart
  have hstart_le : start ≤ len := hk ▸ relIndex_le _ _
  have hcast : ((len : Nat) : Int) - (start : Int) = ((len - start : Nat) : Int) := by omega
  generalize hd : Spec.clamp0 (Spec.toInteger E (argAt args 1)) (len - start) = dc
  have hdc_le : dc ≤ len - start := hd ▸ clamp0_le _ _
  -- otto's deleteCount is the specification's actualDeleteCount
  have hdc : (if args.length > 1 then valueToRangeIndex E (argAt args 1) ((len - start : Nat) : Int) true
      else if args.length = 0 then 0 else ((len - start : Nat) : Int)) = ((dc : Nat) : Int) := by
    by_cases h2 : args.length > 1
    · simp only [h2, if_true]
      have := range_index_nz E (argAt args 1) (len - start) h1 (by omega)
      rw [this, hd]
    · have h0 : args.length = 0 := by omega
      simp only [h0, if_true]
      have hnil : args = [] := List.eq_nil_of_length_eq_zero h0
      subst hnil
      have : dc = 0 := by rw [← hd]; exact clamp0_zero _
      rw [this]; rfl
  have hlenv : (Val.int ((len : Int) + ((args.drop 2).length : Nat) - (dc : Int)))
      = Val.int (((len - dc + (args.drop 2).length : Nat) : Nat) : Int) := by
    congr 1; omega
  simp only [spliceCore, Spec.spliceCore, hk, hstart, hcast, hdc, Int.toNat_natCast, hd, putItems_eq, moveStep_eq, hlenv]
  -- what is left differs in how the number of trailing deletes is written
  by_cases h1 : (args.drop 2).length < dc
  · have e3 : len - (len - dc + (args.drop 2).length) = dc - (args.drop 2).length := by omega
    rw [if_pos h1, if_pos h1, e3]
  · rw [if_neg h1, if_neg h1]

theorem argAt_set_other (args : List Val) (p : Val) : argAt (args.set 0 p) 1 = argAt args 1 := by
  match args with
  | [] => rfl
  | [a] => rfl
  | a :: b :: r => rfl

theorem splice_refines_of (O : Ops σ) (E : Env) (args : List Val) (h0 : ConvOK O (argAt args 0))
    (h1 : ConvOK O (argAt args 1)) (hlen : LenSmall O) (hargc : args.length ≠ 1) (hundef : Prim O .undef) :
    splice O E args = Spec.splice O E args := by
  funext s
  simp only [splice, Spec.splice]
  refine readLen_congr O hlen _ _ s fun len s1 hlen' => ?_
  by_cases hz : args.length = 0
  · have hnil : args = [] := List.eq_nil_of_length_eq_zero hz
    subst hnil
    have hu : O.conv .undef = pure .undef := funext hundef
    simp only [convAt, List.length_nil, gt_iff_lt, Nat.not_lt_zero, if_false, M_pure_bind, argAt, List.getElem?_nil,
      Option.getD_none, hu, List.drop_nil]
    -- §15.4.4.12 converts two undefined arguments: `Spec.spliceCore` reads missing arguments as undefined
    exact spliceCore_refines O E _ [] s1 trivial trivial hlen' (by simp)
  · have h2 : args.length > 1 := by omega
    have hpos : args.length > 0 := by omega
    simp only [convAt, hpos, if_true, M_bind_assoc, M_pure_bind]
    refine conv_congr O _ h0 _ _ s1 fun p0 s2 w0 => ?_
    simp only [List.length_set, h2, if_true, argAt_set_other, M_bind_assoc, M_pure_bind]
    refine conv_congr O _ h1 _ _ s2 fun p1 s3 w1 => ?_
    have hset : (args.set 0 p0).set 1 p1 = p0 :: p1 :: args.drop 2 := by
      match args, h2 with
      | a :: b :: r, _ => simp
    rw [hset]
    exact spliceCore_refines O E _ _ s3 w0 w1 hlen' (by simp)

/-- **splice = §15.4.4.12** with the order length, ToInteger(start), ToInteger(deleteCount), for every argument
    count except exactly one (`splice_one_argument`) -/
theorem splice_refines (O : Ops σ) (E : Env) (args : List Val) (hconv : ConvWF O) (hlen : LenSmall O)
    (hargs : ∀ a ∈ args, WFv a) (hargc : args.length ≠ 1) (hundef : Prim O .undef) :
    splice O E args = Spec.splice O E args :=
  splice_refines_of O E args (hconv.ok _) (hconv.ok _) hlen hargc hundef

/-- otto's start index as an int64: −1 stands for the specification's "return −1" -/
def startVal : Option Nat → Int
  | none => -1
  | some k => k

/-- otto's normalised start index is the start of §15.4.4.14 steps 5–8 -/
theorem indexOf_norm (i : Int) (len : Nat) :
    (if i < 0 then (if i + (len : Int) < 0 then 0 else i + (len : Int)) else if i ≥ (len : Int) then -1 else i)
    = startVal (Spec.indexOfStart (.fin i) len) := by
  have hc : i + (len : Int) < 0 ↔ (len : Int) + i < 0 := by omega
  simp only [Spec.indexOfStart, hc]
  by_cases h0 : i < 0
  · have h1 : ¬ i ≥ (len : Int) := by omega
    have h2 : ¬ i ≥ 0 := by omega
    simp only [h0, h1, h2, if_true, if_false]
    split <;> simp only [startVal] <;> omega
  · have h2 : i ≥ 0 := by omega
    simp only [h0, h2, if_true, if_false]
    split <;> simp only [startVal] <;> omega

theorem indexOfStart_sat (n : Spec.IntInf) (len : Nat) (hlen : len < 2^62) :
    Spec.indexOfStart (.fin (sat n)) len = Spec.indexOfStart n len := by
  apply sat_invisible (fun n => Spec.indexOfStart n len) <;> intro i hi <;> simp only [Spec.indexOfStart]
  · rw [if_pos (by omega)]
  · rw [if_neg (by omega), if_neg (by omega), if_pos (by omega)]

theorem indexOfStart_lt (n : Spec.IntInf) (len k : Nat) (h : Spec.indexOfStart n len = some k) (hl0 : 0 < len) : k < len := by
  cases n with
  | pinf => cases h
  | ninf => injection h; omega
  | fin i =>
    simp only [Spec.indexOfStart] at h
    repeat' split at h
    all_goals first | (injection h; omega) | cases h

/-- the fromIndex of indexOf / lastIndexOf as otto's int64: the argument if it was passed, a default otherwise -/
theorem fromIndex_sat (E : Env) (args : List Val) (d : Int) (h1 : args.length > 1 → WFv (argAt args 1))
    (hd : minInt64 ≤ d ∧ d ≤ maxInt64) :
    (if args.length > 1 then toI64 E (argAt args 1) else d)
      = sat (if args.length > 1 then Spec.toInteger E (argAt args 1) else .fin d) := by
  split
  · exact toI64_sat E _ (h1 ‹_›)
  · exact (sat_fin d hd).symm

theorem indexOfCore_refines (O : Ops σ) (E : Env) (len : Nat) (args : List Val) (s : σ)
    (h1 : len ≠ 0 → args.length > 1 → WFv (argAt args 1)) (hlen : len < 2^62) :
    indexOfCore O E len args s = Spec.indexOfCore O E len args s := by
  simp only [indexOfCore, Spec.indexOfCore]
  by_cases h0 : len = 0
  · simp [h0]
  · have hpos : ((len : Nat) : Int) > 0 := by omega
    simp only [hpos, if_true, h0, if_false]
    rw [fromIndex_sat E args 0 (h1 h0) (by decide)]
    generalize (if args.length > 1 then Spec.toInteger E (argAt args 1) else Spec.IntInf.fin 0) = n
    rw [indexOf_norm, indexOfStart_sat n len hlen]
    cases hst : Spec.indexOfStart n (len) with
    | none => simp [startVal]
    | some k =>
      have hk := indexOfStart_lt n (len) k hst (by omega)
      have hk1 : ((k : Nat) : Int) ≥ 0 ∧ ((k : Nat) : Int) < ((len : Nat) : Int) := by omega
      have hk2 : (((len : Nat) : Int) - (k : Int)).toNat = len - k := by omega
      simp only [startVal, hk1, and_self, if_true, hk2, Int.toNat_natCast, strictEquals_eq]
      cases List.find? _ (List.range (len - k)) with
      | none => rfl
      | some j => simp

/-- the number of positions otto's lastIndexOf examines, as a function of the (negative-adjusted) fromIndex -/
def lastCount (i' : Int) (len : Nat) : Nat :=
  if i' ≥ (len : Int) then len else if 0 > i' then 0 else (i' + 1).toNat

theorem lastCount_norm (i : Int) (len : Nat) :
    lastCount (if 0 > i then i + (len : Int) else i) len = Spec.lastIndexOfCount (.fin i) len := by
  simp only [lastCount, Spec.lastIndexOfCount]
  by_cases h0 : 0 > i
  · have h1 : ¬ i ≥ 0 := by omega
    have h2 : ¬ i + (len : Int) ≥ (len : Int) := by omega
    simp only [h0, h1, h2, if_true, if_false]
    split <;> omega
  · have h1 : i ≥ 0 := by omega
    simp only [h0, h1, if_true, if_false]
    split <;> split <;> omega

theorem lastIndexOfCount_sat (n : Spec.IntInf) (len : Nat) (hlen : len < 2^62) :
    Spec.lastIndexOfCount (.fin (sat n)) len = Spec.lastIndexOfCount n len := by
  apply sat_invisible (fun n => Spec.lastIndexOfCount n len) <;> intro i hi <;> simp only [Spec.lastIndexOfCount]
  · rw [if_pos (by omega), if_neg (by omega)]
  · rw [if_neg (by omega)]; omega

/-- lastIndexOf on a converted fromIndex = §15.4.4.15 steps 4–9 -/
theorem lastIndexOfCore_refines (O : Ops σ) (E : Env) (len : Nat) (args : List Val) (s : σ)
    (h1 : len ≠ 0 → args.length > 1 → WFv (argAt args 1)) (hlen : len < 2^62) :
    lastIndexOfCore O E len args s = Spec.lastIndexOfCore O E len args s := by
  simp only [lastIndexOfCore, Spec.lastIndexOfCore]
  by_cases h0 : len = 0
  · -- nothing is searched, whatever fromIndex is
    subst h0
    simp only [if_true]
    generalize (if args.length > 1 then toI64 E (argAt args 1) else ((0 : Nat) : Int) - 1) = i
    by_cases hi : 0 > i
    · simp only [hi, if_true, show ¬ i + ((0 : Nat) : Int) ≥ ((0 : Nat) : Int) by omega, if_false,
        show 0 > i + ((0 : Nat) : Int) by omega]
      rfl
    · simp only [hi, if_false, show i ≥ ((0 : Nat) : Int) by omega, if_true]
      rfl
  · simp only [h0, if_false]
    rw [fromIndex_sat E args _ (h1 h0) (by simp only [minInt64, maxInt64]; omega)]
    generalize (if args.length > 1 then Spec.toInteger E (argAt args 1) else Spec.IntInf.fin (((len : Nat) : Int) - 1)) = n
    have hc := (lastCount_norm (sat n) len).trans (lastIndexOfCount_sat n len hlen)
    generalize (if 0 > sat n then sat n + (len : Int) else sat n) = i' at hc
    -- otto's three-way branch is one downward search over `lastCount i' len` positions
    have hmodel : ∀ P : Nat → Bool,
        (if i' ≥ ((len : Nat) : Int) then
            (Res.ok (indexRet (searchDown P ((((len : Nat) : Int) - 1) + 1).toNat)) s : Res σ Ret)
          else if 0 > i' then .ok (indexRet none) s
          else .ok (indexRet (searchDown P (i' + 1).toNat)) s)
        = .ok (indexRet (searchDown P (lastCount i' (len)))) s := by
      intro P
      simp only [lastCount]
      by_cases h1 : i' ≥ ((len : Nat) : Int)
      · have : ((((len : Nat) : Int) - 1) + 1).toNat = len := by omega
        simp only [h1, if_true, this]
      · by_cases h2 : 0 > i'
        · simp only [h1, h2, if_true, if_false, searchDown]
        · simp only [h1, h2, if_false]
    rw [hmodel, hc]
    simp only [strictEquals_eq]

theorem argAt_set_self (args : List Val) (i : Nat) (p : Val) (h : args.length > i) : argAt (args.set i p) i = p := by
  simp [argAt, List.getElem?_set_self h]

/-- indexOf and lastIndexOf read `length` and then, unless it is 0, convert fromIndex if it was passed -/
theorem fromIndex_refines (O : Ops σ) (args : List Val) (coreM coreS : Nat → List Val → M σ Ret)
    (hconv : ConvOK O (argAt args 1)) (hlen : LenSmall O)
    (h : ∀ len pargs s, (len ≠ 0 → pargs.length > 1 → WFv (argAt pargs 1)) → len < 2^62 → coreM len pargs s = coreS len pargs s) :
    (do let len ← readLen O
        let pargs ← if len = 0 then pure args else convAt O args 1
        coreM len pargs)
    = (do let len ← readLen O
          let pargs ← if len = 0 then pure args else convAt O args 1
          coreS len pargs) := by
  funext s
  refine readLen_congr O hlen _ _ s fun len s1 hlen' => ?_
  split
  · exact h len args s1 (fun h0 => absurd ‹_› h0) hlen'
  · simp only [convAt]
    split
    · simp only [M_bind_assoc, M_pure_bind]
      exact conv_congr O _ hconv _ _ s1 fun p s2 wp =>
        h _ _ s2 (fun _ _ => by rw [argAt_set_self args 1 p ‹_›]; exact wp) hlen'
    · exact h len args s1 (fun _ hl => absurd hl ‹_›) hlen'

theorem indexOf_refines_of (O : Ops σ) (E : Env) (args : List Val) (hconv : ConvOK O (argAt args 1)) (hlen : LenSmall O) :
    indexOf O E args = Spec.indexOf O E args := by
  have : ∀ (len : Nat) (x y : M σ Ret), (if len > 0 then x else y) = if len = 0 then y else x := by
    intro len x y; by_cases h : len = 0 <;> simp [h, Nat.pos_iff_ne_zero]
  simp only [indexOf, this]
  exact fromIndex_refines O args _ _ hconv hlen (indexOfCore_refines O E)

/-- **indexOf = §15.4.4.14**, including the order: length, (nothing more if it is 0), ToInteger(fromIndex) -/
theorem indexOf_refines (O : Ops σ) (E : Env) (args : List Val) (hconv : ConvWF O) (hlen : LenSmall O)
    (hargs : ∀ a ∈ args, WFv a) : indexOf O E args = Spec.indexOf O E args :=
  indexOf_refines_of O E args (hconv.ok _) hlen

theorem lastIndexOf_refines_of (O : Ops σ) (E : Env) (args : List Val) (hconv : ConvOK O (argAt args 1))
    (hlen : LenSmall O) : lastIndexOf O E args = Spec.lastIndexOf O E args :=
  fromIndex_refines O args _ _ hconv hlen (lastIndexOfCore_refines O E)

/-- **lastIndexOf = §15.4.4.15**, including the order: length, (nothing more if it is 0), ToInteger(fromIndex) -/
theorem lastIndexOf_refines (O : Ops σ) (E : Env) (args : List Val) (hconv : ConvWF O) (hlen : LenSmall O)
    (hargs : ∀ a ∈ args, WFv a) : lastIndexOf O E args = Spec.lastIndexOf O E args :=
  lastIndexOf_refines_of O E args (hconv.ok _) hlen

theorem foldl_join_prefix (sep p b : List Nat) (l : List (List Nat)) :
    l.foldl (fun r x => (r ++ sep) ++ x) (p ++ b) = p ++ l.foldl (fun r x => (r ++ sep) ++ x) b := by
  induction l generalizing b with
  | nil => rfl
  | cons x xs ih =>
    simp only [List.foldl_cons]
    have : (p ++ b ++ sep) ++ x = p ++ ((b ++ sep) ++ x) := by simp [List.append_assoc]
    rw [this, ih]

/-- strings.Join is the left fold of §15.4.4.5 steps 7–10 -/
theorem goJoin_foldl (a : List Nat) (l : List (List Nat)) (sep : List Nat) :
    goJoin (a :: l) sep = l.foldl (fun r x => (r ++ sep) ++ x) a := by
  induction l generalizing a with
  | nil => rfl
  | cons b l ih =>
    simp only [goJoin, List.foldl_cons]
    rw [ih b]
    have := foldl_join_prefix sep (a ++ sep) b l
    simp only [List.append_assoc] at this ⊢
    exact this.symm

theorem goJoin_snoc (a : List Nat) (l : List (List Nat)) (x sep : List Nat) :
    goJoin (a :: (l ++ [x])) sep = (goJoin (a :: l) sep ++ sep) ++ x := by
  rw [goJoin_foldl, goJoin_foldl, List.foldl_append]; rfl

/-- the loop shared by join and toLocaleString: the list that strings.Join receives at the end is the running string R
    of §15.4.4.5 / §15.4.4.3 step 10, whatever the element conversion does to the state -/
theorem collectLoop_refines (O : Ops σ) (elem : Val → M σ (List Nat)) (sep : List Nat) (n : Nat) :
    ∀ (lo : Nat) (a : List Nat) (l : List (List Nat)) (s : σ),
    (foldUp (collectStep O elem) lo n (a :: l) >>= fun sl => (pure (Ret.val (.str (goJoin sl sep))) : M σ Ret)) s
    = (foldUp (Spec.appendNext O elem sep) lo n (goJoin (a :: l) sep) >>= fun r => (pure (Ret.val (.str r)) : M σ Ret)) s := by
  induction n with
  | zero => intro lo a l s; rfl
  | succ n ih =>
    intro lo a l s
    simp only [foldUp, bind, M.bind, collectStep, Spec.appendNext]
    cases h : elem (O.get s lo) s with
    | err e s' => rfl
    | ok x s' =>
      have := ih (lo + 1) a (l ++ [x]) s'
      simp only [bind, M.bind, goJoin_snoc] at this
      simp only [pure, M.pure, List.cons_append]
      exact this

/-- the whole loop, from the empty list -/
theorem collect_refines (O : Ops σ) (elem : Val → M σ (List Nat)) (sep : List Nat) (m : Nat) (s : σ) :
    (foldUp (collectStep O elem) 0 (m + 1) [] >>= fun sl => (pure (Ret.val (.str (goJoin sl sep))) : M σ Ret)) s
    = ((fun s => elem (O.get s 0) s) >>= fun r0 => foldUp (Spec.appendNext O elem sep) 1 m r0
        >>= fun r => (pure (Ret.val (.str r)) : M σ Ret)) s := by
  simp only [foldUp, bind, M.bind, collectStep]
  cases h : elem (O.get s 0) s with
  | err e s' => rfl
  | ok x s2 =>
    have := collectLoop_refines O elem sep m 1 x [] s2
    simp only [bind, M.bind, goJoin] at this
    simp only [pure, M.pure, List.nil_append, Nat.zero_add]
    exact this

theorem joinCore_refines (O : Ops σ) (E : Env) (len : Nat) (args : List Val) :
    joinCore O E len args = Spec.joinCore O E len args := by
  funext s
  have joinElem_eq : joinElem O E = Spec.joinElement O E := by
    funext v
    cases v <;> rfl
  simp only [joinCore, Spec.joinCore, ne_eq, ite_not]
  cases len with
  | zero => simp
  | succ m =>
    simp only [Nat.add_one_ne_zero, if_false, Nat.add_sub_cancel, joinElem_eq]
    exact collect_refines O (Spec.joinElement O E) _ m s

/-- **join = §15.4.4.5**, with the order: length, then ToString(separator), then per element [[Get]] and ToString -/
theorem join_refines (O : Ops σ) (E : Env) (args : List Val) : join O E args = Spec.join O E args := by
  funext s
  simp only [join, Spec.join, joinCore_refines]
  by_cases hu : argAt args 0 = .undef
  · simp only [hu, ne_eq, not_true_eq_false, if_false, if_true]
  · simp only [hu, ne_eq, not_false_eq_true, if_true, if_false]

/-- **toString = §15.4.4.2**: the `join` found on the receiver is called (built-in join, a script function, or
    Object.prototype.toString when it is not callable) with no arguments -/
theorem toString_refines (O : Ops σ) (E : Env) (args : List Val) : toStringM O E args = Spec.toStringS O E args := by
  funext s
  refine M_bind_congr _ _ _ s fun k s1 _ => ?_
  cases k <;> simp only [join_refines]

/-- **toLocaleString = §15.4.4.3** for every receiver and every argument list: the length is read, then every element
    is read and its toLocaleString called with an empty argument list, in turn; the arguments are not used -/
theorem toLocaleString_refines (O : Ops σ) (E : Env) (args : List Val) :
    toLocaleStringM O E args = Spec.toLocaleStringS O E args := by
  funext s
  refine M_bind_congr _ _ _ s fun len s1 _ => ?_
  have localeElem_eq : localeElem O E = Spec.localeElement O E := by
    funext v
    cases v <;> rfl
  simp only [toLocaleStringCore, Spec.toLocaleStringCore]
  cases len with
  | zero => simp
  | succ m =>
    simp only [Nat.add_one_ne_zero, if_false, Nat.add_sub_cancel, localeElem_eq]
    exact collect_refines O (Spec.localeElement O E) [44] m s1

end OttoVerif.C08.Thm
