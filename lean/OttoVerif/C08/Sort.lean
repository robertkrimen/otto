/-
  C08/Sort: on an array-like whose [[Put]] and [[Delete]] cannot fail the transcribed quicksort leaves a permutation.
  `Keeps` names the invariant once; each level of the sort is read off the program with its rules.
-/
import OttoVerif.C08.Model
namespace OttoVerif.C08.Thm
open OttoVerif.C08 OttoVerif.F64

/-- the array-like of `sort_permutation`: a list of present values and holes whose [[Put]] and [[Delete]] always succeed;
    `length` is the length of the list, and reading it, converting and calling do nothing -/
def tOps : Ops (List (Option Val)) where
  len := fun s => s.length
  has := fun s k => (s.getD k none).isSome
  get := fun s k => (s.getD k none).getD .undef
  put := fun k v s => .ok () (s.set k (some v))
  del := fun k s => .ok () (s.set k none)
  putLen := fun _ s => .ok () s
  call := fun _ s => .ok .undef s
  isArr := fun _ => true
  lenRead := fun s => .ok () s
  conv := fun v s => .ok v s
  thisRaw := fun _ => .recv
  locale := fun v _ s => .ok v s
  joinGet := fun s => .ok .builtin s
  userJoin := fun _ s => .ok .undef s
  objToString := fun _ => .str []

def swapL (i j : Nat) (s : List (Option Val)) : List (Option Val) :=
  (s.set i (s.getD j none)).set j (s.getD i none)

theorem swapL_perm (i j : Nat) (s : List (Option Val)) (hi : i < s.length) (hj : j < s.length) :
    (swapL i j s).Perm s := by
  rw [List.perm_iff_count]
  intro b
  have hxi : s.getD i none = s[i] := by simp [List.getD, hi]
  have hxj : s.getD j none = s[j] := by simp [List.getD, hj]
  simp only [swapL, hxi, hxj]
  have hj' : j < (s.set i s[j]).length := by simpa using hj
  rw [List.count_set hj', List.count_set hi]
  have h1 : (s.set i s[j])[j] = s[j] := by
    rw [List.getElem_set]; split
    · rfl
    · rfl
  rw [h1]
  have hmem : (if (s[i] == b) = true then 1 else 0) ≤ List.count b s := by
    split
    · rename_i h
      have : s[i] = b := by simpa using h
      rw [← this]
      exact List.one_le_count_iff.mpr (List.getElem_mem hi)
    · omega
  generalize List.count b s = c at *
  generalize (if (s[i] == b) = true then 1 else 0) = a at *
  generalize (if (s[j] == b) = true then 1 else 0) = d
  omega

/-- on the total array-like `tOps`, arraySortSwap exchanges the two positions -/
theorem sortSwap_tOps (i j : Nat) (s : List (Option Val)) (hi : i < s.length) (hj : j < s.length) :
    sortSwap tOps i j s = .ok () (swapL i j s) := by
  have hxi : s.getD i none = s[i] := by simp [List.getD, hi]
  have hxj : s.getD j none = s[j] := by simp [List.getD, hj]
  simp only [sortSwap, tOps, swapL, hxi, hxj, bind, M.bind]
  cases hvi : s[i] with
  | none =>
    cases hvj : s[j] with
    | none =>
      -- both absent: nothing happens, and exchanging two holes changes nothing
      have e1 : s.set i none = s := by rw [← hvi, List.set_getElem_self]
      have e2 : s.set j none = s := by rw [← hvj, List.set_getElem_self]
      simp [e1, e2]
    | some y =>
      simp
      by_cases hij : i = j
      · subst hij; rw [hvi] at hvj; cases hvj
      · rw [List.set_comm _ _ (fun e => hij e.symm)]
  | some x => cases hvj : s[j] <;> simp

/-- on every permutation of `s0`, `m` returns, leaves a permutation of `s0`, and what it returns satisfies `Q` -/
def Keeps (s0 : List (Option Val)) {α : Type} (m : M (List (Option Val)) α) (Q : α → Prop) : Prop :=
  ∀ s, s.Perm s0 → ∃ a s', m s = .ok a s' ∧ s'.Perm s0 ∧ Q a

theorem Keeps.pure {s0 : List (Option Val)} {α : Type} {Q : α → Prop} {a : α} (h : Q a) : Keeps s0 (pure a) Q :=
  fun s hs => ⟨a, s, rfl, hs, h⟩

theorem Keeps.bind {s0 : List (Option Val)} {α β : Type} {Q : α → Prop} {R : β → Prop} {m : M _ α} {f : α → M _ β}
    (hm : Keeps s0 m Q) (hf : ∀ a, Q a → Keeps s0 (f a) R) : Keeps s0 (m >>= f) R := by
  intro s hs
  obtain ⟨a, s1, e1, p1, q⟩ := hm s hs
  obtain ⟨b, s2, e2, p2, r⟩ := hf a q s1 p1
  exact ⟨b, s2, by simp only [Bind.bind, M.bind, e1, e2], p2, r⟩

theorem Keeps.swap {s0 : List (Option Val)} {i j : Nat} (hi : i < s0.length) (hj : j < s0.length) :
    Keeps s0 (sortSwap tOps i j) fun _ => True := fun s hs =>
  have hl := hs.length_eq
  ⟨(), swapL i j s, sortSwap_tOps i j s (by omega) (by omega), (swapL_perm i j s (by omega) (by omega)).trans hs, trivial⟩

/-- a loop keeps what each turn keeps, `I` being the loop invariant on index and accumulator -/
theorem Keeps.foldUp {s0 : List (Option Val)} {β : Type} (body : Nat → β → M _ β) (I : Nat → β → Prop) :
    ∀ (n lo : Nat) (c : β), I lo c → (∀ i c, lo ≤ i → i < lo + n → I i c → Keeps s0 (body i c) (I (i + 1))) →
      Keeps s0 (foldUp body lo n c) (I (lo + n)) := by
  intro n
  induction n with
  | zero => intro lo c h _; exact Keeps.pure h
  | succ n ih =>
    intro lo c h hb
    refine Keeps.bind (hb lo c (Nat.le_refl _) (by omega) h) fun c1 h1 => ?_
    rw [show lo + (n + 1) = lo + 1 + n by omega]
    exact ih (lo + 1) c1 h1 fun i c hi1 hi2 => hb i c (by omega) (by omega)

theorem step_good (E : Env) (cmp : SortCmp) (s0 : List (Option Val)) (right index : Nat) (c : Nat × Nat)
    (hr : right < s0.length) (hi : index < right) (h1 : c.1 ≤ c.2) (h2 : c.2 ≤ index) :
    Keeps s0 (sortPartitionStep tOps E cmp right index c) fun c' => c'.1 ≤ c'.2 ∧ c'.2 ≤ index + 1 ∧ c.1 ≤ c'.1 := by
  intro s hs
  simp only [sortPartitionStep]
  split
  · refine Keeps.bind (Keeps.swap (by omega) (by omega)) (fun _ _ => ?_) s hs
    have hq : (c.1 + 1, c.2 + 1).1 ≤ (c.1 + 1, c.2 + 1).2 ∧ (c.1 + 1, c.2 + 1).2 ≤ index + 1 ∧ c.1 ≤ (c.1 + 1, c.2 + 1).1 :=
      ⟨Nat.add_le_add_right h1 1, Nat.add_le_add_right h2 1, Nat.le_succ _⟩
    split
    · exact Keeps.bind (Keeps.swap (by omega) (by omega)) fun _ _ => Keeps.pure hq
    · exact Keeps.pure hq
  · split
    · exact Keeps.bind (Keeps.swap (by omega) (by omega))
        (fun _ _ => Keeps.pure ⟨Nat.le_succ_of_le h1, Nat.add_le_add_right h2 1, Nat.le_refl _⟩) s hs
    · exact Keeps.pure ⟨h1, by omega, Nat.le_refl _⟩ s hs

theorem partition_good (E : Env) (cmp : SortCmp) (s0 : List (Option Val)) (left right pivot : Nat)
    (hr : right < s0.length) (hlr : left ≤ right) (hp : pivot ≤ right) :
    Keeps s0 (sortPartition tOps E cmp left right pivot) fun p => left ≤ p.1 ∧ p.1 ≤ p.2 ∧ p.2 ≤ right := by
  refine Keeps.bind (Keeps.swap (by omega) hr) fun _ _ => ?_
  -- the cursors stay ordered, behind the index and at or after `left`
  have hloop := Keeps.foldUp (s0 := s0) (sortPartitionStep tOps E cmp right)
    (fun i c => c.1 ≤ c.2 ∧ c.2 ≤ i ∧ left ≤ c.1) (right - left) left (left, left) ⟨Nat.le_refl _, Nat.le_refl _, Nat.le_refl _⟩
    fun i c _ hi2 ⟨g1, g2, g3⟩ => fun s hs => by
      obtain ⟨c', s', e, p, k1, k2, k3⟩ := step_good E cmp s0 right i c hr (by omega) g1 g2 s hs
      exact ⟨c', s', e, p, k1, k2, by omega⟩
  refine Keeps.bind hloop fun c ⟨g1, g2, g3⟩ => ?_
  obtain ⟨c1, c2⟩ := c
  simp only at g1 g2 g3
  exact Keeps.bind (Keeps.swap (by omega) hr) fun _ _ => Keeps.pure ⟨g3, g1, by omega⟩

theorem quick_good (E : Env) (cmp : SortCmp) (s0 : List (Option Val)) :
    ∀ (fuel left right : Nat), right < s0.length → Keeps s0 (sortQuick tOps E cmp fuel left right) fun _ => True := by
  intro fuel
  induction fuel with
  | zero => intro _ _ _; exact Keeps.pure trivial
  | succ f ih =>
    intro left right hr
    simp only [sortQuick]
    split
    · refine Keeps.bind (partition_good E cmp s0 left right _ hr (by omega) (by omega)) fun p ⟨g1, g2, g3⟩ => ?_
      obtain ⟨p1, p2⟩ := p
      simp only at g1 g2 g3 ⊢
      split
      · exact Keeps.bind (ih _ _ (by omega)) fun _ _ => ih _ _ hr
      · exact ih _ _ hr
    · exact Keeps.pure trivial

/-- **sort_permutation** (§15.4.4.11): on an array-like whose [[Put]]/[[Delete]] cannot fail, for every comparefn
    (consistent or not, or none) sort returns the receiver and leaves a permutation of its elements — present
    values and holes alike are only moved, never lost, duplicated or invented. -/
theorem sort_permutation (E : Env) (cmp : SortCmp) (s : List (Option Val)) :
    ∃ s', sort tOps E true cmp s = .ok (.val .recv) s' ∧ s'.Perm s ∧ s'.length = s.length := by
  have hrl : readLen tOps s = .ok s.length s := rfl
  simp only [sort, bind, M.bind, hrl, sortCore, Bool.not_true, Bool.false_eq_true, if_false]
  by_cases h1 : s.length > 1
  · simp only [h1, if_true]
    obtain ⟨_, s', e, r, _⟩ := quick_good E cmp s s.length 0 (s.length - 1) (by omega) s (List.Perm.refl _)
    rw [e]
    exact ⟨s', rfl, r, r.length_eq⟩
  · simp only [h1, if_false]
    exact ⟨s, rfl, List.Perm.refl _, rfl⟩

end OttoVerif.C08.Thm
