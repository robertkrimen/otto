/-
  C08/Index: canonical array-index numerals. `dec` has two equations and an induction principle; otto's stringToArrayIndex
  (strconv.ParseInt and the round trip through `dec`) and the §15.4 test are both the inverse of `dec` below 2^32 − 1.
-/
import OttoVerif.C08.Spec
import OttoVerif.Base.GoStdLemmas
namespace OttoVerif.C08.Thm
open OttoVerif.C08 OttoVerif.F64 OttoVerif.GoStd

theorem decAux_acc : ∀ (m fuel fuel' : Nat) (acc : List Nat), m < fuel → m < fuel' →
    decAux fuel m acc = decAux fuel' m [] ++ acc := by
  intro m
  induction m using Nat.strongRecOn with
  | _ m ih =>
    intro fuel fuel' acc h1 h2
    cases fuel with
    | zero => omega
    | succ f =>
      cases fuel' with
      | zero => omega
      | succ f' =>
        simp only [decAux]
        by_cases h10 : m < 10
        · simp [h10]
        · simp only [h10, if_false]
          have hlt : m / 10 < m := by omega
          rw [ih (m / 10) hlt f f' _ (by omega) (by omega)]
          rw [ih (m / 10) hlt f' f' [48 + m % 10] (by omega) (by omega)]
          simp

theorem dec_small (n : Nat) (h : n < 10) : dec n = [48 + n] := by
  simp [dec, decAux, h]

theorem decAux_eq (fuel n : Nat) (acc : List Nat) (h : n < fuel) : decAux fuel n acc = dec n ++ acc :=
  decAux_acc n fuel (n + 1) acc h (by omega)

theorem dec_snoc (n : Nat) (h : n ≥ 10) : dec n = dec (n / 10) ++ [48 + n % 10] := by
  have : ¬ n < 10 := by omega
  rw [dec, decAux, if_neg this, decAux_eq _ _ _ (by omega)]

theorem dec_zero : dec 0 = [48] := by decide

theorem dec_induction {P : Nat → Prop} (small : ∀ n, n < 10 → P n) (snoc : ∀ n, n ≥ 10 → P (n / 10) → P n)
    (n : Nat) : P n := by
  induction n using Nat.strongRecOn with
  | _ n ih =>
    by_cases h : n < 10
    · exact small n h
    · exact snoc n (by omega) (ih _ (by omega))

theorem dec_head (n : Nat) : ∃ c r, dec n = c :: r ∧ 48 ≤ c ∧ c ≤ 57 ∧ (1 ≤ n → 49 ≤ c) := by
  induction n using dec_induction with
  | small n h => exact ⟨48 + n, [], dec_small n h, by omega, by omega, by omega⟩
  | snoc n h ih =>
    obtain ⟨c, r, hd, h1, h2, h3⟩ := ih
    exact ⟨c, r ++ [48 + n % 10], by rw [dec_snoc n h, hd]; rfl, h1, h2, fun _ => h3 (by omega)⟩

theorem dec_digits (n : Nat) :
    (∀ c ∈ dec n, 48 ≤ c ∧ c ≤ 57) ∧ (dec n).foldl (fun a c => a * 10 + (c - 48)) 0 = n := by
  induction n using dec_induction with
  | small n h =>
    rw [dec_small n h]
    exact ⟨fun c hc => by rw [List.mem_singleton.1 hc]; omega, by simp⟩
  | snoc n h ih =>
    rw [dec_snoc n h]
    refine ⟨fun c hc => ?_, ?_⟩
    · rcases List.mem_append.1 hc with hc | hc
      · exact ih.1 c hc
      · rw [List.mem_singleton.1 hc]; omega
    · rw [List.foldl_append, ih.2]
      simp only [List.foldl_cons, List.foldl_nil]
      omega

theorem parseInt_dec (n : Nat) : parseInt (dec n) 10 = if n ≥ 2^63 then .range else .ok n := by
  obtain ⟨c, r, hd, -⟩ := dec_head n
  have hdig := dec_digits n
  rw [parseInt_digits 10 10 (by decide) (fun c => c - 48) (dec n) (by rw [hd]; exact List.cons_ne_nil _ _)
    (fun c hc => ⟨digitVal_digit c (hdig.1 c hc), by have := hdig.1 c hc; omega⟩) (Or.inl rfl), hdig.2]

/-- on canonical numerals: stringToArrayIndex of the decimal numeral of n is n below 2^32−1
    and −1 from there on (including beyond int64) -/
theorem stringToArrayIndex_idx (n : Nat) :
    stringToArrayIndex (.idx n) = if n < 2^32 - 1 then (n : Int) else -1 := by
  simp only [stringToArrayIndex, Key.toBytes, stringToArrayIndexRaw]
  rw [parseInt_dec n]
  simp only [maxUint32]
  by_cases h63 : n ≥ 2^63
  · have : ¬ n < 2^32 - 1 := by omega
    simp [h63, this]
  · simp only [h63, if_false]
    have hnat : ((n : Nat) : Int).toNat = n := by omega
    simp only [hnat, ne_eq, not_true_eq_false, if_false]
    omega

theorem digitsValue_snoc (r : List Nat) (c acc : Nat) :
    Spec.digitsValue (r ++ [c]) acc =
      (Spec.digitsValue r acc).bind (fun a => if 48 ≤ c ∧ c ≤ 57 then some (a * 10 + (c - 48)) else none) := by
  induction r generalizing acc with
  | nil => simp only [List.nil_append, Spec.digitsValue]; split <;> rfl
  | cons x xs ih =>
    simp only [List.cons_append, Spec.digitsValue]
    split
    · exact ih _
    · rfl

theorem digitsValue_dec (n : Nat) : Spec.digitsValue (dec n) 0 = some n := by
  induction n using dec_induction with
  | small n h =>
    have : 48 ≤ 48 + n ∧ 48 + n ≤ 57 := by omega
    simp [dec_small n h, Spec.digitsValue, this]
  | snoc n h ih =>
    have : 48 ≤ 48 + n % 10 ∧ 48 + n % 10 ≤ 57 := by omega
    rw [dec_snoc n h, digitsValue_snoc, ih]
    simp only [Option.bind, this, and_self, if_true]
    congr 1; omega

theorem arrayIndex_dec (n : Nat) : Spec.arrayIndex? (dec n) = if n < 2^32 - 1 then some n else none := by
  obtain ⟨c, r, hd, -, -, hc⟩ := dec_head n
  have hv := digitsValue_dec n
  by_cases h0 : n = 0
  · subst h0; decide
  · unfold Spec.arrayIndex?
    rw [hd] at hv ⊢
    have : ¬ (c = 48 ∧ r ≠ []) := by have := hc (by omega); omega
    simp only [this, if_false, hv]

/-- on every canonical numeral otto's stringToArrayIndex is the ES5 array index -/
theorem array_index_partial (n : Nat) :
    stringToArrayIndex (.idx n) = (match Spec.arrayIndex? (Key.idx n).toBytes with | some i => (i : Int) | none => -1) := by
  rw [stringToArrayIndex_idx]
  simp only [Key.toBytes, arrayIndex_dec]
  split <;> simp

theorem digitsValue_ge (r : List Nat) (acc a : Nat) (h : Spec.digitsValue r acc = some a) : acc ≤ a := by
  induction r generalizing acc with
  | nil => simp only [Spec.digitsValue] at h; injection h with h; omega
  | cons c r ih =>
    simp only [Spec.digitsValue] at h
    split at h
    · have := ih _ h; omega
    · cases h

theorem dec_digitsValue (n : Nat) : ∀ s : List Nat, s ≠ [] → (∀ c r, s = c :: r → r ≠ [] → c ≠ 48) →
    Spec.digitsValue s 0 = some n → s = dec n := by
  induction n using Nat.strongRecOn with
  | _ n ih =>
    intro s hne hlead hv
    rcases List.eq_nil_or_concat s with h | ⟨r, c, h⟩
    · exact absurd h hne
    · rw [List.concat_eq_append] at h
      subst h
      rw [digitsValue_snoc] at hv
      cases hr : Spec.digitsValue r 0 with
      | none => rw [hr] at hv; cases hv
      | some a =>
        rw [hr] at hv
        simp only [Option.bind] at hv
        split at hv
        · injection hv with hv
          cases r with
          | nil =>
            simp only [Spec.digitsValue] at hr
            injection hr with hr
            rw [dec_small n (by omega)]; simp; omega
          | cons c' r' =>
            -- the head of r is a non-zero digit, so the value of r is at least 1 and n has a shorter numeral in front
            have hc' : c' ≠ 48 := hlead c' (r' ++ [c]) rfl (by simp)
            have ha : 1 ≤ a := by
              simp only [Spec.digitsValue] at hr
              split at hr
              · have := digitsValue_ge _ _ _ hr; omega
              · cases hr
            have hr' := ih a (by omega) (c' :: r') (by simp)
              (fun c'' r'' e _ => hlead c'' (r'' ++ [c]) (by rw [e]; rfl) (by simp)) hr
            rw [dec_snoc n (by omega), show n / 10 = a by omega, show 48 + n % 10 = c by omega, ← hr']
        · cases hv

/-- every string that §15.4 takes for an array index is the canonical numeral of that index -/
theorem arrayIndex_canonical (s : List Nat) (n : Nat) (h : Spec.arrayIndex? s = some n) : s = dec n ∧ n < 2^32 - 1 := by
  unfold Spec.arrayIndex? at h
  cases s with
  | nil => cases h
  | cons c r =>
    simp only at h
    split at h
    · cases h
    · rename_i hlead
      cases hv : Spec.digitsValue (c :: r) 0 with
      | none => rw [hv] at h; cases h
      | some m =>
        rw [hv] at h
        simp only at h
        split at h
        · injection h with h; subst h
          refine ⟨dec_digitsValue m (c :: r) (by simp) ?_ hv, by assumption⟩
          intro c' r' e hr'
          injection e with e1 e2
          subst e1; subst e2
          intro hc; exact hlead ⟨hc, hr'⟩
        · cases h

/-- spec ⇒ otto: on every string that ES5 treats as an array index, stringToArrayIndex returns
    that index (`array_index_eq` adds the converse). -/
theorem array_index_agrees (s : List Nat) (n : Nat) (h : Spec.arrayIndex? s = some n) :
    stringToArrayIndexRaw s = (n : Int) := by
  obtain ⟨hs, hn⟩ := arrayIndex_canonical s n h
  subst hs
  have := stringToArrayIndex_idx n
  simp only [stringToArrayIndex, Key.toBytes, hn, if_true] at this
  exact this

/-- stringToArrayIndex is exactly the §15.4 array-index test, on every string -/
theorem array_index_eq (s : List Nat) :
    stringToArrayIndexRaw s = (match Spec.arrayIndex? s with | some n => (n : Int) | none => -1) := by
  cases h : Spec.arrayIndex? s with
  | some n => exact array_index_agrees s n h
  | none =>
    simp only [stringToArrayIndexRaw, maxUint32]
    cases GoStd.parseInt s 10 with
    | ok i =>
      simp only
      by_cases h1 : i < 0
      · simp [h1]
      · by_cases h2 : i ≥ 4294967295
        · simp [h1, h2]
        · by_cases h3 : dec i.toNat = s
          · exfalso
            rw [← h3, arrayIndex_dec] at h
            have : i.toNat < 2^32 - 1 := by omega
            simp [this] at h
          · simp [h1, h2, h3]
    | range => rfl
    | «syntax» => rfl

theorem stringToArrayIndex_lt (k : Key) (h : stringToArrayIndex k ≥ 0) : (stringToArrayIndex k).toNat < 2^32 - 1 := by
  simp only [stringToArrayIndex, array_index_eq] at h ⊢
  cases hi : Spec.arrayIndex? k.toBytes with
  | none => rw [hi] at h; cases h
  | some n =>
    have := (arrayIndex_canonical _ n hi).2
    simp only [Int.toNat_natCast]
    exact this

end OttoVerif.C08.Thm
