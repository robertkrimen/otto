/-
  C08/Invariant: the array invariant `WFArr` (length is a uint32 data property above every present index), carried through
  every operation as a fact about the state it leaves (`wf_…`, `length_invariant`); then the refinement statements on
  well-formed arrays as instances of those of C08/Define, and `history_refines`.
-/
import OttoVerif.C08.Define
namespace OttoVerif.C08.Thm
open OttoVerif.C08 OttoVerif.F64 OttoVerif.GoStd

theorem getD_true_of_ne {x : Option Bool} (h : x ≠ some false) : x.getD true = true := by
  rcases x with _ | _ | _ <;> first | rfl | exact absurd rfl h

theorem getD_false_of_ne {x : Option Bool} (h : x ≠ some true) : x.getD false = false := by
  rcases x with _ | _ | _ <;> first | rfl | exact absurd rfl h

def LenProp (o : Obj) (n : Nat) (w : Bool) : Prop :=
  lookup .length o.props = some ⟨.int (n : Nat), w, false, false⟩

/-- every present array index is below m; `idx n` with n ≥ 2^32 − 1 is an ordinary property name (§15.4), not an index -/
def Bound (o : Obj) (m : Nat) : Prop :=
  ∀ n, n < 2^32 - 1 → (lookup (.idx n) o.props).isSome = true → n < m

/-- the invariant of §15.4: an Array object whose length is a uint32 data property greater than every
    present array index -/
structure WFArr (o : Obj) : Prop where
  arr : o.isArr = true
  len : ∃ n w, LenProp o n w ∧ n < 2^32 ∧ Bound o n

theorem arrLength_of (o : Obj) (n : Nat) (w : Bool) (h : LenProp o n w) : arrLength o = n := by
  simp only [LenProp] at h
  simp [arrLength, h]

theorem lengthWritable_of (o : Obj) (n : Nat) (w : Bool) (h : LenProp o n w) : lengthWritable o = w := by
  simp only [LenProp] at h
  simp [lengthWritable, h]

theorem lenDesc_of (o : Obj) (n : Nat) (w : Bool) (h : LenProp o n w) :
    (lookup Key.length o.props).getD ⟨.int 0, false, false, false⟩ = ⟨.int (n : Nat), w, false, false⟩ := by
  simp only [LenProp] at h
  simp [h]

theorem lenProp_write_ne {o : Obj} {n : Nat} {w : Bool} (h : LenProp o n w) {k : Key} (p : PropD) (hk : k ≠ .length) :
    LenProp { o with props := write k p o.props } n w :=
  (lookup_write_ne k .length p _ hk.symm).trans h

theorem lenProp_erase_ne {o : Obj} {n : Nat} {w : Bool} (h : LenProp o n w) {k : Key} (hk : k ≠ .length) :
    LenProp { o with props := erase k o.props } n w :=
  (lookup_erase_ne k .length _ hk.symm).trans h

theorem lenProp_write (o : Obj) (n : Nat) (w : Bool) :
    LenProp { o with props := write .length ⟨.int n, w, false, false⟩ o.props } n w :=
  lookup_write_self ..

theorem Bound.mono {o : Obj} {m m' : Nat} (h : Bound o m) (hm : m ≤ m') : Bound o m' :=
  fun n h1 h2 => Nat.lt_of_lt_of_le (h n h1 h2) hm

theorem bound_write {o : Obj} {m : Nat} (h : Bound o m) (k : Key) (p : PropD)
    (hk : ∀ j, k = .idx j → j < 2^32 - 1 → j < m) : Bound { o with props := write k p o.props } m := by
  intro i hi hp
  by_cases hki : Key.idx i = k
  · exact hk i hki.symm hi
  · exact h i hi (by rw [← lookup_write_ne k (.idx i) p o.props hki]; exact hp)

theorem bound_write_length {o : Obj} {m : Nat} (h : Bound o m) (p : PropD) :
    Bound { o with props := write .length p o.props } m :=
  bound_write h .length p (fun _ e => by cases e)

theorem bound_erase {o : Obj} {m : Nat} (h : Bound o m) (k : Key) : Bound { o with props := erase k o.props } m := by
  intro i hi hp
  by_cases hki : Key.idx i = k
  · have hp' : (lookup k (erase k o.props)).isSome = true := hki ▸ hp
    rw [lookup_erase_self] at hp'; cases hp'
  · exact h i hi (by rw [← lookup_erase_ne k (.idx i) o.props hki]; exact hp)

theorem bound_erase_last {o : Obj} {m : Nat} (h : Bound o (m + 1)) : Bound { o with props := erase (.idx m) o.props } m := by
  intro i hi hp
  by_cases him : i = m
  · have hp' : (lookup (.idx m) (erase (.idx m) o.props)).isSome = true := him ▸ hp
    rw [lookup_erase_self] at hp'; cases hp'
  · have := bound_erase h (.idx m) i hi hp; omega

theorem wf_writeLength (o : Obj) (m : Nat) (w : Bool) (ha : o.isArr = true) (hm : m < 2^32) (hb : Bound o m) :
    WFArr { o with props := write .length ⟨.int m, w, false, false⟩ o.props } :=
  ⟨ha, m, w, lenProp_write o m w, hm, bound_write_length hb _⟩

theorem wf_delete (o : Obj) (k : Key) (t : Bool) (h : WFArr o) : WFArr (stateOf (objectDelete k t o)) := by
  rcases objectDelete_cases k t o with ⟨h1, hconf⟩ | ⟨h1, _⟩ <;> rw [h1]
  · obtain ⟨ha, n, w, hl, hn, hb⟩ := h
    -- "length" is not configurable, so the key that went is another one
    have hkl : k ≠ .length := by
      rintro rfl
      cases hconf _ hl
    exact ⟨ha, n, w, lenProp_erase_ne hl hkl, hn, bound_erase hb k⟩
  · rw [stateOf_reject]; exact h

theorem wf_odp_other (E : Env) (o : Obj) (k : Key) (d : Desc) (t : Bool) (h : WFArr o) (hk : k ≠ .length)
    (hi : ∀ n, k = .idx n → n < 2^32 - 1 → n < arrLength o) :
    WFArr (stateOf (objectDefineOwnProperty E k d t o)) := by
  rcases odp_effect E k d t o with h1 | ⟨h1, _⟩ <;> rw [h1]
  · rw [stateOf_reject]; exact h
  · obtain ⟨ha, n, w, hl, hn, hb⟩ := h
    exact ⟨ha, n, w, lenProp_write_ne hl _ hk, hn, bound_write hb k _ (arrLength_of o n w hl ▸ hi)⟩

theorem odp_length_state (E : Env) (o : Obj) (d : Desc) (t : Bool) (n : Nat) (w : Bool) (hl : LenProp o n w) :
    stateOf (objectDefineOwnProperty E .length d t o) = o ∨
    ∃ w', objectDefineOwnProperty E .length d t o
      = .ok true { o with props := write .length ⟨d.v.getD (.int n), w', false, false⟩ o.props } := by
  rcases odp_effect E .length d t o with h | ⟨h, h2⟩
  · exact .inl (h ▸ stateOf_reject t o)
  · obtain ⟨hc, he⟩ := h2 _ hl rfl
    refine .inr ⟨d.w.getD w, ?_⟩
    rw [h, show lookup Key.length o.props = _ from hl]
    simp only [overlay, Option.getD_some] at hc he ⊢
    rw [hc, he]

def LenIs (o : Obj) (N : Nat) : Prop := o.isArr = true ∧ (∃ w, LenProp o N w) ∧ Bound o N

theorem LenIs.wf {o : Obj} {N : Nat} (h : LenIs o N) (hN : N < 2^32) : WFArr o :=
  let ⟨ha, ⟨w, hl⟩, hb⟩ := h
  ⟨ha, N, w, hl, hN, hb⟩

/-- a define of "length" that carries no value, or the current one, leaves the length what it is, whatever the outcome -/
theorem lenIs_odp (E : Env) (o : Obj) (d : Desc) (t : Bool) (N : Nat) (h : LenIs o N)
    (hv : d.v = none ∨ d.v = some (.int N)) : LenIs (stateOf (objectDefineOwnProperty E .length d t o)) N := by
  obtain ⟨ha, ⟨w, hl⟩, hb⟩ := h
  have hN : d.v.getD (.int N) = .int N := by rcases hv with hv | hv <;> rw [hv] <;> rfl
  rcases odp_length_state E o d t N w hl with h | ⟨w', h⟩ <;> rw [h]
  · exact ⟨ha, ⟨w, hl⟩, hb⟩
  · rw [hN]; exact ⟨ha, ⟨w', lenProp_write o N w'⟩, bound_write_length hb _⟩

/-- `d` passes §8.12.9 steps 7.a and 7.b on a non-configurable, non-enumerable property such as "length" -/
def Cok (d : Desc) : Prop := d.c ≠ some true ∧ d.e ≠ some true

theorem odp_length_ok (E : Env) (o : Obj) (M N : Nat) (d : Desc) (t : Bool) (hl : LenProp o M true)
    (hv : d.v = some (.int N)) (hc : Cok d) :
    objectDefineOwnProperty E .length d t o
      = .ok true { o with props := write .length ⟨.int N, d.w.getD true, false, false⟩ o.props } := by
  obtain ⟨dv, dw, de, dc⟩ := d
  obtain ⟨h1, h2⟩ := hc
  simp only at hv h1 h2
  subst hv
  rw [odp_present E .length _ t o _ hl]
  rcases dc with _ | _ | _ <;> rcases de with _ | _ | _ <;>
    first | exact absurd rfl h1 | exact absurd rfl h2 | simp [Desc.isEmpty, Desc.isGeneric, Desc.isData, refuses, overlay]

theorem odp_length_rej (E : Env) (o : Obj) (M : Nat) (w : Bool) (d : Desc) (t : Bool) (hl : LenProp o M w)
    (hc : ¬ Cok d) : objectDefineOwnProperty E .length d t o = reject t o := by
  have h : d.c = some true ∨ d.e = some true := by
    by_cases h1 : d.c = some true
    · exact .inl h1
    · exact .inr (Classical.byContradiction fun h2 => hc ⟨h1, h2⟩)
  rw [odp_present E .length _ t o _ hl]
  rcases h with h | h <;> simp [Desc.isEmpty, refuses, h]

theorem shrinkLoop_stop (E : Env) (N : Nat) (d : Desc) (nw t : Bool) (c : Nat) (o : Obj) (hl : LenProp o N true)
    (hc : Cok d) (h : objectDelete (.idx (N + c)) false o = .ok false o) :
    shrinkLoop E N d nw t (c + 1) o =
      (fun o' => if t then .err .type o' else .ok (some false) o')
        { o with props := write .length ⟨.int ((N + c + 1 : Nat) : Int), (nw && d.w.getD true), false, false⟩ o.props } := by
  simp only [shrinkLoop, bind, M.bind, h, Bool.not_false, if_true]
  cases nw <;> simp only [Bool.not_false, Bool.not_true, Bool.false_eq_true, if_true, if_false] <;>
    rw [odp_length_ok E o N (N + c + 1) ⟨_, _, d.e, d.c⟩ false hl rfl hc] <;> cases t <;> rfl

/-- the shrink loop on a state whose length property already says N while elements up to N+cnt may remain:
    either it completes and every present index is below N, or it stops and has restored the invariant -/
theorem shrink_inv (E : Env) (N : Nat) (d : Desc) (nw t : Bool) (hc : Cok d) (cnt : Nat) :
    ∀ o1 : Obj, o1.isArr = true → LenProp o1 N true → Bound o1 (N + cnt) → N + cnt < 2^32 →
      match shrinkLoop E N d nw t cnt o1 with
      | .ok none o2 => o2.isArr = true ∧ LenProp o2 N true ∧ Bound o2 N
      | .ok (some _) o2 => WFArr o2
      | .err _ o2 => WFArr o2 := by
  induction cnt with
  | zero => intro o1 ha hl hb _; exact ⟨ha, hl, hb⟩
  | succ c ih =>
    intro o1 ha hl hb hlt
    rcases objectDelete_cases (.idx (N + c)) false o1 with ⟨h1, _⟩ | ⟨h1, _⟩
    · rw [shrinkLoop_next E N d nw t c o1 _ h1]
      exact ih _ ha (lenProp_erase_ne hl (by intro e; cases e)) (bound_erase_last hb) (by omega)
    · rw [shrinkLoop_stop E N d nw t c o1 hl hc h1]
      have hwf := wf_writeLength o1 (N + c + 1) (nw && d.w.getD true) ha (by omega) hb
      cases t <;> exact hwf

/-- "…stopping at the first non-configurable element with length = its index + 1": when the shrink loop does
    not run to completion it stopped at an index l whose element is non-configurable; everything above l (all
    configurable) is gone, nothing else changed, and then length was set to l + 1. -/
theorem shrinkLoop_stops (E : Env) (N : Nat) (d : Desc) (nw t : Bool) (hc : Cok d) (cnt : Nat) :
    ∀ (o0 o1 o2 : Obj) (T : Nat), N + cnt ≤ T → Erased o0 o1 (N + cnt) T → LenProp o1 N true →
      ((∃ b, shrinkLoop E N d nw t cnt o1 = .ok (some b) o2) ∨ (∃ e, shrinkLoop E N d nw t cnt o1 = .err e o2)) →
      ∃ l p o' w', N ≤ l ∧ l < N + cnt ∧ lookup (.idx l) o0.props = some p ∧ p.c = false ∧ Erased o0 o' (l + 1) T ∧
        o2 = { o' with props := write .length ⟨.int (l + 1 : Nat), w', false, false⟩ o'.props } := by
  induction cnt with
  | zero =>
    intro o0 o1 o2 T _ _ _ h
    simp only [shrinkLoop, pure, M.pure] at h
    rcases h with ⟨b, h⟩ | ⟨e, h⟩ <;> cases h
  | succ c ih =>
    intro o0 o1 o2 T hT hE hl h
    rcases objectDelete_cases (.idx (N + c)) false o1 with ⟨h1, hconf⟩ | ⟨h1, p, hp, hpc⟩
    · rw [shrinkLoop_next E N d nw t c o1 _ h1] at h
      obtain ⟨l, p, o', w', g1, g2, g⟩ := ih o0 _ o2 T (by omega) (Erased.step (a := N + c) hE (by omega) hconf)
        (lenProp_erase_ne hl (by intro e; cases e)) h
      exact ⟨l, p, o', w', g1, by omega, g⟩
    · rw [shrinkLoop_stop E N d nw t c o1 hl hc h1] at h
      refine ⟨N + c, p, o1, nw && d.w.getD true, by omega, by omega, ?_, hpc, hE, ?_⟩
      · rw [← hp]; exact (hE.2 _ fun i hi _ e => by injection e; omega).symm
      · cases t <;> simp only [Bool.false_eq_true, if_false, if_true] at h <;>
          rcases h with ⟨b, h⟩ | ⟨e, h⟩ <;> cases h <;> rfl

theorem wf_shrinkTail (E : Env) (N : Nat) (d : Desc) (nw t : Bool) (cnt : Nat) (o1 : Obj)
    (hc : Cok d) (hv : d.v = some (.int N)) (ha : o1.isArr = true) (hl : LenProp o1 N true)
    (hb : Bound o1 (N + cnt)) (hlt : N + cnt < 2^32) :
    WFArr (stateOf (arrayShrinkTail E N d nw t cnt o1)) := by
  have hs := shrink_inv E N d nw t hc cnt o1 ha hl hb hlt
  simp only [arrayShrinkTail, bind, M.bind]
  cases hr : shrinkLoop E N d nw t cnt o1 with
  | err e o2 => rw [hr] at hs; exact hs
  | ok r o2 =>
    rw [hr] at hs
    cases r with
    | some b => exact hs
    | none =>
      obtain ⟨ha2, hl2, hb2⟩ := hs
      have h2 : LenIs o2 N := ⟨ha2, ⟨true, hl2⟩, hb2⟩
      cases nw with
      | true => exact (lenIs_odp E o2 d t N h2 (.inr hv)).wf (by omega)
      | false =>
        exact (stateOf_bind (LenIs · N) (LenIs · N) _ _ o2
          (lenIs_odp E o2 { d with w := some false } false N h2 (.inr hv)) (fun _ hs => hs)
          (fun _ s' hs => lenIs_odp E s' { d with w := some false } t N hs (.inr hv))).wf (by omega)

/-- the tail of the length branch (after the first define succeeded) = §15.4.5.1 steps 3.l–3.n -/
theorem shrinkTail_refines (E : Env) (N : Nat) (D : Desc) (t : Bool) (cnt : Nat) (o1 : Obj)
    (hc : Cok D) (hv : D.v = some (.int N)) (hw : D.w ≠ some false) (nw : Bool)
    (ha : o1.isArr = true) (hl : LenProp o1 N true) (hb : Bound o1 (N + cnt)) (hlt : N + cnt < 2^32) :
    arrayShrinkTail E N D nw t cnt o1 = Spec.truncateTail E N D nw t cnt o1 := by
  refine shrinkTail_eq E N D t cnt o1 ⟨.int N, true, false, false⟩ nw (hl.trans ?_)
  simp only [overlay, hv, Option.getD_some, getD_true_of_ne hw, getD_false_of_ne hc.1, getD_false_of_ne hc.2]

theorem wf_defineIndex (E : Env) (o : Obj) (k : Key) (d : Desc) (t : Bool) (index : Nat) (h : WFArr o)
    (hidx : index < 2^32 - 1) (hk : k ≠ .length) (hki : ∀ m, k = .idx m → m < 2^32 - 1 → m = index) :
    WFArr (stateOf (arrayDefineIndex E k d t index o)) := by
  have hwf := h
  obtain ⟨ha, n, w, hl, hn, hb⟩ := h
  unfold arrayDefineIndex
  simp only [arrLength_of o n w hl, lengthWritable_of o n w hl, lenDesc_of o n w hl]
  by_cases hrej : index ≥ n ∧ w = false
  · simp only [hrej, and_self, if_true, stateOf_reject]; exact hwf
  · simp only [hrej, if_false]
    -- the steps after the first define, on a state o1 that still has the old length property
    have tail : ∀ o1 : Obj, o1.isArr = true → LenProp o1 n w → Bound o1 (max n (index + 1)) →
        WFArr (stateOf ((if index ≥ n then
            (do let _ ← objectDefineOwnProperty E .length ⟨some (.int (index + 1 : Nat)), some w, some false, some false⟩ false
                pure true)
          else objectDefineOwnProperty E k d t : M Obj Bool) o1)) := by
      intro o1 ha1 hl1 hb1
      by_cases hge : index ≥ n
      · have hw : w = true := by
          cases w with
          | true => rfl
          | false => exact absurd ⟨hge, rfl⟩ hrej
        subst hw
        simp only [hge, if_true, stateOf_bind_pure]
        rw [odp_length_ok E o1 n (index + 1) _ false hl1 rfl ⟨by simp, by simp⟩]
        exact wf_writeLength o1 (index + 1) true ha1 (by omega) (hb1.mono (by omega))
      · simp only [hge, if_false]
        refine wf_odp_other E o1 k d t ⟨ha1, n, w, hl1, hn, hb1.mono (by omega)⟩ hk ?_
        intro m hm1 hm2
        rw [arrLength_of o1 n w hl1, hki m hm1 hm2]; omega
    rcases odp_effect E (.idx index) d false o with h1 | ⟨h1, _⟩
    · simp only [bind, M.bind, h1, reject, Bool.false_eq_true, if_false, Bool.not_false, if_true]
      cases t <;> exact hwf
    · simp only [bind, M.bind, h1, Bool.not_true, Bool.false_eq_true, if_false]
      exact tail _ ha (lenProp_write_ne hl _ (by intro e; cases e))
        (bound_write (hb.mono (Nat.le_max_left ..)) _ _ (fun j e _ => by cases e; omega))

theorem wf_setLength (E : Env) (o : Obj) (d : Desc) (t : Bool) (N : Nat) (h : WFArr o) (hN : N < 2^32) :
    WFArr (stateOf (arraySetLength E d t N o)) := by
  have hwf := h
  obtain ⟨ha, n, w, hl, hn, hb⟩ := h
  by_cases hgt : N ≥ n
  · simp only [arraySetLength, arrLength_of o n w hl, hgt, if_true]
    -- the length grows, or the define changes nothing
    rcases odp_length_state E o _ t n w hl with h | ⟨w', h⟩ <;> rw [h]
    · exact hwf
    · exact wf_writeLength o N w' ha hN (hb.mono hgt)
  · cases w with
    | false =>
      simp only [arraySetLength, arrLength_of o n false hl, lengthWritable_of o n false hl, hgt, if_false,
        Bool.not_false, if_true, stateOf_reject]
      exact hwf
    | true =>
      rw [arraySetLength_shrink E d t N o (arrLength_of o n true hl ▸ hgt) (lengthWritable_of o n true hl),
        arrLength_of o n true hl]
      simp only [bind, M.bind]
      by_cases hc : Cok (shrinkDesc d N)
      · rw [odp_length_ok E o n N _ t hl rfl hc, getD_true_of_ne (shrinkDesc_w d N)]
        simp only [Bool.not_true, Bool.false_eq_true, if_false]
        exact wf_shrinkTail E N _ _ t (n - N) _ hc rfl ha (lenProp_write o N true)
          ((bound_write_length hb _).mono (by omega)) (by omega)
      · rw [odp_length_rej E o n true _ t hl hc]
        cases t <;> exact hwf

/-- arrayDefineOwnProperty keeps the invariant: for every key (canonical or not), every descriptor, either
    throw flag, and whether it succeeds, rejects or throws -/
theorem wf_arrayDefine (E : Env) (o : Obj) (k : Key) (d : Desc) (t : Bool) (h : WFArr o) :
    WFArr (stateOf (arrayDefineOwnProperty E k d t o)) := by
  unfold arrayDefineOwnProperty
  by_cases hk : k = .length
  · subst hk
    simp only [if_true]
    obtain ⟨ha, n, w, hl, hn, hb⟩ := h
    cases hv : d.v with
    | none => exact (lenIs_odp E o d t n ⟨ha, ⟨w, hl⟩, hb⟩ (.inl hv)).wf hn
    | some nv =>
      simp only
      cases hu : arrayUint32 E nv with
      | none => exact ⟨ha, n, w, hl, hn, hb⟩
      | some N => exact wf_setLength E o d t N ⟨ha, n, w, hl, hn, hb⟩ (arrayUint32_lt E nv N hu)
  · simp only [hk, if_false]
    have hidx : ∀ m, k = .idx m → m < 2^32 - 1 → stringToArrayIndex k = m := by
      rintro m rfl hm
      rw [stringToArrayIndex_idx, if_pos hm]
    by_cases hi : stringToArrayIndex k ≥ 0
    · simp only [hi, if_true]
      exact wf_defineIndex E o k d t _ h (stringToArrayIndex_lt k hi) hk
        (fun m hm1 hm2 => by rw [hidx m hm1 hm2, Int.toNat_natCast])
    · simp only [hi, if_false]
      exact wf_odp_other E o k d t h hk
        (fun m hm1 hm2 => absurd (by rw [hidx m hm1 hm2]; exact Int.natCast_nonneg m) hi)

/-- **arrayDefineOwnProperty = §15.4.5.1** on a well-formed array, for every key (`KeyOK` is the representation
    invariant only), every data descriptor with optional fields, either throw flag. -/
theorem arrayDefineOwnProperty_refines (E : Env) (k : Key) (d : Desc) (t : Bool) (o : Obj) (hwf : WFArr o)
    (hk : KeyOK k) :
    arrayDefineOwnProperty E k d t o = Spec.arrayDefineOwn E k d t o :=
  congrFun (arrayDefine_eq E k d t hk) o

/-- hence §15.4.5.1 itself keeps the length invariant (transfer through the refinement) -/
theorem wf_specArrayDefine (E : Env) (k : Key) (d : Desc) (t : Bool) (o : Obj) (hwf : WFArr o)
    (hk : KeyOK k) :
    WFArr (stateOf (Spec.arrayDefineOwn E k d t o)) := by
  rw [← arrayDefineOwnProperty_refines E k d t o hwf hk]
  exact wf_arrayDefine E o k d t hwf

theorem wf_defineOwn (E : Env) (o : Obj) (k : Key) (d : Desc) (t : Bool) (h : WFArr o) :
    WFArr (stateOf (defineOwnProperty E k d t o)) := by
  simp only [defineOwnProperty, h.arr, if_true]
  exact wf_arrayDefine E o k d t h

theorem wf_put (E : Env) (o : Obj) (k : Key) (v : Val) (t : Bool) (h : WFArr o) :
    WFArr (stateOf (objectPut E k v t o)) := by
  unfold objectPut
  cases hc : canPutDetails o k with
  | mk b p =>
    cases b with
    | false => cases t <;> exact h
    | true => cases p <;> (simp only [stateOf_bind_pure]; exact wf_defineOwn E o k _ t h)

/-- **objectPut = §8.12.5 [[Put]]** (with §15.4.5.1 underneath) on a well-formed array, for every key in `KeyOK` -/
theorem objectPut_refines (E : Env) (k : Key) (v : Val) (t : Bool) (o : Obj) (hwf : WFArr o) (hk : KeyOK k) :
    objectPut E k v t o = Spec.put E k v t o :=
  congrFun (objectPut_eq E k v t hk) o

theorem wf_run (E : Env) (op : HOp) (o : Obj) (h : WFArr o) : WFArr (op.run E o) := by
  cases op with
  | define k d t => exact wf_defineOwn E o k d t h
  | put k v t => exact wf_put E o k v t h
  | delete k t => exact wf_delete o k t h

/-- **C08.length_invariant** (model): after every history of defineOwnProperty / put / delete / length writes on
    an array, `length` is still a uint32, non-enumerable, non-configurable data property and is greater than
    every present array index. -/
theorem length_invariant (E : Env) (ops : List HOp) (o : Obj) (h : WFArr o) : WFArr (runHist E ops o) := by
  induction ops generalizing o with
  | nil => exact h
  | cons op ops ih => exact ih _ (wf_run E op o h)

theorem step_refines (E : Env) (op : HOp) (o : Obj) (hwf : WFArr o) (hok : StepOK op) :
    op.run E o = op.specRun E o :=
  congrFun (step_eq E op hok) o

/-- **history_refines**: every finite history of [[DefineOwnProperty]] / [[Put]] / [[Delete]] on an array (any
    descriptor, any key) leaves exactly the object that ES5 prescribes — and that object satisfies the length
    invariant. -/
theorem history_refines (E : Env) (ops : List HOp) (o : Obj) (hwf : WFArr o) (hok : HistOK ops) :
    runHist E ops o = specRunHist E ops o ∧ WFArr (specRunHist E ops o) := by
  -- the two histories agree on every object; the invariant is the model's (`length_invariant`), carried over
  have h : ∀ o, runHist E ops o = specRunHist E ops o := by
    induction ops with
    | nil => intro _; rfl
    | cons op ops ih =>
      intro o
      simp only [runHist, specRunHist, ← step_eq E op (hok op (List.mem_cons_self ..))]
      exact ih (fun x hx => hok x (List.mem_cons_of_mem _ hx)) _
  exact ⟨h o, h o ▸ length_invariant E ops o hwf⟩

end OttoVerif.C08.Thm
