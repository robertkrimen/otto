/-
  C08/Monad: the result monad `M`. Programs are normalised with the monad laws and compared step by step with
  `M_bind_congr`; `stateOf_bind` sequences facts about the state a program leaves, whether it returns or throws.
-/
import OttoVerif.C08.Model
namespace OttoVerif.C08.Thm
open OttoVerif.C08 OttoVerif.F64 OttoVerif.GoStd

def stateOf {σ α : Type} : Res σ α → σ
  | .ok _ s => s
  | .err _ s => s

theorem M_bind_assoc {σ α β γ : Type} (m : M σ α) (f : α → M σ β) (g : β → M σ γ) :
    (m >>= f) >>= g = m >>= fun a => f a >>= g := by
  funext s; simp only [bind, M.bind]; cases m s <;> rfl

theorem M_pure_bind {σ α β : Type} (a : α) (f : α → M σ β) : (pure a : M σ α) >>= f = f a := rfl

theorem M_ite_bind {σ α β : Type} (c : Prop) [Decidable c] (x y : M σ α) (f : α → M σ β) :
    (if c then x else y) >>= f = if c then x >>= f else y >>= f := by split <;> rfl

theorem M_bind_congr {σ α β : Type} (m : M σ α) (f g : α → M σ β) (s : σ)
    (h : ∀ a s', m s = .ok a s' → f a s' = g a s') : (m >>= f) s = (m >>= g) s := by
  simp only [bind, M.bind]
  cases hm : m s with
  | err e s' => rfl
  | ok a s' => exact h a s' hm

/-- `P` is what is known of the state `m` leaves, whether it returns or throws; if it throws that state is final -/
theorem stateOf_bind {σ α β : Type} (P Q : σ → Prop) (m : M σ α) (f : α → M σ β) (s : σ) (hm : P (stateOf (m s)))
    (herr : ∀ s', P s' → Q s') (hf : ∀ a s', P s' → Q (stateOf (f a s'))) : Q (stateOf ((m >>= f) s)) := by
  simp only [bind, M.bind]
  cases hr : m s with
  | err e s' => rw [hr] at hm; exact herr s' hm
  | ok a s' => rw [hr] at hm; exact hf a s' hm

theorem stateOf_bind_pure {σ α β : Type} (m : M σ α) (x : β) (s : σ) :
    stateOf ((do let _ ← m; pure x : M σ β) s) = stateOf (m s) := by
  simp only [bind, M.bind]
  cases m s <;> rfl

end OttoVerif.C08.Thm
