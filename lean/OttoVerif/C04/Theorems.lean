/-
  C04/Theorems — the ledger for property C04.  Every `theorem` here is audited.
-/
import OttoVerif.C04.Spec
import OttoVerif.C04.EarlySpec
import OttoVerif.C04.Reserved
import OttoVerif.C04.Positions
import OttoVerif.C03.Theorems
namespace OttoVerif.C04.Thm
open OttoVerif.C04 OttoVerif.C04.Spec

theorem enters_append (xs ys : List Ev) : enters (xs ++ ys) = enters xs ++ enters ys := by
  induction xs with
  | nil => rfl
  | cons x xs ih => cases x <;> simp [enters, ih]

/-- the two readings of an event list that the property speaks of, in terms of the nodes handed to the visitor -/
theorem enters_readings (es : List Ev) :
    nonNilEnters es = (enters es).filterMap id ∧ nilEnters es = (enters es).count none := by
  induction es with
  | nil => exact ⟨rfl, rfl⟩
  | cons x xs ih =>
    cases x with
    | enter k => cases k <;> simp [nonNilEnters, nilEnters, enters, ih]
    | exit k => simp [nonNilEnters, nilEnters, enters, ih]

theorem readings_some (es : List Ev) (l : List Kind) (h : enters es = l.map some) : nonNilEnters es = l ∧ nilEnters es = 0 := by
  rw [(enters_readings es).1, (enters_readings es).2, h, List.filterMap_map]
  exact ⟨List.filterMap_some, List.count_eq_zero.2 (by simp)⟩

mutual
/-- `ast.Walk` hands the visitor exactly the non-nil nodes of the tree, each once, in depth-first pre-order, and nothing
    else — for EVERY tree shape, typed-nil pointer fields included. -/
theorem walk_enters : ∀ t : T, enters (walk t) = expectedEnters t
  | .absent => rfl
  | .tnil => rfl
  | .node k a b l kids => by
    simp only [walk, enters, enters_append, walkList_enters kids]
    simp [expectedEnters, nodes]
theorem walkList_enters : ∀ ts : TS, enters (walkList ts) = (nodesList ts).map some
  | .nil => rfl
  | .cons t ts => by
    simp only [walkList, nodesList, enters_append, walk_enters t, walkList_enters ts, expectedEnters, List.map_append]
end

/-- `ast.Walk` enters every non-nil node exactly once, in depth-first pre-order — for EVERY tree shape. -/
theorem walk_once : ∀ t : T, nonNilEnters (walk t) = nodes t := fun t =>
  (readings_some _ _ (walk_enters t)).1
theorem walkList_once : ∀ ts : TS, nonNilEnters (walkList ts) = nodesList ts := fun ts =>
  (readings_some _ _ (walkList_enters ts)).1

/-- The visitor is NEVER handed a nil node — for every tree shape, typed-nil pointer fields included. -/
theorem walk_never_nil : ∀ t : T, nilEnters (walk t) = 0 := fun t =>
  (readings_some _ _ (walk_enters t)).2
theorem walkList_never_nil : ∀ ts : TS, nilEnters (walkList ts) = 0 := fun ts =>
  (readings_some _ _ (walkList_enters ts)).2

mutual
/-- Enter/Exit events are properly bracketed (continuation form: walking `t` leaves the stack as it found it). -/
theorem walk_balanced : ∀ (t : T) (rest : List Ev) (st : List (Option Kind)),
    balanced (walk t ++ rest) st = balanced rest st
  | .absent, _, _ => rfl
  | .tnil, _, _ => rfl
  | .node k a b l kids, rest, st => by
    simp only [walk, List.cons_append, List.append_assoc, balanced]
    rw [walkList_balanced kids]
    simp [balanced]
theorem walkList_balanced : ∀ (ts : TS) (rest : List Ev) (st : List (Option Kind)),
    balanced (walkList ts ++ rest) st = balanced rest st
  | .nil, _, _ => rfl
  | .cons t ts, rest, st => by
    simp only [walkList, List.append_assoc]
    rw [walk_balanced t, walkList_balanced ts]
end

theorem walk_balanced_top (t : T) : balanced (walk t) [] = true := by
  have := walk_balanced t [] []
  simpa [balanced] using this

/-- the real trees of `break;` (typed-nil Label), `switch(x){case 1:}` (a clause without statements) and the empty program:
    no nil is entered, the spans are defined -/
example : nilEnters (walk (.node .BranchStatement 1 0 5 (.cons .tnil .nil))) = 0 := by decide
example : idx1 (.node .CaseStatement 11 0 0 (.cons (.node .NumberLiteral 16 0 1 .nil) .nil)) = some 17 := by decide
example : idx0 (.node .Program 1 0 0 .nil) = some 1 ∧ idx1 (.node .Program 1 0 0 .nil) = some 1 := by decide

mutual
/-- SPANS NESTED (transitive form): if every parent/child pair is nested (`nestedAll`), then EVERY descendant's span lies
    within the span of the node — by induction over all trees. -/
theorem spans_within : ∀ (t : T) (p0 p1 : Int), nestedAll t = true → idx0 t = some p0 → idx1 t = some p1 →
    ∀ s ∈ spans t, p0 ≤ s.1 ∧ s.2 ≤ p1 ∧ s.1 ≤ s.2
  | .absent, _, _, _, _, _ | .tnil, _, _, _, _, _ => fun _ hs => (List.not_mem_nil hs).elim
  | .node k a b l kids, p0, p1, hn, h0, h1 => by
    intro s hs
    simp only [nestedAll, h0, h1, Bool.and_eq_true, decide_eq_true_eq] at hn
    simp only [spans, h0, h1, List.mem_append, List.mem_singleton] at hs
    rcases hs with hs | hs
    · subst hs; exact ⟨Int.le_refl _, Int.le_refl _, hn.1⟩
    · exact spansL_within kids p0 p1 hn.2 s hs
theorem spansL_within : ∀ (ts : TS) (p0 p1 : Int), kidsWithin p0 p1 ts = true →
    ∀ s ∈ spansL ts, p0 ≤ s.1 ∧ s.2 ≤ p1 ∧ s.1 ≤ s.2
  | .nil, _, _, _ => fun _ hs => (List.not_mem_nil hs).elim
  | .cons .absent ts, p0, p1, h | .cons .tnil ts, p0, p1, h => spansL_within ts p0 p1 h
  | .cons (.node k a b l kids) ts, p0, p1, h => by
    intro s hs
    simp only [kidsWithin, Bool.and_eq_true] at h
    obtain ⟨⟨hw, hn⟩, hr⟩ := h
    simp only [spansL, List.mem_append] at hs
    rcases hs with hs | hs
    · split at hw
      · rename_i c0 c1 h0 h1
        have := spans_within _ c0 c1 hn h0 h1 s hs
        have := of_decide_eq_true hw
        omega
      · exact absurd hw nofun
    · exact spansL_within ts p0 p1 hr s hs
end

/-- … hence if the root span lies inside the file, every node's span does -/
theorem spans_in_file (t : T) (p0 p1 len : Int) (hn : nestedAll t = true) (h0 : idx0 t = some p0) (h1 : idx1 t = some p1)
    (hlo : 1 ≤ p0) (hhi : p1 ≤ len + 1) : ∀ s ∈ spans t, 1 ≤ s.1 ∧ s.1 ≤ s.2 ∧ s.2 ≤ len + 1 := by
  intro s hs
  have := spans_within t p0 p1 hn h0 h1 s hs
  omega

theorem chain_bounds : ∀ (r : List (Int × Int)) (x y : Int), x ≤ y → chainFrom y r = true →
    y ≤ lastSnd y r ∧ ∀ s ∈ r, x ≤ s.1 ∧ s.2 ≤ lastSnd y r
  | [], x, y, _, _ => ⟨Int.le_refl _, by simp⟩
  | (x', y') :: r, x, y, hxy, hc => by
    simp only [chainFrom, Bool.and_eq_true, decide_eq_true_eq] at hc
    have ih := chain_bounds r x' y' hc.1.2 hc.2
    simp only [lastSnd]
    refine ⟨by omega, fun s hs => ?_⟩
    simp only [List.mem_cons] at hs
    rcases hs with hs | hs
    · subst hs; simp only; omega
    · have := ih.2 s hs; omega

theorem kidSpans_cons {t : T} {ts : TS} {rs : List (Int × Int)} (h : kidSpans (.cons t ts) = some rs) :
    ∃ a b r, idx0 t = some a ∧ idx1 t = some b ∧ kidSpans ts = some r ∧ rs = (a, b) :: r := by
  simp only [kidSpans] at h
  split at h
  · rename_i a b r h0 h1 h2; exact ⟨a, b, r, h0, h1, h2, (Option.some.inj h).symm⟩
  · exact absurd h nofun

theorem idx1Last_kidSpans : ∀ (ts : TS) (t : T) (x y : Int) (r : List (Int × Int)),
    kidSpans (.cons t ts) = some ((x, y) :: r) → idx1Last (.cons t ts) = some (lastSnd y r)
  | .nil, t, x, y, r, h => by
    obtain ⟨a, b, r', _, h1, hk, heq⟩ := kidSpans_cons h
    obtain rfl : [] = r' := Option.some.inj hk
    cases heq
    exact h1
  | .cons u us, t, x, y, r, h => by
    obtain ⟨a, b, r', _, _, hk, heq⟩ := kidSpans_cons h
    obtain ⟨a', b', r'', _, _, _, rfl⟩ := kidSpans_cons hk
    cases heq
    exact idx1Last_kidSpans us u a' b' r'' hk

/-- SPANS NESTED (derived spans): for the node kinds whose span is computed from their children, if the children all have
    spans and stand in source order, then the node's span is exactly [first child's Idx0, last child's Idx1) and every
    child's span lies within it. -/
theorem derived_nested (k : Kind) (hk : isDerived k = true) (a b l : Int) (t : T) (ts : TS) (x y : Int) (r : List (Int × Int))
    (hks : kidSpans (.cons t ts) = some ((x, y) :: r)) (hxy : x ≤ y) (hc : chainFrom y r = true) :
    idx0 (.node k a b l (.cons t ts)) = some x ∧ idx1 (.node k a b l (.cons t ts)) = some (lastSnd y r) ∧
      ∀ s ∈ (x, y) :: r, x ≤ s.1 ∧ s.2 ≤ lastSnd y r := by
  have hl := idx1Last_kidSpans ts t x y r hks
  have h0 : idx0 t = some x := by
    obtain ⟨_, _, _, h0, _, _, heq⟩ := kidSpans_cons hks
    cases heq
    exact h0
  have cb := chain_bounds r x y hxy hc
  have hk : idx0 (.node k a b l (.cons t ts)) = idx0 t ∧ idx1 (.node k a b l (.cons t ts)) = idx1Last (.cons t ts) :=
    match k, hk with
    | .AssignExpression, _ | .BinaryExpression, _ | .ConditionalExpression, _ | .DotExpression, _ | .SequenceExpression, _
    | .ExpressionStatement, _ | .FunctionStatement, _ | .LabelledStatement, _ | .Program, _ => ⟨rfl, rfl⟩
  refine ⟨hk.1.trans h0, hk.2.trans hl, fun s hs => ?_⟩
  · simp only [List.mem_cons] at hs
    rcases hs with hs | hs
    · subst hs; exact ⟨Int.le_refl _, cb.1⟩
    · exact cb.2 s hs

theorem inv_empty : Inv {} [] := ⟨nofun, nofun⟩

theorem inv_drop {c : Ctx} {p : List Nat} (h : Inv c p) : Inv c [] := ⟨h.1, by simp⟩

theorem inv_loop {c : Ctx} {p : List Nat} (h : Inv c p) : Inv (c.loopBody p) [] := by
  refine ⟨fun l hl => ?_, by simp⟩
  simp only [Ctx.loopBody, List.mem_append] at hl ⊢
  rcases hl with hl | hl
  · exact ⟨h.2 l hl, trivial⟩
  · exact ⟨(h.1 l hl).1, trivial⟩

theorem inv_switch {c : Ctx} {p : List Nat} (h : Inv c p) : Inv c.switchBody [] := ⟨h.1, by simp⟩

theorem inv_fn (c : Ctx) : Inv c.fnBody [] := ⟨by simp [Ctx.fnBody], by simp⟩

theorem inv_push {c : Ctx} {p : List Nat} (h : Inv c p) (l : Nat) : Inv (c.push l) (l :: p) := by
  refine ⟨fun l' hl => ?_, fun l' hl => ?_⟩
  · simp only [Ctx.push] at hl ⊢
    exact ⟨List.mem_cons_of_mem _ (h.1 l' hl).1, (h.1 l' hl).2⟩
  · simp only [Ctx.push, List.mem_cons] at hl ⊢
    rcases hl with hl | hl
    · exact Or.inl hl
    · exact Or.inr (h.2 l' hl)

mutual
/-- EARLY ERRORS: otto's parse-time checks accept a statement tree exactly when ES5 §12.7–12.9, §12.12, §12.14 make it
    legal — for every tree and every context that can arise (invariant `Inv`).  No deviation region is left. -/
theorem early_eq : ∀ (s : S) (c : Ctx) (p : List Nat), Inv c p → accepts c p s = earlyOK c p s
  | .expr, _, _, _ => rfl
  | .brk none, _, _, _ => rfl
  | .brk (some _), _, _, _ => rfl
  | .cont none, _, _, _ => rfl
  | .cont (some l), c, p, hi => by
    simp only [accepts, earlyOK]
    cases hil : c.iterLabels.contains l
    · simp
    · have := hi.1 l (by simpa using hil)
      simp [this.1, this.2]
  | .ret, _, _, _ => rfl
  | .block b, c, p, hi => by
    simp only [accepts, earlyOK]; exact earlyL_eq b c (inv_drop hi)
  | .if1 t, c, p, hi => by
    simp only [accepts, earlyOK]; exact early_eq t c [] (inv_drop hi)
  | .if2 t e, c, p, hi => by
    simp only [accepts, earlyOK]; rw [early_eq t c [] (inv_drop hi), early_eq e c [] (inv_drop hi)]
  | .loop k body, c, p, hi => by
    simp only [accepts, earlyOK]; exact early_eq body _ [] (inv_loop hi)
  | .switch cl, c, p, hi => by
    simp only [accepts, earlyOK]; exact earlyL_eq cl _ (inv_switch hi)
  | .try_ b none none, c, p, hi => by
    simp only [accepts, earlyOK]; simp
  | .try_ b none (some y), c, p, hi => by
    simp only [accepts, earlyOK]; rw [earlyL_eq b c (inv_drop hi), earlyL_eq y c (inv_drop hi)]
  | .try_ b (some x) none, c, p, hi => by
    simp only [accepts, earlyOK]; rw [earlyL_eq b c (inv_drop hi), earlyL_eq x c (inv_drop hi)]
  | .try_ b (some x) (some y), c, p, hi => by
    simp only [accepts, earlyOK]
    rw [earlyL_eq b c (inv_drop hi), earlyL_eq x c (inv_drop hi), earlyL_eq y c (inv_drop hi)]
  | .with_ b, c, p, hi => by
    simp only [accepts, earlyOK]; exact early_eq b c [] (inv_drop hi)
  | .label l s, c, p, hi => by
    simp only [accepts, earlyOK]; rw [early_eq s _ _ (inv_push hi l)]
  | .fn body, c, p, hi => by
    simp only [accepts, earlyOK]; exact earlyL_eq body _ (inv_fn c)
theorem earlyL_eq : ∀ (sl : SL) (c : Ctx), Inv c [] → acceptsL c sl = earlyOKL c sl
  | .nil, _, _ => rfl
  | .cons s r, c, hi => by
    simp only [acceptsL, earlyOKL]; rw [early_eq s c [] hi, earlyL_eq r c hi]
end

/-- whatever the parser accepts satisfies the ES5 early-error rules, for a whole program (empty initial context) -/
theorem early_errors (prog : SL) (h : acceptsL {} prog = true) : earlyOKL {} prog = true := by
  rw [← earlyL_eq prog {} inv_empty]; exact h

/-- and conversely: nothing legal is rejected by these checks -/
theorem early_complete (prog : SL) (h : earlyOKL {} prog = true) : acceptsL {} prog = true := by
  rw [earlyL_eq prog {} inv_empty]; exact h

/-- `a: { while (1) { continue a; } }` is rejected (`a` labels no iteration statement), as is `a: switch (1) { case 1: continue a; }`;
    label sets: `a: b: for(;;) { continue a; continue b; }` is legal -/
example : acceptsL {} (.cons (.label 0 (.block (.cons (.loop .while_ (.block (.cons (.cont (some 0)) .nil))) .nil))) .nil) = false := by decide
example : acceptsL {} (.cons (.label 0 (.label 1 (.loop .for_ (.block (.cons (.cont (some 0)) (.cons (.cont (some 1)) .nil)))))) .nil) = true := by decide
example : acceptsL {} (.cons (.label 0 (.switch (.cons (.cont (some 0)) .nil))) .nil) = false := by decide

section
open OttoVerif.C04.Reserved
theorem lookup_eq_identifier : ∀ (t : List (String × Reserved.Kind)) (s : String),
    (∀ p ∈ t, p.1 = s → p.2 = .identifier) → lookup t s = .identifier
  | [], _, _ => rfl
  | (k, v) :: r, s, h => by
    unfold lookup
    split
    · rename_i hs; exact h (k, v) (List.mem_cons_self ..) hs.symm
    · exact lookup_eq_identifier r s fun p hp => h p (List.mem_cons_of_mem _ hp)

theorem lookup_ne_identifier : ∀ (a b : List (String × Reserved.Kind)) (s : String),
    s ∈ a.map Prod.fst → (∀ p ∈ a, p.2 ≠ .identifier) → lookup (a ++ b) s ≠ .identifier
  | (k, v) :: a, b, s, hs, h => by
    rw [List.cons_append]
    unfold lookup
    split
    · exact h (k, v) (List.mem_cons_self ..)
    · rename_i hne
      refine lookup_ne_identifier a b s ?_ fun p hp => h p (List.mem_cons_of_mem _ hp)
      rcases List.mem_cons.1 hs with rfl | hs
      · exact absurd rfl hne
      · exact hs

/-- the layout of `table`: first the reserved words, none of them IDENTIFIER, then the words reserved in strict mode only -/
theorem table_layout : (table.take 36).map Prod.fst = reservedWords ∧ (∀ p ∈ table.take 36, p.2 ≠ .identifier) ∧
    (∀ p ∈ table.drop 36, p.2 = .identifier) ∧ ∀ w ∈ reservedWords, 1 < w.length :=
  ⟨rfl, by decide, by decide, by decide +kernel⟩

/-- RESERVED WORDS: for EVERY decoded spelling, the scanner model produces the token IDENTIFIER exactly when the spelling is
    not an ES5 ReservedWord — so every identifier position rejects exactly the reserved words, however they are written
    (the decision is made on `decode spelling`, never on the raw text). -/
theorem reserved_by_decoded (name : String) : (tokenKind name = .identifier) ↔ isReserved name = false := by
  obtain ⟨hkeys, hA, hB, hlen⟩ := table_layout
  have hmem : isReserved name = true ↔ name ∈ reservedWords := List.contains_iff_mem
  by_cases h : name ∈ reservedWords
  · have : tokenKind name ≠ .identifier := by
      unfold tokenKind
      rw [if_pos (hlen name h), ← List.take_append_drop 36 table]
      exact lookup_ne_identifier _ _ name (hkeys ▸ h) hA
    simp [this, hmem.2 h]
  · have : tokenKind name = .identifier := by
      unfold tokenKind
      split
      · refine lookup_eq_identifier table name fun p hp hpn => ?_
        rw [← List.take_append_drop 36 table] at hp
        rcases List.mem_append.1 hp with hp | hp
        · exact absurd (hkeys ▸ hpn ▸ List.mem_map_of_mem hp) h
        · exact hB p hp
      · rfl
    simpa [this] using fun hr => h (hmem.1 hr)

/-- the same for escaped spellings: a reserved word never yields IDENTIFIER, whatever the spelling -/
theorem reserved_by_decoded_spelled (escaped : Bool) (name : String) :
    (tokenKindSpelled escaped name = .identifier) ↔ isReserved name = false := by
  unfold tokenKindSpelled
  by_cases h : tokenKind name = .identifier
  · simp [h, (reserved_by_decoded name).mp h]
  · have hr : ¬ isReserved name = false := fun hf => h ((reserved_by_decoded name).mpr hf)
    cases escaped <;> simp [h, hr]

/-- the escaped spellings of the seeded examples decode to reserved words -/
example : (decode "\\u0069f".toList).map String.ofList = some "if" ∧ (decode "v\\u0061r".toList).map String.ofList = some "var"
    ∧ isReserved "if" = true ∧ tokenKind "if" = .keyword "if" ∧ tokenKind "let" = .identifier := by decide +kernel
end

/-- the specification side's decision is sound by construction: a token string it accepts at a position of level `lvl`
    IS the unparse of a well-formed expression tree at that level (the witness is the tree the parser model returned) -/
theorem inLang_sound (lvl : Nat) (ai : Bool) (ts : List OttoVerif.C03.Tok) (h : Pos.inLang lvl ai ts = true) :
    ∃ t, OttoVerif.C03.Spec.wf t = true ∧ OttoVerif.C03.Spec.isExprHead t = true ∧
      Pos.eraseNl ts = OttoVerif.C03.Spec.pr lvl ai t ++ [Pos.eofTok] := by
  unfold Pos.inLang at h
  split at h
  · rename_i t r _
    simp only [Bool.and_eq_true, beq_iff_eq] at h
    exact ⟨t, h.1.1.2, h.1.2, h.2⟩
  · simp at h

/-- … and complete through C03's round trip: a token string on which the parser model fails for every amount of fuel is
    not the unparse of any well-formed expression (so "reject" is what the grammar says) -/
theorem reject_outside_grammar (ts : List OttoVerif.C03.Tok)
    (hrej : ∀ n, OttoVerif.C03.parseExpression n true ts = none) :
    ¬ ∃ e, OttoVerif.C03.Spec.wf e = true ∧ OttoVerif.C03.Spec.isExprHead e = true ∧
        ts = OttoVerif.C03.Spec.print e ++ [OttoVerif.C03.Thm.eofTok] := by
  rintro ⟨e, hw, he, rfl⟩
  obtain ⟨n0, h⟩ := OttoVerif.C03.Thm.parse_print e hw he
  have := h n0 (Nat.le_refl _)
  rw [hrej n0] at this
  exact absurd this (by simp)

/-- `b ? c , d : e` is rejected at an Expression position by model and specification (11.12: the operand between `?` and
    `:` is an AssignmentExpression), `b ? c : d , e` is accepted; `b , c` is two array elements but no property value -/
example :
    let i := fun (s : String) => ({ k := .id s } : OttoVerif.C03.Tok)
    let p := fun (x : OttoVerif.C03.P) => ({ k := .p x } : OttoVerif.C03.Tok)
    Pos.model "expr" [i "b", p .quest, i "c", p .comma, i "d", p .colon, i "e", Pos.eofTok] = some false
    ∧ Pos.spec "expr" [i "b", p .quest, i "c", p .comma, i "d", p .colon, i "e", Pos.eofTok] = some false
    ∧ Pos.model "expr" [i "b", p .quest, i "c", p .colon, i "d", p .comma, i "e", Pos.eofTok] = some true
    ∧ Pos.spec "expr" [i "b", p .quest, i "c", p .colon, i "d", p .comma, i "e", Pos.eofTok] = some true
    ∧ Pos.spec "elems" [i "b", p .comma, i "c", Pos.eofTok] = some true
    ∧ Pos.model "props" [i "b", p .comma, i "c", Pos.eofTok] = some false
    ∧ Pos.spec "props" [i "b", p .comma, i "c", Pos.eofTok] = some false := by decide +kernel

end OttoVerif.C04.Thm
