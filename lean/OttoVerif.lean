import OttoVerif.Base.F64
import OttoVerif.Base.Proto
import OttoVerif.Base.Str
import OttoVerif.Base.GoStd
import OttoVerif.Base.ParseNumber
import OttoVerif.Audit
import OttoVerif.C01.Theorems
import OttoVerif.C01.CallTheorems
import OttoVerif.C01.ForInTheorems
import OttoVerif.C01.FnTheorems
import OttoVerif.C01.Driver
import OttoVerif.C02.Theorems
import OttoVerif.C02.Driver
import OttoVerif.C03.Theorems
import OttoVerif.C03.Driver
import OttoVerif.C04.Theorems
import OttoVerif.C04.Driver
import OttoVerif.C05.Theorems
import OttoVerif.C05.Ops2Theorems
import OttoVerif.C05.StrKindTheorems
import OttoVerif.C05.UnresTheorems
import OttoVerif.C05.Driver
import OttoVerif.C06.Digits
import OttoVerif.C06.Layout
import OttoVerif.C06.Format
import OttoVerif.C06.Parse
import OttoVerif.C06.Theorems
import OttoVerif.C06.Driver
import OttoVerif.C07.Lemmas
import OttoVerif.C07.Object
import OttoVerif.C07.Heap
import OttoVerif.C07.Global
import OttoVerif.C07.Tables
import OttoVerif.C07.Theorems
import OttoVerif.C07.Driver
import OttoVerif.C08.Index
import OttoVerif.C08.Values
import OttoVerif.C08.Monad
import OttoVerif.C08.Define
import OttoVerif.C08.Invariant
import OttoVerif.C08.Methods
import OttoVerif.C08.Sort
import OttoVerif.C08.Theorems
import OttoVerif.C08.Driver
import OttoVerif.C09.Theorems
import OttoVerif.C09.CaseTheorems
import OttoVerif.C09.Driver
import OttoVerif.C10.Theorems
import OttoVerif.C10.Driver
import OttoVerif.C11.Stringify
import OttoVerif.C11.Parse
import OttoVerif.C11.Theorems
import OttoVerif.C11.Driver
import OttoVerif.C12.Theorems
import OttoVerif.C12.Driver
import OttoVerif.C13.Theorems
import OttoVerif.C13.Driver
import OttoVerif.C14.Theorems
import OttoVerif.C14.Driver
import OttoVerif.C15.Theorems
import OttoVerif.C15.Driver
import OttoVerif.C16.Convert
import OttoVerif.C16.Containers
import OttoVerif.C16.Theorems
import OttoVerif.C16.Driver
import OttoVerif.C17.Theorems
import OttoVerif.C17.Driver
import OttoVerif.C18.Theorems
import OttoVerif.C18.Driver
import OttoVerif.C19.Theorems
import OttoVerif.C19.Driver
import OttoVerif.C20.Theorems
import OttoVerif.C20.Driver
